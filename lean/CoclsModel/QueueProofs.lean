import CoclsModel.Queue
/-!
Invariant of the `queue<T>` model, for `Props/C09.lean`.  The induction is carried on `Full` (`Inv` plus the clauses about
the bounded backing stores and the rethrow log): `step_cases` is the one case analysis of `step`, `full_step` goes through
it, `run_induction` lifts a step property to runs.  `queue<void>` is the image of `queue<T>` under `abs` (`step_abs`,
`run_abs`), so its theorems are read off the `queue<T>` invariant.
-/
namespace Cocls.Q

def outItem : Out → Option Item
  | Out.val it => some it
  | _ => none

def excOf (e : Ev) : Option (Pop × Nat) :=
  match e.out with
  | Out.exc c => some (e.pop, c)
  | _ => none

/-- the items handed to pops, in hand-over (= lock) order -/
def vals (l : List Ev) : List Item := l.filterMap (fun e => outItem e.out)
def popIds (l : List Ev) : List Nat := l.map (·.pop.id)
def excs (l : List Ev) : List (Pop × Nat) := l.filterMap excOf

@[simp] theorem vals_nil : vals [] = [] := rfl
@[simp] theorem popIds_nil : popIds [] = [] := rfl
@[simp] theorem excs_nil : excs [] = [] := rfl
@[simp] theorem vals_append (a b : List Ev) : vals (a ++ b) = vals a ++ vals b := by simp [vals]
@[simp] theorem popIds_append (a b : List Ev) : popIds (a ++ b) = popIds a ++ popIds b := by simp [popIds]
@[simp] theorem excs_append (a b : List Ev) : excs (a ++ b) = excs a ++ excs b := by simp [excs]
@[simp] theorem vals_val (w it) : vals [⟨w, Out.val it⟩] = [it] := rfl
@[simp] theorem vals_exc (w c) : vals [⟨w, Out.exc c⟩] = [] := rfl
@[simp] theorem excs_val (w it) : excs [⟨w, Out.val it⟩] = [] := rfl
@[simp] theorem excs_exc (w c) : excs [⟨w, Out.exc c⟩] = [(w, c)] := rfl
@[simp] theorem popIds_single (w o) : popIds [⟨w, o⟩] = [w.id] := rfl
@[simp] theorem vals_cancel (w) : vals [⟨w, Out.canceled⟩] = [] := rfl
@[simp] theorem excs_cancel (w) : excs [⟨w, Out.canceled⟩] = [] := rfl

theorem vals_canceled (l : List Pop) : vals (l.map (fun w => ⟨w, Out.canceled⟩)) = [] := by
  simp [vals, List.filterMap_map, Function.comp_def, outItem]

theorem excs_canceled (l : List Pop) : excs (l.map (fun w => ⟨w, Out.canceled⟩)) = [] := by
  simp [excs, List.filterMap_map, Function.comp_def, excOf]

theorem popIds_canceled (l : List Pop) : popIds (l.map (fun w => ⟨w, Out.canceled⟩)) = l.map (·.id) := by
  simp [popIds]

/-- A call on a destroyed queue, `size`, `empty` and a call refused by a full backing store change nothing; the rest is
one of the five lock regions, a logged rethrow or an out-of-lock resolution. -/
theorem step_cases {P : State → Prop} {s : State} (op : Op) (h : P s)
    (push : ∀ p v, s.alive = true → (s.waiters.isEmpty && itemsFull s) = false → P (stepPush s p v).1)
    (pushthrow : s.alive = true → P (stepPushThrow s).1)
    (pop : ∀ c, s.alive = true → (s.items.isEmpty && waitersFull s) = false → P (stepPop s c).1)
    (rethrow : ∀ x xs, s.items = x :: xs → P { s with rethrown := s.rethrown ++ [x] })
    (upop : ∀ c, s.alive = true → P (stepUpop s c).1)
    (destroy : P (stepDestroy s).1)
    (deliver : ∀ k, P (stepDeliver s k).1) : P (step s op).1 := by
  have popC : ∀ c, s.alive = true → P (stepPopC s c).1 := fun c ha => by
    unfold stepPopC; split
    · exact h
    · exact pop c ha (Bool.eq_false_iff.mpr ‹_›)
  have live : s.alive = true → P (stepLive s op).1 := fun ha => by
    cases op with
    | push p v =>
      simp only [stepLive, stepPushC]; split
      · exact h
      · exact push p v ha (Bool.eq_false_iff.mpr ‹_›)
    | pushthrow =>
      simp only [stepLive, stepPushThrowC]; split
      · exact h
      · exact pushthrow ha
    | pop c => exact popC c ha
    | popthrow c =>
      simp only [stepLive, stepPopThrowC]; split
      · exact popC c ha
      · exact rethrow _ _ ‹_›
    | upop c => exact upop c ha
    | size => exact h
    | empty => exact h
    | destroy => exact destroy
    | deliver k => exact deliver k
  cases op with
  | deliver k => exact deliver k
  | _ =>
    simp only [step]
    split
    · exact live ‹_›
    · exact h

theorem run_induction {P : State → Prop} (hstep : ∀ s op, P s → P (step s op).1) (s : State) (ops : List Op) (h : P s) :
    P (run s ops) := List.foldlRecOn ops _ h fun s hs op _ => hstep s op hs

theorem cfg_step (s : State) (op : Op) : (step s op).1.cap = s.cap ∧ (step s op).1.wcap = s.wcap := by
  refine step_cases (P := fun t => t.cap = s.cap ∧ t.wcap = s.wcap) op ⟨rfl, rfl⟩ ?_ ?_ ?_ ?_ ?_ ⟨rfl, rfl⟩ ?_
  · intro p v _ _; unfold stepPush; split <;> exact ⟨rfl, rfl⟩
  · intro _; unfold stepPushThrow; split <;> exact ⟨rfl, rfl⟩
  · intro c _ _; unfold stepPop; split <;> exact ⟨rfl, rfl⟩
  · intro _ _ _; exact ⟨rfl, rfl⟩
  · intro c _; unfold stepUpop; split <;> exact ⟨rfl, rfl⟩
  · intro k; unfold stepDeliver; split <;> exact ⟨rfl, rfl⟩

theorem cfg_run (s : State) (ops : List Op) : (run s ops).cap = s.cap ∧ (run s ops).wcap = s.wcap :=
  run_induction (P := fun t => t.cap = s.cap ∧ t.wcap = s.wcap)
    (fun t op h => ⟨(cfg_step t op).1.trans h.1, (cfg_step t op).2.trans h.2⟩) s ops ⟨rfl, rfl⟩

theorem itemsFull_some {s : State} {n : Nat} (hn : s.cap = some n) : itemsFull s = decide (n ≤ s.items.length) := by
  unfold itemsFull; rw [hn]

theorem waitersFull_some {s : State} {n : Nat} (hn : s.wcap = some n) :
    waitersFull s = decide (n ≤ s.waiters.length) := by
  unfold waitersFull; rw [hn]

section account
variable {α : Type} [BEq α] {a b c : List α}

theorem count_append_left (h : ∀ e, a.count e + b.count e = c.count e) (es : List α) (e : α) :
    (a ++ es).count e + b.count e = (c ++ es).count e := by
  rw [List.count_append, List.count_append, ← h e]; omega

theorem count_append_right (h : ∀ e, a.count e + b.count e = c.count e) (es : List α) (e : α) :
    a.count e + (b ++ es).count e = (c ++ es).count e := by
  rw [List.count_append, List.count_append, ← h e]; omega

end account

theorem perm_eraseIdx_snoc {α} {l : List α} {k : Nat} {e : α} (h : l[k]? = some e) : l.Perm (l.eraseIdx k ++ [e]) := by
  induction l generalizing k with
  | nil => simp at h
  | cons x xs ih =>
    cases k with
    | zero => simp at h; subst h; exact List.perm_append_comm (l₁ := [x])
    | succ k => exact (ih (by simpa using h)).cons x

structure Inv (s : State) : Prop where
  never_both : s.waiters ≠ [] → s.items = []
  fifo : vals s.served ++ s.items = s.pushed
  push_ids : s.pushed.map (·.id) = List.range s.nextPush
  pops_fifo : popIds s.served ++ s.waiters.map (·.id) = List.range s.nextPop
  account : ∀ e, s.inflight.count e + s.completed.count e = s.served.count e
  cancel_dead : ∀ e ∈ s.served, e.out = Out.canceled → s.alive = false ∨ e.pop ∈ s.throws
  dead_no_waiters : s.alive = false → s.waiters = []
  no_ok : ∀ e ∈ s.served, e.out ≠ Out.ok
  exc_unblock : excs s.served = s.unblocks

theorem inv_initCfg (cap wcap : Option Nat) : Inv (initCfg cap wcap) := by
  refine ⟨?_, ?_, ?_, ?_, ?_, ?_, ?_, ?_, ?_⟩ <;> simp [initCfg]

theorem inv_init : Inv init := inv_initCfg none none

theorem perm_of_inv {s : State} (h : Inv s) : (s.inflight ++ s.completed).Perm s.served := by
  rw [List.perm_iff_count]
  intro e
  rw [List.count_append]
  exact h.account e

theorem mem_served_of_resolved {s : State} (h : Inv s) {e : Ev} (he : e ∈ s.inflight ++ s.completed) :
    e ∈ s.served := (perm_of_inv h).mem_iff.mp he

theorem nodup_pushed {s : State} (h : Inv s) : s.pushed.Nodup := by
  have : (s.pushed.map (·.id)).Nodup := by rw [h.push_ids]; exact List.nodup_range
  exact List.Pairwise.of_map (·.id) (fun a b hab heq => hab (by rw [heq])) this

theorem mem_pushed_of_mem_items {s : State} (h : Inv s) {x : Item} (hx : x ∈ s.items) : x ∈ s.pushed := by
  rw [← h.fifo]; exact List.mem_append_right _ hx

structure Full (s : State) : Prop extends Inv s where
  /-- the bounded backing stores are never over-filled (their `emplace` would have thrown) -/
  items_le : ∀ n, s.cap = some n → s.items.length ≤ n
  waiters_le : ∀ n, s.wcap = some n → s.waiters.length ≤ n
  rethrown_pushed : ∀ it ∈ s.rethrown, it ∈ s.pushed

theorem full_initCfg (cap wcap : Option Nat) : Full (initCfg cap wcap) :=
  { inv_initCfg cap wcap with
    items_le := fun n _ => Nat.zero_le n, waiters_le := fun n _ => Nat.zero_le n, rethrown_pushed := nofun }

theorem Full.tail {s : State} (h : Full s) {w ws} (hw : s.waiters = w :: ws) : ∀ n, s.wcap = some n → ws.length ≤ n :=
  fun n hn => by have := h.waiters_le n hn; rw [hw, List.length_cons] at this; omega

theorem full_push (s : State) (p v : Nat) (hc : (s.waiters.isEmpty && itemsFull s) = false) (h : Full s) :
    Full (stepPush s p v).1 := by
  have ids : (s.pushed ++ [(⟨s.nextPush, p, v⟩ : Item)]).map (·.id) = List.range (s.nextPush + 1) := by
    rw [List.map_append, h.push_ids, List.range_succ]; rfl
  have rp : ∀ it ∈ s.rethrown, it ∈ s.pushed ++ [(⟨s.nextPush, p, v⟩ : Item)] :=
    fun it hit => List.mem_append_left _ (h.rethrown_pushed it hit)
  unfold stepPush
  split
  next w ws hw =>
    have hi : s.items = [] := h.never_both (by simp [hw])
    exact { h with
      never_both := fun _ => hi
      fifo := by simpa [hi] using h.fifo
      push_ids := ids
      pops_fifo := by simpa [hw] using h.pops_fifo
      account := count_append_left h.account _
      cancel_dead := by simpa [or_imp, forall_and] using h.cancel_dead
      dead_no_waiters := fun hd => by simpa [hw] using h.dead_no_waiters hd
      no_ok := by simpa [or_imp, forall_and] using h.no_ok
      exc_unblock := by simpa using h.exc_unblock
      waiters_le := h.tail hw
      rethrown_pushed := rp }
  next hw =>
    exact { h with
      never_both := fun hne => absurd hw hne
      fifo := by rw [← List.append_assoc, h.fifo]
      push_ids := ids
      items_le := fun n (hn : s.cap = some n) => by
        rw [hw, itemsFull_some hn] at hc
        simp at hc ⊢; omega
      rethrown_pushed := rp }

theorem full_pushthrow (s : State) (h : Full s) : Full (stepPushThrow s).1 := by
  unfold stepPushThrow
  split
  next => exact h
  next w ws hw =>
    exact { h with
      never_both := fun _ => h.never_both (by simp [hw])
      fifo := by simpa using h.fifo
      pops_fifo := by simpa [hw] using h.pops_fifo
      account := count_append_left h.account _
      cancel_dead := by
        simpa [or_imp, forall_and] using fun e he hc => (h.cancel_dead e he hc).imp_right (Or.inl (b := e.pop = w))
      dead_no_waiters := fun hd => by simpa [hw] using h.dead_no_waiters hd
      no_ok := by simpa [or_imp, forall_and] using h.no_ok
      exc_unblock := by simpa using h.exc_unblock
      waiters_le := h.tail hw }

theorem full_upop (s : State) (c : Nat) (h : Full s) : Full (stepUpop s c).1 := by
  unfold stepUpop
  split
  next => exact h
  next w ws hw =>
    exact { h with
      never_both := fun _ => h.never_both (by simp [hw])
      fifo := by simpa using h.fifo
      pops_fifo := by simpa [hw] using h.pops_fifo
      account := count_append_left h.account _
      cancel_dead := by simpa [or_imp, forall_and] using h.cancel_dead
      dead_no_waiters := fun hd => by simpa [hw] using h.dead_no_waiters hd
      no_ok := by simpa [or_imp, forall_and] using h.no_ok
      exc_unblock := by simp [h.exc_unblock]
      waiters_le := h.tail hw }

theorem full_pop (s : State) (c : Nat) (ha : s.alive = true) (hc : (s.items.isEmpty && waitersFull s) = false) (h : Full s) :
    Full (stepPop s c).1 := by
  unfold stepPop
  split
  next hi =>
    exact { h with
      never_both := fun _ => hi
      pops_fifo := by rw [List.map_append, ← List.append_assoc, h.pops_fifo, List.range_succ]; rfl
      dead_no_waiters := fun hd => by simp [ha] at hd
      waiters_le := fun n (hn : s.wcap = some n) => by
        rw [hi, waitersFull_some hn] at hc
        simp at hc ⊢; omega }
  next x xs hi =>
    have hw : s.waiters = [] := Decidable.byContradiction fun hw => by simpa [hi] using h.never_both hw
    exact { h with
      never_both := fun hne => absurd hw hne
      fifo := by simpa [hi] using h.fifo
      pops_fifo := by simpa [hw, List.range_succ] using h.pops_fifo
      account := count_append_right h.account _
      cancel_dead := by simpa [or_imp, forall_and] using h.cancel_dead
      no_ok := by simpa [or_imp, forall_and] using h.no_ok
      exc_unblock := by simpa using h.exc_unblock
      items_le := fun n hn => by
        have := h.items_le n hn; rw [hi, List.length_cons] at this; exact Nat.le_of_succ_le this }

theorem full_destroy (s : State) (h : Full s) : Full (stepDestroy s).1 :=
  { h with
    never_both := fun hne => absurd rfl hne
    fifo := by simpa [stepDestroy, vals_canceled] using h.fifo
    pops_fifo := by simpa [stepDestroy, popIds_canceled] using h.pops_fifo
    account := count_append_right h.account _
    cancel_dead := fun _ _ _ => Or.inl rfl
    dead_no_waiters := fun _ => rfl
    no_ok := by simpa [stepDestroy, or_imp, forall_and] using h.no_ok
    exc_unblock := by simpa [stepDestroy, excs_canceled] using h.exc_unblock
    waiters_le := fun n _ => Nat.zero_le n }

theorem full_deliver (s : State) (k : Nat) (h : Full s) : Full (stepDeliver s k).1 := by
  unfold stepDeliver
  split
  next => exact h
  next e hk =>
    refine { h with account := fun a => ?_ }
    have := h.account a
    have := (perm_eraseIdx_snoc hk).count_eq a
    simp only [List.count_append] at *
    omega

theorem full_step (s : State) (op : Op) (h : Full s) : Full (step s op).1 :=
  step_cases op h (fun p v _ hc => full_push s p v hc h) (fun _ => full_pushthrow s h) (fun c ha hc => full_pop s c ha hc h)
    (fun _ _ hx => { h with rethrown_pushed := fun it hit =>
      (List.mem_append.mp hit).elim (h.rethrown_pushed it) fun hm =>
        (List.mem_singleton.mp hm).symm ▸ mem_pushed_of_mem_items h.toInv (hx ▸ List.mem_cons_self) })
    (fun c _ => full_upop s c h) (full_destroy s h) (fun k => full_deliver s k h)

/-- any configuration of the backing stores (`std_queue` / bounded such as `single_item_queue`) -/
def Reachable (s : State) : Prop := ∃ cap wcap ops, s = run (initCfg cap wcap) ops

theorem reachable_full {s : State} (h : Reachable s) : Full s := by
  obtain ⟨cap, wcap, ops, rfl⟩ := h
  exact run_induction full_step _ ops (full_initCfg cap wcap)

theorem reachable_inv {s : State} (h : Reachable s) : Inv s := (reachable_full h).toInv

end Cocls.Q

namespace Cocls.VQ
open Cocls.Q

/-- forget which item a pop received: `queue<void>` hands out anonymous counts -/
def forgetOut : Out → Out
  | Out.val _ => Out.ok
  | o => o
def forget (e : Ev) : Ev := ⟨e.pop, forgetOut e.out⟩
def forgetRes : Res → Res
  | Res.pop id (some o) => Res.pop id (some (forgetOut o))
  | r => r

def abs (s : Q.State) : VQ.State :=
  { wcap := s.wcap, sz := s.items.length, waiters := s.waiters, inflight := s.inflight.map forget, nextPop := s.nextPop,
    nPush := s.nextPush, alive := s.alive, served := s.served.map forget,
    completed := s.completed.map forget, unblocks := s.unblocks }

theorem init_abs : abs Q.init = VQ.init := rfl

theorem initCfg_abs (wcap : Option Nat) : abs (Q.initCfg none wcap) = VQ.initCfg wcap := rfl

theorem eraseIdx_map {α β} (f : α → β) (l : List α) (k : Nat) : (l.map f).eraseIdx k = (l.eraseIdx k).map f := by
  induction l generalizing k with
  | nil => rfl
  | cons x xs ih => cases k <;> simp [ih]

theorem push_abs (s : Q.State) (p v : Nat) :
    VQ.stepPush (abs s) = (abs (Q.stepPush s p v).1, forgetRes (Q.stepPush s p v).2) := by
  unfold VQ.stepPush Q.stepPush
  cases hw : s.waiters <;> simp [abs, hw, forgetRes, forget, forgetOut]

theorem pushthrow_abs (s : Q.State) :
    VQ.stepPushThrow (abs s) = (abs (Q.stepPushThrow s).1, forgetRes (Q.stepPushThrow s).2) := by
  unfold VQ.stepPushThrow Q.stepPushThrow
  cases hw : s.waiters <;> simp [abs, hw, forgetRes, forget, forgetOut]

theorem pop_abs (s : Q.State) (c : Nat) :
    VQ.stepPop (abs s) c = (abs (Q.stepPop s c).1, forgetRes (Q.stepPop s c).2) := by
  unfold VQ.stepPop Q.stepPop
  cases hi : s.items <;> simp [abs, hi, forgetRes, forget, forgetOut]

theorem upop_abs (s : Q.State) (c : Nat) :
    VQ.stepUpop (abs s) c = (abs (Q.stepUpop s c).1, forgetRes (Q.stepUpop s c).2) := by
  unfold VQ.stepUpop Q.stepUpop
  cases hw : s.waiters <;> simp [abs, hw, forgetRes, forget, forgetOut]

theorem destroy_abs (s : Q.State) :
    VQ.stepDestroy (abs s) = (abs (Q.stepDestroy s).1, forgetRes (Q.stepDestroy s).2) := by
  simp [VQ.stepDestroy, Q.stepDestroy, abs, forgetRes, forget, forgetOut, Function.comp_def]

theorem deliver_abs (s : Q.State) (k : Nat) :
    VQ.stepDeliver (abs s) k = (abs (Q.stepDeliver s k).1, forgetRes (Q.stepDeliver s k).2) := by
  unfold VQ.stepDeliver Q.stepDeliver
  cases hk : s.inflight[k]? <;> simp [abs, hk, forgetRes, eraseIdx_map]

theorem empty_abs (s : Q.State) : ((abs s).sz == 0) = s.items.isEmpty := by
  unfold abs; cases s.items <;> simp

theorem pushC_none (s : Q.State) (p v : Nat) (hc : s.cap = none) : Q.stepPushC s p v = Q.stepPush s p v := by
  simp [Q.stepPushC, Q.itemsFull, hc]

theorem pushThrowC_none (s : Q.State) (hc : s.cap = none) : Q.stepPushThrowC s = Q.stepPushThrow s := by
  simp [Q.stepPushThrowC, Q.itemsFull, hc]

theorem popC_abs (s : Q.State) (c : Nat) :
    VQ.stepPopC (abs s) c = (abs (Q.stepPopC s c).1, forgetRes (Q.stepPopC s c).2) := by
  unfold VQ.stepPopC Q.stepPopC
  rw [empty_abs s, show VQ.waitersFull (abs s) = Q.waitersFull s from rfl]
  split
  · rfl
  · exact pop_abs s c

theorem popThrowC_abs (s : Q.State) (c : Nat) :
    VQ.stepPopThrowC (abs s) c = (abs (Q.stepPopThrowC s c).1, forgetRes (Q.stepPopThrowC s c).2) := by
  have := popC_abs s c
  unfold VQ.stepPopThrowC Q.stepPopThrowC
  cases hi : s.items <;> simp_all [abs, forgetRes]

/-- `cap = none`: `single_item_queue<void>` does not exist -/
theorem stepLive_abs (s : Q.State) (op : Op) (hc : s.cap = none) :
    VQ.stepLive (abs s) op = (abs (Q.stepLive s op).1, forgetRes (Q.stepLive s op).2) := by
  cases op with
  | push p v => rw [Q.stepLive, pushC_none s p v hc]; exact push_abs s p v
  | pushthrow => rw [Q.stepLive, pushThrowC_none s hc]; exact pushthrow_abs s
  | pop c => exact popC_abs s c
  | popthrow c => exact popThrowC_abs s c
  | upop c => exact upop_abs s c
  | size => rfl
  | empty => simp only [VQ.stepLive, Q.stepLive, empty_abs, forgetRes]
  | destroy => exact destroy_abs s
  | deliver k => exact deliver_abs s k

theorem step_abs (s : Q.State) (op : Op) (hc : s.cap = none) :
    VQ.step (abs s) op = (abs (Q.step s op).1, forgetRes (Q.step s op).2) := by
  cases op with
  | deliver k => exact deliver_abs s k
  | _ =>
    simp only [VQ.step, Q.step, show (abs s).alive = s.alive from rfl]
    split
    · exact stepLive_abs s _ hc
    · rfl

theorem run_abs (s : Q.State) (ops : List Op) (hc : s.cap = none) : VQ.run (abs s) ops = abs (Q.run s ops) := by
  induction ops generalizing s with
  | nil => rfl
  | cons op ops ih =>
    simp only [VQ.run, Q.run, List.foldl_cons] at ih ⊢
    rw [step_abs s op hc]; exact ih _ ((Q.cfg_step s op).1.trans hc)

def Reachable (t : VQ.State) : Prop := ∃ wcap ops, t = VQ.run (VQ.initCfg wcap) ops

theorem run_init_abs (wcap : Option Nat) (ops : List Op) :
    VQ.run (VQ.initCfg wcap) ops = abs (Q.run (Q.initCfg none wcap) ops) := by
  rw [← initCfg_abs]; exact run_abs _ ops rfl

theorem reachable_abs {t : VQ.State} (h : Reachable t) : ∃ s, Q.Reachable s ∧ t = abs s := by
  obtain ⟨wcap, ops, rfl⟩ := h
  exact ⟨Q.run (Q.initCfg none wcap) ops, ⟨none, wcap, ops, rfl⟩, run_init_abs wcap ops⟩

theorem length_filter_ok (l : List Ev) (hno : ∀ e ∈ l, e.out ≠ Out.ok) :
    ((l.map forget).filter (fun e => e.out == Out.ok)).length = (vals l).length := by
  induction l with
  | nil => rfl
  | cons x xs ih =>
    have hx := hno x List.mem_cons_self
    have ih' := ih (fun e he => hno e (List.mem_cons_of_mem _ he))
    cases ho : x.out <;> simp_all [forget, forgetOut, vals, outItem]

end Cocls.VQ
