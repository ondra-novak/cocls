import CoclsModel.Clock
import CoclsModel.Mutex

/-
Happens-before machine for C03: the happens-before instrumentation of `Clock.lean` put UNDER the whole coroutine
mutex protocol of `mutex.h` (lock by `ready()` CAS, lock by subscribe-found-null + `build_queue` exchange, hand-over through
the owner-private `_queue`, `unlock` fast path CAS and slow path exchange, blocking waiters woken through their `flag`).

Architecture: a state is a pair (`St.m`, clocks).  `St.m : Mutex.State` is the state of the list-level micro-step model
`Mutex.lean` and it is advanced by `Mutex.agentStep` ITSELF (so "erasing the clocks gives a run of `Mutex.lean` on the same
schedule" holds by construction: `run_erase` in `MutexClockProofs.lean`; and through `MutexPtr.agentStep_sim` of the pointer-level
model as well).  The clock part is advanced by `instr`, which looks at the pre-state `s.m` exactly the way `Mutex.agentStep`
branches (same pc, same tests on `req`/`queue`/`flag`/flavour), and performs, in program order, every plain access and the one
synchronising operation of that micro-step:

  pc (Mutex.Pc)        plain accesses (checked by the FastTrack rule)                     synchronising operation
  top                  (co_await flavour, CAS failed: `set_handle` → W body[a])           `ready()` CAS: RMW `o.ready` on success, load `o.readyFail` on failure
  subInit              `sync_awaiter()` → W body[a]                                        —
  sub prev             `aw->_next = prev` → W next[a]                                      subscribe CAS: RMW `o.subOk` / load `o.subFail`
  build                —                                                                   `build_queue(self)` exchange: RMW `o.build`; detached nodes → `walk a`
  crit (critS)         the loop of a pending `build_queue` (`flush`), R+W data             —   (the critical section)
  afterCs (asg)        R `_queue`; empty: —; else the hand-over                            unlock CAS: RMW `o.unlockOk` / load `o.unlockFail`; or hand-over
  relBuild             —                                                                   `build_queue(doorman)` exchange: RMW `o.build`
  relHand              `flush`, then the hand-over                                         hand-over
  waitFlag / blocked   —                                                                   `flag.wait`: load `o.flagWait` of the stored `true` (a read of `false` acquires nothing)
  hand-over to b       R+W `_queue`, R+W next[b], R body[b] (`fn(first)`)                  co_await waiter: resume (see below); blocking waiter: `flag.store` `o.flagStore`
  `flush`              R `_queue` (the assertion); per detached node x: R+W next[x], W `_queue`

`build_queue`'s loop is the plain prefix of the caller's NEXT segment, as in `MutexPtr.lean` (`pend`/`flush`): at list level
`Mutex.agentStep` moves the detached nodes to `queue` together with the exchange; the accesses of the loop are performed by
`flush` when the owner runs next (`walk a` remembers which nodes).

Clocks.  `clk a` / `pacq a`: vector clock and pending-acquire clock of contender `a` (`Clock.VC`, `relVc`, `acqVc`, `tickIf`).
`rs`: the release-sequence clock of the modification-order-latest message of `_requests` (what an acquiring reader obtains).
Every operation on `_requests` outside assertions is an RMW or a failing strong/weak CAS (`c03_rmw_shapes`); an RMW reads the
latest message and — whatever its order and thread — continues every release sequence (`rs := relVc ord (…) ⊔ rs`); a failing
CAS is modelled as reading the latest message too (as `Mutex.lean` does for the value; since the main theorem asks nothing of the
failure orders this is the choice that makes the *necessity* witnesses strongest).  No plain store ever cuts the sequence, so
the message history of `Clock.lean` collapses to its last entry.  `fvc b`: the clock carried by the `true` stored into the
blocking waiter `b`'s `sync_awaiter::flag` (meaningful while `m.flag b`).  `pacq` is maintained but never consulted: there is
no acquire fence in the mutex protocol.

Non-atomic locations with FastTrack metadata (`Meta`: last-write epoch + read epochs since) and the sticky `raced`:
`data` (the protected datum, read and written in every critical section), `queue` (the member `_queue`), and per request node
(= per contender: the awaiter of `a`'s current request; reusing one location per contender over all its rounds is the
co_await case and is conservative for `sync_awaiter`s at different addresses) `next a` (`_next`) and `body a` (handle / resume fn).

Who runs a resumed coroutine.  `resume`: the continuation of a `co_await` waiter `b` runs on the OS thread of the releasing
agent `a` (`fn(first)` → `awt->resume()`): `clk b := clk b ⊔ clk a` (everything `a`'s thread did is sequenced before it; `b`'s own
earlier steps precede it because `a` read `body[b]`, an access the machine has just checked against `b`'s writes), then `a`
starts a new epoch and the two go on as SEPARATE clock threads.  That is the weaker assumption: which coroutine shares an OS
thread with which other one later on (inline resume, coroutine-mode queue, thread pool) is the executor's business (`threadStep`);
forgetting it only removes happens-before edges, so the machine reports at least the races of every executor.  A blocking waiter
keeps its own thread and learns of the hand-over only through `flag` (`o.flagStore` / `o.flagWait`).

NOT modelled: the ownership-object layer and the executor glue of `Mutex.lean` (they are carried along inside `St.m` but the
instrumentation ignores them; configurations are restricted to the three flavours try_lock / co_await / blocking lock, released
by `release()`), callback awaiters, weak-CAS spurious failures, the relaxed load inside `unlock`'s entry assertion, `notify_all`.
-/

namespace Cocls.MutexClock
open Cocls.Clock (VC upd relVc acqVc tickIf)
open Cocls.Mutex (Elem Seen Pc nodesOf seenOf)

/-! ### configurations -/

inductive Fl where
  | tryLock    -- `try_lock()`
  | coAwait    -- `co_await lock()`
  | blocking   -- `lock().wait()` (a `sync_awaiter` on the caller's stack)
  deriving DecidableEq, Repr, Inhabited

def Fl.toMutex : Fl → Mutex.Flavour
  | Fl.tryLock => Mutex.Flavour.try_
  | Fl.coAwait => Mutex.Flavour.co
  | Fl.blocking => Mutex.Flavour.lock

/-- `n` contenders; contender `a` runs the rounds `rounds a` (lock with the given flavour, critical section, unlock) -/
structure Cfg where
  n : Nat
  rounds : Nat → List Fl

def Cfg.toMutex (c : Cfg) : Mutex.Cfg :=
  { n := c.n, kind := fun _ => Mutex.AKind.coro,
    rounds := fun a => (c.rounds a).map (fun f => { fl := f.toMutex, rel := Mutex.Rel.x }) }

/-- the orders written in the source at the synchronising operations of the mutex protocol -/
structure MutexOrders where
  ready : Order        -- `ready()` CAS, success
  readyFail : Order    -- … failure
  subOk : Order        -- `subscribe` CAS, success
  subFail : Order      -- … failure
  build : Order        -- `build_queue` exchange
  unlockOk : Order     -- `unlock` CAS, success
  unlockFail : Order   -- … failure
  flagStore : Order    -- `sync_awaiter::wakeup` store
  flagWait : Order     -- `flag.wait(false)`
  deriving DecidableEq, Repr, Inhabited

/-! ### state -/

/-- FastTrack metadata of one non-atomic location -/
structure Meta where
  wr : Nat × Nat := (0, 0)
  rd : List (Nat × Nat) := []

def Meta.okR (m : Meta) (c : VC) : Bool := decide (m.wr.2 ≤ c m.wr.1)
def Meta.okW (m : Meta) (c : VC) : Bool := decide (m.wr.2 ≤ c m.wr.1) && m.rd.all (fun e => decide (e.2 ≤ c e.1))
def Meta.read (m : Meta) (t : Nat) (c : VC) : Meta := { m with rd := (t, c t) :: m.rd }
def Meta.write (t : Nat) (c : VC) : Meta := ⟨(t, c t), []⟩

structure St where
  m : Mutex.State
  clk : Nat → VC
  pacq : Nat → VC
  rs : VC
  fvc : Nat → VC
  data : Meta
  queue : Meta
  next : Nat → Meta
  body : Nat → Meta
  walk : Nat → Option (List Nat)
  raced : Bool

def St.init (c : Cfg) : St :=
  { m := Mutex.init c.toMutex, clk := VC.init, pacq := fun _ => VC.bot, rs := VC.bot, fvc := fun _ => VC.bot,
    data := {}, queue := {}, next := fun _ => {}, body := fun _ => {}, walk := fun _ => none, raced := false }

/-! ### atomic primitives -/

/-- successful CAS / exchange on `_requests` by `a` -/
def rmw (ord : Order) (s : St) (a : Nat) : St :=
  { s with
    clk := upd s.clk a (tickIf ord (acqVc ord (s.clk a) s.rs) a)
    pacq := upd s.pacq a (VC.join (s.pacq a) s.rs)
    rs := VC.join (relVc ord (acqVc ord (s.clk a) s.rs)) s.rs }

/-- failing CAS on `_requests` by `a`: a load with the failure order -/
def casFail (ord : Order) (s : St) (a : Nat) : St :=
  { s with
    clk := upd s.clk a (acqVc ord (s.clk a) s.rs)
    pacq := upd s.pacq a (VC.join (s.pacq a) s.rs) }

/-- `flag.store(true)` of waiter `b`'s `sync_awaiter` by `a` (a store heads a new release sequence) -/
def flagStore (ord : Order) (s : St) (a b : Nat) : St :=
  { s with
    fvc := upd s.fvc b (relVc ord (s.clk a))
    clk := upd s.clk a (tickIf ord (s.clk a) a) }

/-- `flag.wait(false)` of `a` returning: a load that read the stored `true` -/
def flagWait (ord : Order) (s : St) (a : Nat) : St :=
  { s with
    clk := upd s.clk a (acqVc ord (s.clk a) (s.fvc a))
    pacq := upd s.pacq a (VC.join (s.pacq a) (s.fvc a)) }

/-- `a` resumes the suspended coroutine `b` on its own thread: `b` continues with `a`'s clock, `a` starts a new epoch -/
def resume (s : St) (a b : Nat) : St :=
  { s with clk := upd (upd s.clk b (VC.join (s.clk b) (s.clk a))) a (VC.tick (s.clk a) a) }

/-! ### plain accesses -/

def wrData (s : St) (a : Nat) : St :=
  { s with data := Meta.write a (s.clk a), raced := s.raced || !s.data.okW (s.clk a) }
def rdQueue (s : St) (a : Nat) : St :=
  { s with queue := s.queue.read a (s.clk a), raced := s.raced || !s.queue.okR (s.clk a) }
def wrQueue (s : St) (a : Nat) : St :=
  { s with queue := Meta.write a (s.clk a), raced := s.raced || !s.queue.okW (s.clk a) }
def wrNext (s : St) (a x : Nat) : St :=
  { s with next := upd s.next x (Meta.write a (s.clk a)), raced := s.raced || !(s.next x).okW (s.clk a) }
def wrBody (s : St) (a x : Nat) : St :=
  { s with body := upd s.body x (Meta.write a (s.clk a)), raced := s.raced || !(s.body x).okW (s.clk a) }
def rdBody (s : St) (a x : Nat) : St :=
  { s with body := upd s.body x ((s.body x).read a (s.clk a)), raced := s.raced || !(s.body x).okR (s.clk a) }

/-- one iteration of `build_queue`'s loop on the detached node `x`: `req = x->_next; x->_next = _queue; _queue = x` -/
def walkNode (a : Nat) (s : St) (x : Nat) : St := wrQueue (wrNext s a x) a

/-- the part of `build_queue` after the exchange: the assertion on `_queue`, then the loop over the detached nodes -/
def flush (s : St) (a : Nat) : St :=
  match s.walk a with
  | none => s
  | some l => l.foldl (walkNode a) (rdQueue { s with walk := upd s.walk a none } a)

/-! ### instrumentation, one definition per pc -/

/-- `ready()`; a co_await contender whose CAS failed goes on to `await_suspend`: `set_handle` -/
def iTop (o : MutexOrders) (c : Mutex.Cfg) (s : St) (a : Nat) : St :=
  match Mutex.curRound c s.m a with
  | none => s
  | some r =>
    match s.m.req with
    | [] => rmw o.ready s a
    | _ :: _ =>
      match r.fl with
      | Mutex.Flavour.co => wrBody (casFail o.readyFail s a) a a
      | _ => casFail o.readyFail s a

/-- the `sync_awaiter` of a blocking lock is constructed -/
def iSubInit (s : St) (a : Nat) : St := wrBody s a a

/-- `aw->_next = prev; CAS(prev, aw)` -/
def iSub (o : MutexOrders) (s : St) (a : Nat) (prev : Seen) : St :=
  if seenOf s.m.req = prev then rmw o.subOk (wrNext s a a) a else casFail o.subFail (wrNext s a a) a

/-- `build_queue(self)`: the exchange; everything above the own node is detached -/
def iBuild (o : MutexOrders) (s : St) (a : Nat) : St :=
  { rmw o.build s a with walk := upd s.walk a (some ((nodesOf s.m.req).filter (· ≠ a))) }

/-- `flag.wait(false)`: returns once the stored `true` is read -/
def iWait (o : MutexOrders) (s : St) (a : Nat) : St :=
  if s.m.flag a then flagWait o.flagWait s a else s

/-- the critical section (after the loop of a `build_queue(self)` that is still pending) -/
def iCrit (s : St) (a : Nat) : St := wrData (flush s a) a

/-- `first = _queue; _queue = _queue->_next; first->_next = nullptr; fn(first)` -/
def iHand (o : MutexOrders) (c : Mutex.Cfg) (s : St) (a : Nat) : St :=
  match s.m.queue with
  | [] => s
  | b :: _ =>
    match Mutex.flOf c s.m b with
    | some Mutex.Flavour.co => resume (rdBody (wrNext (wrQueue s a) a b) a b) a b
    | _ => flagStore o.flagStore (rdBody (wrNext (wrQueue s a) a b) a b) a b

/-- `unlock`: `if (!_queue) { CAS doorman → nullptr … }`, else the hand-over (the ownership object is armed here: `Mutex.Inv.heldA`) -/
def iUnlock (o : MutexOrders) (c : Mutex.Cfg) (s : St) (a : Nat) : St :=
  match s.m.queue with
  | [] => if s.m.req = [Elem.door] then rmw o.unlockOk (rdQueue s a) a else casFail o.unlockFail (rdQueue s a) a
  | _ :: _ => iHand o c (rdQueue s a) a

/-- `build_queue(doorman)`: the exchange -/
def iRelBuild (o : MutexOrders) (s : St) (a : Nat) : St :=
  { rmw o.build s a with walk := upd s.walk a (some (nodesOf s.m.req)) }

/-- the loop of `build_queue(doorman)`, then the hand-over -/
def iRelHand (o : MutexOrders) (c : Mutex.Cfg) (s : St) (a : Nat) : St := iHand o c (flush s a) a

def instr (o : MutexOrders) (c : Mutex.Cfg) (s : St) (a : Nat) : St :=
  match s.m.pc a with
  | Pc.top => iTop o c s a
  | Pc.subInit => iSubInit s a
  | Pc.sub prev => iSub o s a prev
  | Pc.build => iBuild o s a
  | Pc.waitFlag => iWait o s a
  | Pc.blocked => iWait o s a
  | Pc.crit => iCrit s a
  | Pc.critS => iCrit s a          -- (callback awaiters only: not reachable with our configurations; mirrors `Mutex.agentStep`)
  | Pc.afterCs => iUnlock o c s a
  | Pc.asg => iUnlock o c s a      -- (hand-over-hand release only: not reachable with our configurations)
  | Pc.relBuild => iRelBuild o s a
  | Pc.relHand => iRelHand o c s a
  | _ => s

/-- the code of contender `a` may run now (`Mutex.canRun`): a parked coroutine runs again only after a hand-over, a
thread blocked in `flag.wait` only once its flag is set, a finished contender has no code left -/
def runnable (m : Mutex.State) (a : Nat) : Bool :=
  match m.pc a with
  | Pc.parked | Pc.done => false
  | Pc.blocked => m.flag a
  | _ => true

/-- one schedule entry: contender `a` runs its next micro-step (a contender that cannot run stutters).  The protocol state is
advanced by `Mutex.agentStep` itself (the OS thread argument only labels events and feeds the executor glue). -/
def step (o : MutexOrders) (c : Cfg) (s : St) (a : Nat) : St :=
  if runnable s.m a then { instr o c.toMutex s a with m := (Mutex.agentStep c.toMutex s.m a a).1 } else s

def run (o : MutexOrders) (c : Cfg) (sched : List Nat) : St := sched.foldl (step o c) (St.init c)

end Cocls.MutexClock
