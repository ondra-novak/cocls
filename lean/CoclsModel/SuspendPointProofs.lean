import CoclsModel.SuspendPoint
/-!
The invariant of the `suspend_point` model (`SuspendPoint.lean`) and what every operation does to it; `Props/C06.lean`
states the results.

`Inv` = heap bookkeeping (`HeapOk`), block ownership (`Own`), an idle thread has an empty ready queue, and conservation:
every handle handed in is held, queued, resumed or popped, with multiplicity.  The first two are about the representation,
the last two about `abs s`, the lists the properties speak of (`Good`).  `Reps s a` says that `s` is a well-formed
representation of `a`; `ObjStep` (one object and its block change) and `AddSpec` (`add`) feed it, and every operation is
a `Reps (op s) { a with … }` obtained by chaining such steps.  `step_spec` goes through the operations once and checks
`Good` on the result of each (`Reps.keeps`, through `Reps.keeps0` / `keeps1` / `keeps2` according to how many suspend points
hold other handles than before).  To read a result off a `Reps (op s) a`: `.obj`, `.queue`, `.resumed`, and `.hs_self` /
`.hs_other` / `.hs_two`, whose hypothesis `a.hs = updF H i l` is meant to be closed by `rfl`; a chain of steps leaves nested
record literals in `a`, which `.to (by simp)` brings back to the form a statement has.
-/
namespace Cocls.SP

@[simp] theorem Mem.get_nil (a : Nat) : Mem.get [] a = none := rfl

theorem Mem.get_del (m : Mem) (a b : Nat) : (Mem.del m a).get b = if b = a then none else m.get b := by
  induction m with
  | nil => simp [Mem.del, Mem.get]
  | cons kv m ih => grind [Mem.del, Mem.get]

theorem Mem.get_set (m : Mem) (a : Nat) (v : List Ptr) (b : Nat) :
    (Mem.set m a v).get b = if b = a then some v else m.get b := by
  simp only [Mem.set, Mem.get, Mem.get_del]
  split <;> simp_all

def updF {α} (f : Nat → α) (i : Nat) (a : α) : Nat → α := fun k => if k = i then a else f k

@[simp] theorem updF_same {α} (f : Nat → α) (i : Nat) (a : α) : updF f i a i = a := if_pos rfl
theorem updF_other {α} (f : Nat → α) {i k : Nat} (a : α) (h : k ≠ i) : updF f i a k = f k := if_neg h
@[simp] theorem updF_updF {α} (f : Nat → α) (i : Nat) (a b : α) : updF (updF f i a) i b = updF f i b := by
  funext k; unfold updF; split <;> rfl
@[simp] theorem updF_eta {α} (f : Nat → α) (i : Nat) : updF f i (f i) = f := by
  funext k; unfold updF; split <;> simp [*]

theorem obj_setObj (s : State) (i : Nat) (o : Option Obj) (hi : i < s.objs.length) :
    (setObj s i o).obj = updF s.obj i o := by
  funext j
  simp only [updF, State.obj, setObj, List.getElem?_set]
  by_cases h : j = i
  · subst h; simp [hi]
  · have : ¬ i = j := fun e => h e.symm
    simp [h, this]

theorem obj_lt {s : State} {i : Nat} {o : Obj} (h : s.obj i = some o) : i < s.objs.length := by
  by_cases hi : i < s.objs.length
  · exact hi
  · simp [State.obj, List.getElem?_eq_none (Nat.le_of_not_lt hi)] at h

theorem obj_ge {s : State} {i : Nat} (h : s.objs.length ≤ i) : s.obj i = none := by
  simp [State.obj, List.getElem?_eq_none h]

theorem slot_cases {s s' : State} {i : Nat} {x' : Option Obj} (hobj : s'.obj = updF s.obj i x')
    {k : Nat} {ok : Obj} (hk : s'.obj k = some ok) : (k = i ∧ x' = some ok) ∨ (k ≠ i ∧ s.obj k = some ok) := by
  rw [hobj] at hk
  by_cases e : k = i
  · rw [e, updF_same] at hk; exact Or.inl ⟨e, hk⟩
  · rw [updF_other _ _ e] at hk; exact Or.inr ⟨e, hk⟩

@[simp] theorem setObj_mem (s : State) (i o) : (setObj s i o).mem = s.mem := rfl
@[simp] theorem setObj_live (s : State) (i o) : (setObj s i o).live = s.live := rfl
@[simp] theorem setObj_trace (s : State) (i o) : (setObj s i o).trace = s.trace := rfl
@[simp] theorem setObj_nextAddr (s : State) (i o) : (setObj s i o).nextAddr = s.nextAddr := rfl
@[simp] theorem setObj_queue (s : State) (i o) : (setObj s i o).queue = s.queue := rfl
@[simp] theorem setObj_active (s : State) (i o) : (setObj s i o).active = s.active := rfl
@[simp] theorem setObj_given (s : State) (i o) : (setObj s i o).given = s.given := rfl
@[simp] theorem setObj_popped (s : State) (i o) : (setObj s i o).popped = s.popped := rfl
@[simp] theorem setObj_len (s : State) (i o) : (setObj s i o).objs.length = s.objs.length := by simp [setObj]

theorem filterMap_res_map (hs : List Ptr) : (hs.map Ev.res).filterMap Ev.res? = hs := by
  simp [List.filterMap_map, Function.comp_def, Ev.res?]

theorem filter_alloc_map (hs : List Ptr) : (hs.map Ev.res).filter Ev.isAlloc = [] := by
  simp [List.filter_map, Function.comp_def, Ev.isAlloc]

theorem filter_free_map (hs : List Ptr) : (hs.map Ev.res).filter Ev.isFree = [] := by
  simp [List.filter_map, Function.comp_def, Ev.isFree]

structure HeapStep (s s' : State) : Prop where
  objs : s'.objs = s.objs
  queue : s'.queue = s.queue
  active : s'.active = s.active
  given : s'.given = s.given
  popped : s'.popped = s.popped
  resumed : resumed s' = resumed s

theorem HeapStep.refl (s : State) : HeapStep s s := ⟨rfl, rfl, rfl, rfl, rfl, rfl⟩
theorem HeapStep.trans {a b c : State} (h1 : HeapStep a b) (h2 : HeapStep b c) : HeapStep a c :=
  ⟨h2.objs.trans h1.objs, h2.queue.trans h1.queue, h2.active.trans h1.active, h2.given.trans h1.given,
   h2.popped.trans h1.popped, h2.resumed.trans h1.resumed⟩
theorem HeapStep.obj {s s' : State} (h : HeapStep s s') (k : Nat) : s'.obj k = s.obj k := by
  simp [State.obj, h.objs]

structure Quiet (s s' : State) : Prop where
  len : s'.objs.length = s.objs.length
  queue : s'.queue = s.queue
  active : s'.active = s.active
  given : s'.given = s.given
  popped : s'.popped = s.popped
  resumed : resumed s' = resumed s

theorem Quiet.trans {a b c : State} (h1 : Quiet a b) (h2 : Quiet b c) : Quiet a c :=
  ⟨h2.len.trans h1.len, h2.queue.trans h1.queue, h2.active.trans h1.active, h2.given.trans h1.given,
   h2.popped.trans h1.popped, h2.resumed.trans h1.resumed⟩
theorem HeapStep.quiet {s s' : State} (h : HeapStep s s') : Quiet s s' :=
  ⟨by rw [h.objs], h.queue, h.active, h.given, h.popped, h.resumed⟩
theorem quiet_setObj (s : State) (i : Nat) (o : Option Obj) : Quiet s (setObj s i o) :=
  ⟨by simp, rfl, rfl, rfl, rfl, rfl⟩

structure SameStore (s X : State) : Prop where
  objs : X.objs = s.objs
  mem : X.mem = s.mem
  live : X.live = s.live
  nextAddr : X.nextAddr = s.nextAddr

theorem SameStore.obj {s X : State} (S : SameStore s X) (k : Nat) : X.obj k = s.obj k := by
  simp [State.obj, S.objs]

structure HeapOk (s : State) : Prop where
  live_iff : ∀ a, a ∈ s.live ↔ (s.mem.get a).isSome = true
  live_nodup : s.live.Nodup
  live_lt : ∀ a, a ∈ s.live → a < s.nextAddr
  balance : news s = deletes s + s.live.length
  no_badfree : Ev.badfree ∉ s.trace
  no_oob : Ev.oob ∉ s.trace

theorem HeapOk.lt_of_get {s : State} (H : HeapOk s) {a : Nat} {c : List Ptr} (h : s.mem.get a = some c) :
    a < s.nextAddr := H.live_lt a ((H.live_iff a).2 (by simp [h]))

theorem HeapOk.get_next {s : State} (H : HeapOk s) : s.mem.get s.nextAddr = none := by
  cases h : s.mem.get s.nextAddr with
  | none => rfl
  | some c => exact absurd (H.lt_of_get h) (Nat.lt_irrefl _)

theorem SameStore.heap {s X : State} (S : SameStore s X) (H : HeapOk s) (R : List Ptr)
    (ht : X.trace = s.trace ++ R.map Ev.res) : HeapOk X := by
  refine ⟨?_, ?_, ?_, ?_, ?_, ?_⟩
  · intro a; rw [S.live, S.mem]; exact H.live_iff a
  · rw [S.live]; exact H.live_nodup
  · intro a; rw [S.live, S.nextAddr]; exact H.live_lt a
  · have := H.balance
    simp only [news, deletes, ht, S.live, List.filter_append, filter_alloc_map, filter_free_map, List.append_nil] at this ⊢
    exact this
  · rw [ht]; simp [H.no_badfree]
  · rw [ht]; simp [H.no_oob]

theorem alloc_spec {s : State} (H : HeapOk s) (cap : Nat) :
    HeapOk (allocBlk s cap) ∧ HeapStep s (allocBlk s cap)
    ∧ ∀ a, (allocBlk s cap).mem.get a = if a = s.nextAddr then some (List.replicate cap junk) else s.mem.get a := by
  have hn : s.nextAddr ∉ s.live := fun h => Nat.lt_irrefl _ (H.live_lt _ h)
  have g : ∀ a, (allocBlk s cap).mem.get a = if a = s.nextAddr then some (List.replicate cap junk) else s.mem.get a :=
    fun a => Mem.get_set _ _ _ _
  refine ⟨⟨?_, ?_, ?_, ?_, ?_, ?_⟩, ⟨rfl, rfl, rfl, rfl, rfl, ?_⟩, g⟩
  · intro a
    rw [g]
    by_cases h : a = s.nextAddr
    · simp [h, allocBlk]
    · simp [h, allocBlk, H.live_iff a]
  · exact List.nodup_append.2 ⟨H.live_nodup, by simp, fun a ha b hb e => hn (by simp at hb; rw [← hb, ← e]; exact ha)⟩
  · intro a ha
    rcases List.mem_append.1 ha with ha | ha
    · exact Nat.lt_succ_of_lt (H.live_lt a ha)
    · simp at ha; simp [allocBlk, ha]
  · have := H.balance
    simp only [news, deletes] at this
    simp [news, deletes, allocBlk, List.filter_append, List.filter_cons, Ev.isAlloc, Ev.isFree]; omega
  · simp [allocBlk, H.no_badfree]
  · simp [allocBlk, H.no_oob]
  · simp [resumed, allocBlk, List.filterMap_append, Ev.res?]

theorem freeBlk_eq {s : State} {a : Nat} {c : List Ptr} (h : s.mem.get a = some c) :
    freeBlk s a = { s with mem := s.mem.del a, live := s.live.erase a, trace := s.trace ++ [Ev.free c.length] } := by
  simp [freeBlk, h]

theorem free_spec {s : State} (H : HeapOk s) {a : Nat} {c : List Ptr} (h : s.mem.get a = some c) :
    HeapOk (freeBlk s a) ∧ HeapStep s (freeBlk s a)
    ∧ ∀ b, (freeBlk s a).mem.get b = if b = a then none else s.mem.get b := by
  have ha : a ∈ s.live := (H.live_iff a).2 (by simp [h])
  rw [freeBlk_eq h]
  refine ⟨⟨?_, ?_, ?_, ?_, ?_, ?_⟩, ⟨rfl, rfl, rfl, rfl, rfl, ?_⟩, fun b => Mem.get_del _ _ _⟩
  · intro b
    show b ∈ s.live.erase a ↔ _
    rw [H.live_nodup.mem_erase_iff, Mem.get_del, H.live_iff b]
    by_cases e : b = a <;> simp [e]
  · exact H.live_nodup.erase a
  · intro b hb; exact H.live_lt b (List.mem_of_mem_erase hb)
  · have := H.balance
    simp only [news, deletes] at this
    have hl : 0 < s.live.length := List.length_pos_of_mem ha
    simp [news, deletes, List.filter_append, List.filter_cons, Ev.isAlloc, Ev.isFree, List.length_erase_of_mem ha]; omega
  · simp [H.no_badfree]
  · simp [H.no_oob]
  · simp [resumed, List.filterMap_append, Ev.res?]

theorem setCells_spec {s : State} (H : HeapOk s) {a : Nat} {c : List Ptr} (h : s.mem.get a = some c) (c' : List Ptr) :
    HeapOk { s with mem := s.mem.set a c' } ∧ HeapStep s { s with mem := s.mem.set a c' }
    ∧ ∀ b, ({ s with mem := s.mem.set a c' } : State).mem.get b = if b = a then some c' else s.mem.get b := by
  refine ⟨⟨?_, H.live_nodup, H.live_lt, H.balance, H.no_badfree, H.no_oob⟩, ⟨rfl, rfl, rfl, rfl, rfl, rfl⟩,
    fun b => Mem.get_set _ _ _ _⟩
  intro b
  show _ ↔ ((s.mem.set a c').get b).isSome = true
  rw [Mem.get_set]
  by_cases e : b = a
  · subst e; simp [(H.live_iff b).2 (by simp [h])]
  · simp [e, H.live_iff b]

theorem writeCell_eq {s : State} {a k : Nat} {c : List Ptr} (h : s.mem.get a = some c) (hk : k < c.length) (v : Ptr) :
    writeCell s a k v = { s with mem := s.mem.set a (c.set k v) } := by
  simp [writeCell, h, hk]

theorem copyInto_eq {s : State} {a : Nat} {c src : List Ptr} (h : s.mem.get a = some c) (hk : src.length ≤ c.length) :
    copyInto s a src = { s with mem := s.mem.set a (src ++ c.drop src.length) } := by
  simp [copyInto, h, hk]

theorem writeCell_spec {s : State} (H : HeapOk s) {a k : Nat} {c : List Ptr} (h : s.mem.get a = some c)
    (hk : k < c.length) (v : Ptr) :
    HeapOk (writeCell s a k v) ∧ HeapStep s (writeCell s a k v)
    ∧ ∀ b, (writeCell s a k v).mem.get b = if b = a then some (c.set k v) else s.mem.get b := by
  rw [writeCell_eq h hk]; exact setCells_spec H h _

theorem copyInto_spec {s : State} (H : HeapOk s) {a : Nat} {c src : List Ptr} (h : s.mem.get a = some c)
    (hk : src.length ≤ c.length) :
    HeapOk (copyInto s a src) ∧ HeapStep s (copyInto s a src)
    ∧ ∀ b, (copyInto s a src).mem.get b = if b = a then some (src ++ c.drop src.length) else s.mem.get b := by
  rw [copyInto_eq h hk]; exact setCells_spec H h _

structure ObjWf (s : State) (o : Obj) : Prop where
  inl_len : o.inl.length = 3
  inl_le : o.cf % 2 = 0 → o.cf / 2 ≤ 3
  ext_ok : o.cf % 2 = 1 → ∃ c, s.mem.get o.ext = some c ∧ c.length = o.cap ∧ o.cf / 2 ≤ o.cap ∧ 0 < o.cap

theorem ObjWf.zero {s W : State} {o : Obj} (w : ObjWf s o) : ObjWf W { o with cf := 0 } :=
  ⟨w.inl_len, fun _ => show 0 / 2 ≤ 3 by decide, fun h => by cases h⟩

structure Own (s : State) : Prop where
  wf : ∀ i o, s.obj i = some o → ObjWf s o
  excl : ∀ i j oi oj, s.obj i = some oi → s.obj j = some oj → oi.cf % 2 = 1 → oj.cf % 2 = 1 →
      oi.ext = oj.ext → i = j
  owned : ∀ a c, s.mem.get a = some c → ∃ i o, s.obj i = some o ∧ o.cf % 2 = 1 ∧ o.ext = a

/-- the pool is rearranged, the memory is not: the block of a flagged object of `s'` in slot `k` is that of a flagged
object of `s` in slot `r k`, and the other way round with `r'` -/
theorem own_reindex {s s' : State} (O : Own s) (hm : s'.mem = s.mem) (r r' : Nat → Nat)
    (hr : ∀ k o', s'.obj k = some o' → ObjWf s o' ∧
      (o'.cf % 2 = 1 → r' (r k) = k ∧ ∃ o, s.obj (r k) = some o ∧ o.cf % 2 = 1 ∧ o.ext = o'.ext))
    (hr' : ∀ k o, s.obj k = some o → o.cf % 2 = 1 → ∃ o', s'.obj (r' k) = some o' ∧ o'.cf % 2 = 1 ∧ o'.ext = o.ext) :
    Own s' := by
  refine ⟨fun k o' hk => ?_, ?_, ?_⟩
  · have w := (hr k o' hk).1
    exact ⟨w.inl_len, w.inl_le, by rw [hm]; exact w.ext_ok⟩
  · intro k l ok ol hk hl hfk hfl e
    obtain ⟨ek, o1, h1, f1, e1⟩ := (hr k ok hk).2 hfk
    obtain ⟨el, o2, h2, f2, e2⟩ := (hr l ol hl).2 hfl
    rw [← ek, ← el, O.excl _ _ o1 o2 h1 h2 f1 f2 (e1.trans (e.trans e2.symm))]
  · intro a c hc
    rw [hm] at hc
    obtain ⟨k, o, h1, h2, h3⟩ := O.owned a c hc
    obtain ⟨o', h1', h2', h3'⟩ := hr' k o h1 h2
    exact ⟨r' k, o', h1', h2', h3'.trans h3⟩

theorem SameStore.own {s X : State} (S : SameStore s X) (O : Own s) : Own X :=
  own_reindex O S.mem (fun k => k) (fun k => k)
    (fun k o hk => ⟨O.wf k o (S.obj k ▸ hk), fun hf => ⟨rfl, o, S.obj k ▸ hk, hf, rfl⟩⟩)
    (fun k o hk hf => ⟨o, (S.obj k).trans hk, hf, rfl⟩)

theorem handles_congr {s s' : State} {k : Nat} (ho : s'.obj k = s.obj k)
    (hm : ∀ ok, s.obj k = some ok → ok.cf % 2 = 1 → s'.mem.get ok.ext = s.mem.get ok.ext) :
    handles s' k = handles s k := by
  simp only [handles, ho]
  cases hok : s.obj k with
  | none => rfl
  | some ok =>
      simp only [handlesOf, cellsOf]
      split
      · rw [hm ok hok ‹_›]
      · rfl

theorem SameStore.handles {s X : State} (S : SameStore s X) (k : Nat) : handles X k = handles s k :=
  handles_congr (S.obj k) (fun _ _ _ => S.mem ▸ rfl)

structure ObjStep (s : State) (i : Nat) (o' : Obj) (s' : State) : Prop where
  heap : HeapOk s'
  own : Own s'
  obj : s'.obj = updF s.obj i (some o')
  mem_other : ∀ k ok, k ≠ i → s.obj k = some ok → ok.cf % 2 = 1 → s'.mem.get ok.ext = s.mem.get ok.ext
  quiet : Quiet s s'

theorem ObjStep.handles_self {s s' : State} {i : Nat} {o' : Obj} (T : ObjStep s i o' s') :
    handles s' i = handlesOf s' o' := by
  simp only [handles, T.obj, updF_same]

theorem ObjStep.handles_other {s s' : State} {i : Nat} {o' : Obj} (T : ObjStep s i o' s') {k : Nat} (hk : k ≠ i) :
    handles s' k = handles s k :=
  handles_congr (by rw [T.obj, updF_other _ _ hk]) (fun ok => T.mem_other k ok hk)

/-- heap primitives take `s` to `W`.  `hfresh`: a block `o'` has and `o` had not is new; `hfreed`: a block `o` had and `o'`
has not is gone -/
theorem objStep {s W : State} {i : Nat} {o o' : Obj} (O : Own s) (hi : s.obj i = some o) (HW : HeapOk W) (S : HeapStep s W)
    (hmem : ∀ a, (o.cf % 2 = 1 → a ≠ o.ext) → (o'.cf % 2 = 1 → a ≠ o'.ext) → W.mem.get a = s.mem.get a)
    (hnew : ObjWf W o')
    (hfresh : o'.cf % 2 = 1 → (o.cf % 2 = 1 ∧ o'.ext = o.ext) ∨ s.mem.get o'.ext = none)
    (hfreed : o.cf % 2 = 1 → (o'.cf % 2 = 1 ∧ o'.ext = o.ext) ∨ W.mem.get o.ext = none) :
    ObjStep s i o' (setObj W i (some o')) := by
  have hobj : (setObj W i (some o')).obj = updF s.obj i (some o') := by
    rw [obj_setObj _ i _ (by rw [S.objs]; exact obj_lt hi), funext S.obj]
  have other : ∀ k ok, k ≠ i → s.obj k = some ok → ok.cf % 2 = 1 →
      (o'.cf % 2 = 1 → ok.ext ≠ o'.ext) ∧ W.mem.get ok.ext = s.mem.get ok.ext := by
    intro k ok hk hok hf
    obtain ⟨c, hc, -⟩ := (O.wf k ok hok).ext_ok hf
    have h' : o'.cf % 2 = 1 → ok.ext ≠ o'.ext := by
      intro hof' e
      rcases hfresh hof' with ⟨hof, e'⟩ | hn
      · exact hk (O.excl k i ok o hok hi hf hof (e.trans e'))
      · rw [← e, hc] at hn; cases hn
    exact ⟨h', hmem _ (fun hof e => hk (O.excl k i ok o hok hi hf hof e)) h'⟩
  refine ⟨{ HW with }, ⟨?_, ?_, ?_⟩, hobj, fun k ok hk hok hf => (other k ok hk hok hf).2,
    S.quiet.trans (quiet_setObj _ _ _)⟩
  · intro k ok hk
    rcases slot_cases hobj hk with ⟨-, e⟩ | ⟨e, hk⟩
    · cases e; exact ⟨hnew.inl_len, hnew.inl_le, hnew.ext_ok⟩
    · have w := O.wf k ok hk
      exact ⟨w.inl_len, w.inl_le, fun hf => by rw [setObj_mem, (other k ok e hk hf).2]; exact w.ext_ok hf⟩
  · intro k l ok ol hk hl hfk hfl e
    rcases slot_cases hobj hk with ⟨ek, e1⟩ | ⟨ek, hk⟩ <;> rcases slot_cases hobj hl with ⟨el, e2⟩ | ⟨el, hl⟩
    · rw [ek, el]
    · cases e1; exact ((other l ol el hl hfl).1 hfk e.symm).elim
    · cases e2; exact ((other k ok ek hk hfk).1 hfl e).elim
    · exact O.excl k l ok ol hk hl hfk hfl e
  · intro a c hc
    rw [setObj_mem] at hc
    by_cases h1 : o'.cf % 2 = 1 ∧ a = o'.ext
    · exact ⟨i, o', by rw [hobj, updF_same], h1.1, h1.2.symm⟩
    · by_cases h2 : o.cf % 2 = 1 ∧ a = o.ext
      · rcases hfreed h2.1 with ⟨hf', e'⟩ | hn
        · exact (h1 ⟨hf', h2.2.trans e'.symm⟩).elim
        · rw [← h2.2, hc] at hn; cases hn
      · rw [hmem a (fun hf e => h2 ⟨hf, e⟩) (fun hf e => h1 ⟨hf, e⟩)] at hc
        obtain ⟨k, ok, hk, hfk, ek⟩ := O.owned a c hc
        have hki : k ≠ i := by
          intro e; subst e; rw [hi] at hk; cases hk; exact h2 ⟨hfk, ek.symm⟩
        exact ⟨k, ok, by rw [hobj, updF_other _ _ hki, hk], hfk, ek⟩

theorem objStep_same {s : State} {i : Nat} {o o' : Obj} (H : HeapOk s) (O : Own s) (hi : s.obj i = some o)
    (hf : o'.cf % 2 = o.cf % 2) (he : o'.ext = o.ext) (hw : ObjWf s o') : ObjStep s i o' (setObj s i (some o')) :=
  objStep O hi H (HeapStep.refl s) (fun _ _ _ => rfl) hw (fun h => Or.inl ⟨by omega, he⟩)
    (fun h => Or.inl ⟨by omega, he⟩)

theorem own_unflagged {s s' : State} {i : Nat} {x' : Option Obj} (O : Own s)
    (hobj : s'.obj = updF s.obj i x') (hm : s'.mem = s.mem)
    (hx : ∀ o, s.obj i = some o → ¬ o.cf % 2 = 1)
    (hx' : ∀ o', x' = some o' → ¬ o'.cf % 2 = 1 ∧ o'.inl.length = 3 ∧ o'.cf / 2 ≤ 3) : Own s' := by
  refine own_reindex O hm (fun k => k) (fun k => k) (fun k ok hk => ?_)
    (fun k ok hk hf => ⟨ok, by rw [hobj, updF_other _ _ (fun e : k = i => hx ok (e ▸ hk) hf)]; exact hk, hf, rfl⟩)
  rcases slot_cases hobj hk with ⟨-, e⟩ | ⟨-, hk⟩
  · obtain ⟨hf, hl, hc⟩ := hx' ok e
    exact ⟨⟨hl, fun _ => hc, fun h => absurd h hf⟩, fun h => absurd h hf⟩
  · exact ⟨O.wf k ok hk, fun hf => ⟨rfl, ok, hk, hf, rfl⟩⟩

theorem handlesOf_inl {s : State} {o : Obj} (hf : ¬ o.cf % 2 = 1) : handlesOf s o = o.inl.take (o.cf / 2) := if_neg hf

theorem handlesOf_ext {s : State} {o : Obj} {c : List Ptr} (hf : o.cf % 2 = 1) (hg : s.mem.get o.ext = some c) :
    handlesOf s o = c.take (o.cf / 2) := by
  rw [handlesOf, if_pos hf, cellsOf, hg]; rfl

theorem take_set_succ {α} (l : List α) (k : Nat) (h : α) (hk : k < l.length) :
    (l.set k h).take (k + 1) = l.take k ++ [h] := by
  simp [List.take_add_one, hk, List.take_set_of_le]

structure AddSpec (s : State) (i : Nat) (o : Obj) (hs : List Ptr) (s' : State) : Prop where
  heap : HeapOk s'
  own : Own s'
  obj_i : ∃ o', s'.obj i = some o' ∧ o'.typed = o.typed ∧ o'.value = o.value ∧
      handlesOf s' o' = handlesOf s o ++ hs
  obj_other : ∀ j, j ≠ i → s'.obj j = s.obj j
  mem_other : ∀ j oj, j ≠ i → s.obj j = some oj → oj.cf % 2 = 1 → s'.mem.get oj.ext = s.mem.get oj.ext
  len : s'.objs.length = s.objs.length
  queue : s'.queue = s.queue
  active : s'.active = s.active
  given : s'.given = s.given
  popped : s'.popped = s.popped
  resumed : resumed s' = resumed s

theorem ObjStep.addSpec {s s' : State} {i : Nat} {o o' : Obj} {hs : List Ptr} (T : ObjStep s i o' s')
    (ht : o'.typed = o.typed) (hv : o'.value = o.value) (hh : handlesOf s' o' = handlesOf s o ++ hs) :
    AddSpec s i o hs s' :=
  ⟨T.heap, T.own, ⟨o', by rw [T.obj, updF_same], ht, hv, hh⟩, fun j hj => by rw [T.obj, updF_other _ _ hj], T.mem_other,
    T.quiet.len, T.quiet.queue, T.quiet.active, T.quiet.given, T.quiet.popped, T.quiet.resumed⟩

theorem addInl_spec {s : State} {i : Nat} {o : Obj} (H : HeapOk s) (O : Own s) (hi : s.obj i = some o)
    (hf : ¬ o.cf % 2 = 1) (hc : o.cf / 2 < inlineCount) (h : Ptr) : AddSpec s i o [h] (addInl s i o h) := by
  have w := O.wf i o hi
  simp only [inlineCount] at hc
  have hf' : ¬ (o.cf + 2) % 2 = 1 := by omega
  refine (objStep_same H O hi (o' := { o with inl := o.inl.set (o.cf / 2) h, cf := o.cf + 2 })
    (by show (o.cf + 2) % 2 = _; omega) rfl
    ⟨by simp [w.inl_len], fun _ => by show (o.cf + 2) / 2 ≤ 3; omega, fun hh => absurd hh hf'⟩).addSpec rfl rfl ?_
  simp only [handlesOf, hf, hf', if_false]
  rw [show (o.cf + 2) / 2 = o.cf / 2 + 1 by omega, take_set_succ _ _ _ (by rw [w.inl_len]; exact hc)]

theorem addExt_spec {s : State} {i : Nat} {o : Obj} (H : HeapOk s) (O : Own s) (hi : s.obj i = some o)
    (hf : o.cf % 2 = 1) (hc : ¬ o.cf / 2 = o.cap) (h : Ptr) : AddSpec s i o [h] (addExt s i o h) := by
  obtain ⟨c, hg, hlen, hle, hpos⟩ := (O.wf i o hi).ext_ok hf
  have hk : o.cf / 2 < c.length := by omega
  have hf' : (o.cf + 2) % 2 = 1 := by omega
  obtain ⟨HW, SW, gW⟩ := writeCell_spec H hg hk h
  refine (objStep O hi HW SW (o' := { o with cf := o.cf + 2 }) (fun a ha _ => by rw [gW, if_neg (ha hf)])
    ⟨(O.wf i o hi).inl_len, fun hh => by have : (o.cf + 2) % 2 = 0 := hh; omega,
      fun _ => ⟨c.set (o.cf / 2) h, by rw [gW, if_pos rfl], by simp [hlen], by show (o.cf + 2) / 2 ≤ o.cap; omega, hpos⟩⟩
    (fun _ => Or.inl ⟨hf, rfl⟩) (fun _ => Or.inl ⟨hf', rfl⟩)).addSpec rfl rfl ?_
  simp only [handlesOf, hf, hf', if_true, cellsOf, setObj_mem, gW, hg, Option.getD_some]
  rw [show (o.cf + 2) / 2 = o.cf / 2 + 1 by omega, take_set_succ _ _ _ hk]

theorem allocCopy_spec {s : State} (H : HeapOk s) (src : List Ptr) {cap : Nat} (hc : src.length ≤ cap) :
    HeapOk (copyInto (allocBlk s cap) s.nextAddr src) ∧ HeapStep s (copyInto (allocBlk s cap) s.nextAddr src)
    ∧ ∀ a, (copyInto (allocBlk s cap) s.nextAddr src).mem.get a
        = if a = s.nextAddr then some (src ++ List.replicate (cap - src.length) junk) else s.mem.get a := by
  obtain ⟨H1, S1, g1⟩ := alloc_spec H cap
  obtain ⟨H2, S2, g2⟩ := copyInto_spec (src := src) H1 (by rw [g1, if_pos rfl]) (by simpa using hc)
  refine ⟨H2, S1.trans S2, fun a => ?_⟩
  rw [g2, g1]; split <;> simp

theorem addSpill_spec {s : State} {i : Nat} {o : Obj} (H : HeapOk s) (O : Own s) (hi : s.obj i = some o)
    (hf : ¬ o.cf % 2 = 1) (hc : ¬ o.cf / 2 < inlineCount) (h : Ptr) : AddSpec s i o [h] (addSpill s i o h) := by
  have w := O.wf i o hi
  simp only [inlineCount] at hc
  have hk : o.cf / 2 = 3 := by have := w.inl_le (by omega); omega
  have hf' : (o.cf + 3) % 2 = 1 := by omega
  obtain ⟨H1, S1, g1⟩ := allocCopy_spec H o.inl (cap := o.cf / 2 * 2) (by rw [w.inl_len]; omega)
  obtain ⟨H2, S2, g2⟩ := writeCell_spec (k := o.cf / 2) H1 (by rw [g1, if_pos rfl]) (by simp [w.inl_len, hk]) h
  refine (objStep O hi H2 (S1.trans S2)
    (o' := { o with ext := s.nextAddr, cap := o.cf / 2 * 2, cf := o.cf + 3, inl := [junk, junk, junk] })
    (fun a _ ha => by rw [g2, if_neg (ha hf'), g1, if_neg (ha hf')])
    ⟨rfl, fun hh => by have : (o.cf + 3) % 2 = 0 := hh; omega,
      fun _ => ⟨_, by rw [g2, if_pos rfl], by simp [w.inl_len, hk], by show (o.cf + 3) / 2 ≤ o.cf / 2 * 2; omega,
        by show 0 < o.cf / 2 * 2; omega⟩⟩
    (fun _ => Or.inr H.get_next) (fun hh => absurd hh hf)).addSpec rfl rfl ?_
  simp only [handlesOf, hf, hf', if_true, if_false, cellsOf, setObj_mem, g2, Option.getD_some]
  rw [show (o.cf + 3) / 2 = o.cf / 2 + 1 by omega, take_set_succ _ _ _ (by simp [w.inl_len, hk])]
  simp [List.take_of_length_le, w.inl_len, hk]

theorem addGrow_spec {s : State} {i : Nat} {o : Obj} (H : HeapOk s) (O : Own s) (hi : s.obj i = some o)
    (hf : o.cf % 2 = 1) (hc : o.cf / 2 = o.cap) (h : Ptr) : AddSpec s i o [h] (addGrow s i o h) := by
  obtain ⟨c, hg, hlen, hle, hpos⟩ := (O.wf i o hi).ext_ok hf
  have hk : c.length = o.cf / 2 := by omega
  have hf' : (o.cf + 2) % 2 = 1 := by omega
  have hne : o.ext ≠ s.nextAddr := Nat.ne_of_lt (H.lt_of_get hg)
  have hco : cellsOf s o.ext = c := by simp [cellsOf, hg]
  have htk : c.take (o.cf / 2) = c := by rw [← hk, List.take_length]
  simp only [addGrow, hco, htk]
  obtain ⟨H1, S1, g1⟩ := allocCopy_spec H c (cap := o.cf / 2 * 2) (by omega)
  obtain ⟨H2, S2, g2⟩ := free_spec H1 (a := o.ext) (c := c) (by rw [g1, if_neg hne, hg])
  obtain ⟨H3, S3, g3⟩ := writeCell_spec (k := o.cf / 2) H2 (by rw [g2, if_neg hne.symm, g1, if_pos rfl])
    (by simp [hk]; omega) h
  refine (objStep O hi H3 ((S1.trans S2).trans S3) (o' := { o with ext := s.nextAddr, cap := o.cf / 2 * 2, cf := o.cf + 2 })
    (fun a ha ha' => by rw [g3, if_neg (ha' hf'), g2, if_neg (ha hf), g1, if_neg (ha' hf')])
    ⟨(O.wf i o hi).inl_len, fun hh => by have : (o.cf + 2) % 2 = 0 := hh; omega,
      fun _ => ⟨_, by rw [g3, if_pos rfl], by simp [hk]; omega, by show (o.cf + 2) / 2 ≤ o.cf / 2 * 2; omega,
        by show 0 < o.cf / 2 * 2; omega⟩⟩
    (fun _ => Or.inr H.get_next) (fun _ => Or.inr (by rw [g3, if_neg hne, g2, if_pos rfl]))).addSpec rfl rfl ?_
  simp only [handlesOf, hf, hf', if_true, cellsOf, setObj_mem, g3, hg, Option.getD_some]
  rw [show (o.cf + 2) / 2 = o.cf / 2 + 1 by omega, take_set_succ _ _ _ (by simp [hk]; omega)]
  simp [List.take_of_length_le, hk]

theorem add_spec {s : State} {i : Nat} {o : Obj} (H : HeapOk s) (O : Own s) (hi : s.obj i = some o) (h : Ptr) :
    AddSpec s i o [h] (add s i h) := by
  simp only [add, hi, addObj]
  split
  · split
    · exact addGrow_spec H O hi ‹_› ‹_› h
    · exact addExt_spec H O hi ‹_› ‹_› h
  · split
    · exact addInl_spec H O hi ‹_› ‹_› h
    · exact addSpill_spec H O hi ‹_› ‹_› h

theorem add_none {s : State} {i : Nat} (h : s.obj i = none) (x : Ptr) : add s i x = s := by simp [add, h]

theorem addAll_none {s : State} {i : Nat} (h : s.obj i = none) (hs : List Ptr) : addAll s i hs = s := by
  induction hs with
  | nil => rfl
  | cons x t ih => simp only [addAll, List.foldl_cons, add_none h]; exact ih

theorem addAll_cons (s : State) (i : Nat) (x : Ptr) (t : List Ptr) : addAll s i (x :: t) = addAll (add s i x) i t := rfl

theorem addAll_inline {s : State} {i : Nat} {o : Obj} (hi : s.obj i = some o) (hf : o.cf % 2 = 0)
    (hs : List Ptr) (hc : o.cf / 2 + hs.length ≤ inlineCount) :
    (addAll s i hs).trace = s.trace ∧ (addAll s i hs).mem = s.mem ∧ (addAll s i hs).live = s.live := by
  induction hs generalizing s o with
  | nil => exact ⟨rfl, rfl, rfl⟩
  | cons h t ih =>
      simp only [List.length_cons] at hc
      have e : add s i h = addInl s i o h := by
        simp [add, hi, addObj, show ¬ o.cf % 2 = 1 by omega, show o.cf / 2 < inlineCount by omega]
      have hi1 : (add s i h).obj i = some { o with inl := o.inl.set (o.cf / 2) h, cf := o.cf + 2 } := by
        rw [e, addInl, obj_setObj _ i _ (obj_lt hi), updF_same]
      obtain ⟨r1, r2, r3⟩ := ih hi1 (by show (o.cf + 2) % 2 = 0; omega)
        (by show (o.cf + 2) / 2 + t.length ≤ inlineCount; omega)
      rw [addAll_cons, r1, r2, r3, e]
      exact ⟨rfl, rfl, rfl⟩

theorem handlesOf_zero (s : State) (o : Obj) : handlesOf s { o with cf := 0 } = [] := by simp [handlesOf]

theorem clearInternal_spec {s : State} {j : Nat} {oj : Obj} (H : HeapOk s) (O : Own s) (hj : s.obj j = some oj) :
    ObjStep s j { oj with cf := 0 } (clearInternal s j oj) := by
  have w0 := O.wf j oj hj
  unfold clearInternal
  split
  · next hf =>
    obtain ⟨c, hg, -⟩ := (O.wf j oj hj).ext_ok hf
    obtain ⟨HF, SF, gF⟩ := free_spec H hg
    exact objStep O hj HF SF (fun a ha _ => by rw [gF, if_neg (ha hf)]) w0.zero (fun hh => by cases hh)
      (fun _ => Or.inr (by rw [gF, if_pos rfl]))
  · next hf => exact objStep_same H O hj (by show 0 % 2 = _; omega) rfl w0.zero

def heldAll (H : Nat → List Ptr) : Nat → List Ptr
  | 0 => []
  | n + 1 => heldAll H n ++ H n

def held (s : State) : List Ptr := heldAll (handles s) s.objs.length

theorem heldAll_congr {H H' : Nat → List Ptr} {n : Nat} (h : ∀ k, k < n → H' k = H k) : heldAll H' n = heldAll H n := by
  induction n with
  | zero => rfl
  | succ n ih => simp only [heldAll, ih (fun k hk => h k (Nat.lt_succ_of_lt hk)), h n (Nat.lt_succ_self n)]

theorem handles_none {s : State} {i : Nat} (h : s.obj i = none) : handles s i = [] := by simp [handles, h]

theorem handles_of_count_zero {s : State} {i : Nat} {o : Obj} (hi : s.obj i = some o) (hc : o.cf / 2 = 0) :
    handles s i = [] := by
  simp [handles, hi, handlesOf, hc]

theorem held_nil_of_all_none {s : State} (h : ∀ k, s.obj k = none) : held s = [] := by
  simp only [held]
  generalize s.objs.length = m
  induction m with
  | zero => rfl
  | succ m ih => simp [heldAll, ih, handles_none (h m)]

structure Inv (s : State) : Prop where
  heap : HeapOk s
  own : Own s
  idle : s.active = false → s.queue = []
  conserve : ∀ h, s.given.count h
      = (held s).count h + s.queue.count h + (resumed s).count h + s.popped.count h

theorem inv_init (n : Nat) (a : Bool) : Inv (init n a) := by
  have hobj : ∀ k, (init n a).obj k = none := by
    intro k; simp only [State.obj, init, List.getElem?_replicate]; split <;> rfl
  refine ⟨⟨?_, ?_, ?_, ?_, ?_, ?_⟩, ⟨?_, ?_, ?_⟩, fun _ => rfl, ?_⟩
  · intro x; simp [init]
  · simp [init]
  · intro x hx; simp [init] at hx
  · simp [init, news, deletes]
  · simp [init]
  · simp [init]
  · intro i o hi; rw [hobj] at hi; cases hi
  · intro i j oi oj hi; rw [hobj] at hi; cases hi
  · intro x c hc; simp [init] at hc
  · intro h; rw [held_nil_of_all_none hobj]; simp [init, resumed]

structure AState where
  n : Nat
  objs : Nat → Option Obj
  hs : Nat → List Ptr
  queue : List Ptr
  given : List Ptr
  resumed : List Ptr
  popped : List Ptr
  active : Bool

def abs (s : State) : AState := ⟨s.objs.length, s.obj, handles s, s.queue, s.given, resumed s, s.popped, s.active⟩

@[simp] theorem abs_objs (s : State) : (abs s).objs = s.obj := rfl
@[simp] theorem abs_hs (s : State) : (abs s).hs = handles s := rfl
@[simp] theorem abs_queue (s : State) : (abs s).queue = s.queue := rfl
@[simp] theorem abs_given (s : State) : (abs s).given = s.given := rfl
@[simp] theorem abs_resumed (s : State) : (abs s).resumed = resumed s := rfl
@[simp] theorem abs_popped (s : State) : (abs s).popped = s.popped := rfl
@[simp] theorem abs_active (s : State) : (abs s).active = s.active := rfl

/-- Conservation is not part of it: an operation is a chain of steps through intermediate states in which it fails (the
handles are copied to the queue first and dropped from the object afterwards); `Good` is checked once, on the result. -/
structure Reps (s : State) (a : AState) : Prop where
  heap : HeapOk s
  own : Own s
  eq : abs s = a

theorem Reps.to {s : State} {a b : AState} (A : Reps s a) (h : a = b) : Reps s b := h ▸ A

theorem Reps.len {s : State} {a : AState} (A : Reps s a) : s.objs.length = a.n := by rw [← A.eq]; rfl
theorem Reps.obj {s : State} {a : AState} (A : Reps s a) (k : Nat) : s.obj k = a.objs k := by rw [← A.eq]; rfl
theorem Reps.hs {s : State} {a : AState} (A : Reps s a) (k : Nat) : handles s k = a.hs k := by rw [← A.eq]; rfl
theorem Reps.hs_self {s : State} {a : AState} (A : Reps s a) {H : Nat → List Ptr} {i : Nat} {l : List Ptr}
    (h : a.hs = updF H i l) : handles s i = l := by rw [A.hs, h, updF_same]
theorem Reps.hs_other {s : State} {a : AState} (A : Reps s a) {H : Nat → List Ptr} {i : Nat} {l : List Ptr}
    (h : a.hs = updF H i l) (k : Nat) (hk : k ≠ i) : handles s k = H k := by rw [A.hs, h, updF_other _ _ hk]
theorem Reps.hs_two {s : State} {a : AState} (A : Reps s a) {H : Nat → List Ptr} {i j : Nat} {l l' : List Ptr} (hij : i ≠ j)
    (h : a.hs = updF (updF H i l) j l') :
    handles s i = l ∧ handles s j = l' ∧ ∀ k, k ≠ i → k ≠ j → handles s k = H k :=
  ⟨by rw [A.hs, h, updF_other _ _ hij, updF_same], by rw [A.hs, h, updF_same],
    fun k h1 h2 => by rw [A.hs, h, updF_other _ _ h2, updF_other _ _ h1]⟩
theorem Reps.queue {s : State} {a : AState} (A : Reps s a) : s.queue = a.queue := by rw [← A.eq]; rfl
theorem Reps.given {s : State} {a : AState} (A : Reps s a) : s.given = a.given := by rw [← A.eq]; rfl
theorem Reps.resumed {s : State} {a : AState} (A : Reps s a) : resumed s = a.resumed := by rw [← A.eq]; rfl
theorem Reps.popped {s : State} {a : AState} (A : Reps s a) : s.popped = a.popped := by rw [← A.eq]; rfl
theorem Reps.active {s : State} {a : AState} (A : Reps s a) : s.active = a.active := by rw [← A.eq]; rfl

theorem Reps.hsOf {s : State} {a : AState} (A : Reps s a) {i : Nat} {o : Obj} (hi : a.objs i = some o) :
    handlesOf s o = a.hs i := by
  rw [← A.hs, handles, (A.obj i).trans hi]

theorem ObjStep.reps {s s' : State} {i : Nat} {o' : Obj} {a : AState} (T : ObjStep s i o' s') (A : Reps s a) :
    Reps s' { a with objs := updF a.objs i (some o'), hs := updF a.hs i (handlesOf s' o') } := by
  obtain rfl := A.eq
  refine ⟨T.heap, T.own, ?_⟩
  have Q := T.quiet
  simp only [abs, Q.len, Q.queue, Q.given, Q.resumed, Q.popped, Q.active, AState.mk.injEq, true_and, and_true]
  refine ⟨T.obj, funext fun k => ?_⟩
  unfold updF; split
  · next e => rw [e]; exact T.handles_self
  · next e => exact T.handles_other e

theorem AddSpec.reps {s s' : State} {a : AState} {i : Nat} {o : Obj} {hs : List Ptr} (S : AddSpec s i o hs s')
    (A : Reps s a) (hi : a.objs i = some o) :
    ∃ o', o'.typed = o.typed ∧ o'.value = o.value
      ∧ Reps s' { a with objs := updF a.objs i (some o'), hs := updF a.hs i (a.hs i ++ hs) } := by
  obtain rfl := A.eq
  obtain ⟨o', h1, ht, hv, hh⟩ := S.obj_i
  refine ⟨o', ht, hv, S.heap, S.own, ?_⟩
  simp only [abs, S.len, S.queue, S.given, S.resumed, S.popped, S.active, AState.mk.injEq, true_and, and_true]
  refine ⟨funext fun k => ?_, funext fun k => ?_⟩ <;> unfold updF <;> split
  · next e => rw [e, h1]
  · next e => exact S.obj_other k e
  · next e => rw [e]; simp only [handles, h1, show s.obj i = some o from hi, hh]
  · next e => exact handles_congr (S.obj_other k e) (fun oj => S.mem_other k oj e)

theorem Reps.store {s X : State} {a : AState} (A : Reps s a) (S : SameStore s X) (R : List Ptr)
    (ht : X.trace = s.trace ++ R.map Ev.res) :
    Reps X { a with queue := X.queue, given := X.given, resumed := a.resumed ++ R, popped := X.popped,
                    active := X.active } := by
  obtain ⟨H, O, rfl⟩ := A
  refine ⟨S.heap H R ht, S.own O, ?_⟩
  simp only [abs, S.objs, SP.resumed, ht, List.filterMap_append, filterMap_res_map, AState.mk.injEq, true_and, and_true]
  exact ⟨funext S.obj, funext S.handles⟩

-- `Reps.enqueue`, `Reps.add`, … are named after the model function they describe, which inside them has to be written `SP.…`
theorem Reps.enqueue {s : State} {a : AState} (A : Reps s a) (l : List Ptr) :
    Reps (SP.enqueue s l) { a with queue := a.queue ++ l } := by
  have := A.store (X := SP.enqueue s l) ⟨rfl, rfl, rfl, rfl⟩ [] (by simp [SP.enqueue])
  obtain rfl := A.eq
  simpa [SP.enqueue] using this

theorem Reps.resumeAll {s : State} {a : AState} (A : Reps s a) (l : List Ptr) :
    Reps (SP.resumeAll s l) { a with resumed := a.resumed ++ l } := by
  have := A.store (X := SP.resumeAll s l) ⟨rfl, rfl, rfl, rfl⟩ l rfl
  obtain rfl := A.eq
  simpa [SP.resumeAll] using this

theorem Reps.handIn {s : State} {a : AState} (A : Reps s a) (l : List Ptr) :
    Reps { s with given := s.given ++ l } { a with given := a.given ++ l } := by
  have := A.store (X := { s with given := s.given ++ l }) ⟨rfl, rfl, rfl, rfl⟩ [] (by simp)
  obtain rfl := A.eq
  simpa using this

theorem Reps.handBack {s : State} {a : AState} (A : Reps s a) (l : List Ptr) :
    Reps { s with popped := s.popped ++ l } { a with popped := a.popped ++ l } := by
  have := A.store (X := { s with popped := s.popped ++ l }) ⟨rfl, rfl, rfl, rfl⟩ [] (by simp)
  obtain rfl := A.eq
  simpa using this

theorem Reps.setActive {s : State} {a : AState} (A : Reps s a) (b : Bool) :
    Reps { s with active := b } { a with active := b } := by
  have := A.store (X := { s with active := b }) ⟨rfl, rfl, rfl, rfl⟩ [] (by simp)
  obtain rfl := A.eq
  simpa using this

theorem Reps.flushAll {s : State} {a : AState} (A : Reps s a) :
    Reps (SP.flushAll s) { a with resumed := a.resumed ++ a.queue, queue := [] } := by
  have := A.store (X := SP.flushAll s) ⟨rfl, rfl, rfl, rfl⟩ s.queue rfl
  obtain rfl := A.eq
  simpa [SP.flushAll] using this

theorem Reps.flushUntil {s : State} {a : AState} (A : Reps s a) (me : Ptr) :
    Reps (SP.flushUntil s me) { a with resumed := a.resumed ++ a.queue.take (a.queue.idxOf me + 1),
                                       queue := a.queue.drop (a.queue.idxOf me + 1) } := by
  have := A.store (X := SP.flushUntil s me) ⟨rfl, rfl, rfl, rfl⟩ _ rfl
  obtain rfl := A.eq
  simpa [SP.flushUntil] using this

theorem Reps.ready {s : State} {a : AState} (A : Reps s a) (l : List Ptr) :
    Reps (SP.ready s l) { a with given := a.given ++ l, queue := a.queue ++ l } :=
  ((A.handIn l).enqueue l).to rfl

theorem Reps.clear {s : State} {a : AState} {i : Nat} {o : Obj} (A : Reps s a) (hi : a.objs i = some o) :
    Reps (clearInternal s i o) { a with objs := updF a.objs i (some { o with cf := 0 }), hs := updF a.hs i [] } := by
  have := (clearInternal_spec A.heap A.own ((A.obj i).trans hi)).reps A
  rwa [handlesOf_zero] at this

structure Good (a : AState) : Prop where
  idle : a.active = false → a.queue = []
  conserve : ∀ x, a.given.count x = (heldAll a.hs a.n).count x + a.queue.count x + a.resumed.count x + a.popped.count x

theorem Inv.reps {s : State} (I : Inv s) : Reps s (abs s) := ⟨I.heap, I.own, rfl⟩
theorem Reps.inv {s : State} {a : AState} (A : Reps s a) (G : Good a) : Inv s := by
  obtain ⟨H, O, rfl⟩ := A; exact ⟨H, O, G.idle, G.conserve⟩

theorem count_heldAll_updF {H : Nat → List Ptr} {n i : Nat} (hi : i < n) (l : List Ptr) (x : Ptr) :
    (heldAll (updF H i l) n).count x + (H i).count x = (heldAll H n).count x + l.count x := by
  induction n with
  | zero => omega
  | succ n ih =>
      simp only [heldAll, List.count_append]
      by_cases e : i = n
      · subst e
        rw [heldAll_congr (H := H) (H' := updF H i l) (fun k hk => updF_other H l (Nat.ne_of_lt hk)), updF_same]
        omega
      · have := ih (by omega)
        rw [updF_other H l (fun e' => e e'.symm)]
        omega

theorem vacant_iff {s : State} {i : Nat} : vacant s i = true ↔ i < s.objs.length ∧ s.obj i = none := by
  simp [vacant, Option.isNone_iff_eq_none]

theorem Reps.setSlot {s : State} {a : AState} (A : Reps s a) {i : Nat} (hil : i < a.n) (x' : Option Obj)
    (hx : ∀ o, a.objs i = some o → ¬ o.cf % 2 = 1)
    (hx' : ∀ o', x' = some o' → ¬ o'.cf % 2 = 1 ∧ o'.inl.length = 3 ∧ o'.cf / 2 ≤ 3) :
    Reps (setObj s i x')
      { a with objs := updF a.objs i x', hs := updF a.hs i ((x'.map fun o' => o'.inl.take (o'.cf / 2)).getD []) } := by
  obtain ⟨H, O, rfl⟩ := A
  have hobj := obj_setObj s i x' hil
  refine ⟨{ H with }, own_unflagged O hobj rfl hx hx', ?_⟩
  simp only [abs, setObj_len, AState.mk.injEq, true_and]
  refine ⟨hobj, funext fun k => ?_, rfl, rfl, rfl, rfl, rfl⟩
  unfold updF; split
  · next e =>
    rw [e]; simp only [handles, hobj, updF_same]
    cases x' with
    | none => rfl
    | some o' => exact handlesOf_inl (hx' o' rfl).1
  · next e => exact handles_congr (by rw [hobj, updF_other _ _ e]) (fun _ _ _ => rfl)

theorem Reps.ctor {s : State} {a : AState} (A : Reps s a) {i : Nat} (hv : i < a.n ∧ a.objs i = none) (o0 : Obj)
    (h0 : ¬ o0.cf % 2 = 1 ∧ o0.inl.length = 3 ∧ o0.cf / 2 ≤ 3) :
    Reps (setObj s i (some o0)) { a with objs := updF a.objs i (some o0), hs := updF a.hs i (o0.inl.take (o0.cf / 2)) } :=
  A.setSlot hv.1 (some o0) (fun o h => by rw [hv.2] at h; cases h) (fun o' e => by cases e; exact h0)

theorem Reps.add {s : State} {a : AState} {i : Nat} {o : Obj} (A : Reps s a) (hi : a.objs i = some o) (h : Ptr) :
    ∃ o', o'.typed = o.typed ∧ o'.value = o.value
      ∧ Reps (SP.add s i h) { a with objs := updF a.objs i (some o'), hs := updF a.hs i (a.hs i ++ [h]) } :=
  (add_spec A.heap A.own ((A.obj i).trans hi) h).reps A hi

theorem Reps.addAll {s : State} {a : AState} {i : Nat} {o : Obj} (A : Reps s a) (hi : a.objs i = some o)
    (hs : List Ptr) :
    ∃ o', o'.typed = o.typed ∧ o'.value = o.value ∧ Reps (SP.addAll s i hs)
      { a with objs := updF a.objs i (some o'), hs := updF a.hs i (a.hs i ++ hs) } := by
  induction hs generalizing s a o with
  | nil => exact ⟨o, rfl, rfl, A.to (by rw [← hi]; simp)⟩
  | cons h t ih =>
      obtain ⟨o1, ht1, hv1, A1⟩ := A.add hi h
      obtain ⟨o2, ht2, hv2, A2⟩ := ih A1 (updF_same _ _ _)
      exact ⟨o2, ht2.trans ht1, hv2.trans hv1, A2.to (by simp)⟩

theorem Reps.createAll {s : State} {a : AState} {i : Nat} {o : Obj} (A : Reps s a) (hi : a.objs i = some o)
    (hs : List Ptr) :
    ∃ o', o'.typed = o.typed ∧ o'.value = o.value ∧ Reps (SP.createAll s i hs)
      { a with objs := updF a.objs i (some o'), hs := updF a.hs i (a.hs i ++ hs), given := a.given ++ hs } := by
  induction hs generalizing s a o with
  | nil => exact ⟨o, rfl, rfl, A.to (by rw [← hi]; simp)⟩
  | cons h t ih =>
      obtain ⟨o1, ht1, hv1, A1⟩ := (A.handIn [h]).add hi h
      obtain ⟨o2, ht2, hv2, A2⟩ := ih A1 (updF_same _ _ _)
      exact ⟨o2, ht2.trans ht1, hv2.trans hv1, A2.to (by simp)⟩

theorem take_succ_getD {α} (l : List α) (n : Nat) (d : α) (hn : n < l.length) :
    l.take (n + 1) = l.take n ++ [l.getD n d] := by
  rw [List.take_add_one, List.getD_eq_getElem?_getD, List.getElem?_eq_getElem hn]; rfl

theorem handlesOf_length {s : State} {o : Obj} (w : ObjWf s o) : (handlesOf s o).length = o.cf / 2 := by
  by_cases hf : o.cf % 2 = 1
  · obtain ⟨c, hg, hlen, hle, -⟩ := w.ext_ok hf
    rw [handlesOf_ext hf hg, List.length_take]; omega
  · have := w.inl_le (by omega)
    rw [handlesOf_inl hf, List.length_take, w.inl_len]; omega

theorem handlesOf_pop {s : State} {o : Obj} (w : ObjWf s o) (hc : o.cf / 2 ≠ 0) :
    handlesOf s o = handlesOf s { o with cf := o.cf - 2 } ++ [popValue s o] := by
  have hl := handlesOf_length w
  have hp : (o.cf - 2) % 2 = o.cf % 2 := by omega
  have hd : o.cf / 2 = (o.cf - 2) / 2 + 1 := by omega
  have hd' : o.cf / 2 - 1 = (o.cf - 2) / 2 := by omega
  simp only [handlesOf, popValue, hp, hd'] at hl ⊢
  split
  · next hf =>
    simp only [hf, if_true, List.length_take] at hl
    rw [hd]; exact take_succ_getD _ _ _ (by omega)
  · next hf =>
    simp only [hf, if_false, List.length_take] at hl
    rw [hd]; exact take_succ_getD _ _ _ (by omega)

theorem handles_pop {s : State} (O : Own s) {i : Nat} {o : Obj} (hi : s.obj i = some o) (hc : o.cf / 2 ≠ 0) :
    handles s i = handlesOf s { o with cf := o.cf - 2 } ++ [popValue s o] := by
  simp only [handles, hi]; exact handlesOf_pop (O.wf i o hi) hc

theorem handlesOf_shrink (s : State) {o : Obj} {m : Nat} (hm : m ≤ o.cf / 2) :
    handlesOf s { o with cf := o.cf - 2 * m } = (handlesOf s o).take (o.cf / 2 - m) := by
  simp only [handlesOf, show (o.cf - 2 * m) % 2 = o.cf % 2 by omega, show (o.cf - 2 * m) / 2 = o.cf / 2 - m by omega]
  split <;> simp only [List.take_take] <;> congr 1 <;> omega

/-- `_count_flag -= 2*m` -/
theorem Reps.shrink {s : State} {a : AState} (A : Reps s a) {i : Nat} {o : Obj} (hi : a.objs i = some o) (m : Nat)
    (hm : m ≤ o.cf / 2) :
    Reps (setObj s i (some { o with cf := o.cf - 2 * m })) { a with
      objs := updF a.objs i (some { o with cf := o.cf - 2 * m })
      hs := updF a.hs i (handlesOf s { o with cf := o.cf - 2 * m }) } := by
  have hi := (A.obj i).trans hi
  have w := A.own.wf i o hi
  have hp : (o.cf - 2 * m) % 2 = o.cf % 2 := by omega
  refine (objStep_same (o' := { o with cf := o.cf - 2 * m }) A.heap A.own hi hp rfl
    ⟨w.inl_len, fun hh => ?_, fun hh => ?_⟩).reps A
  · have := w.inl_le (hp ▸ hh)
    show (o.cf - 2 * m) / 2 ≤ 3; omega
  · obtain ⟨c, hg, hlen, hle, hpos⟩ := w.ext_ok (hp ▸ hh)
    exact ⟨c, hg, hlen, by show (o.cf - 2 * m) / 2 ≤ o.cap; omega, hpos⟩

theorem moveFrom_flag (oj : Obj) (t : Bool) (v : Option Nat) : (moveFrom oj t v).cf = oj.cf := by
  unfold moveFrom; split <;> rfl

theorem obj_stepMove {s : State} {i j : Nat} {oj : Obj} (hil : i < s.objs.length) (hj : s.obj j = some oj) (t : Bool)
    (v : Option Nat) (k : Nat) :
    (stepMove s i j t v oj).obj k
      = if k = j then some { oj with cf := 0 } else if k = i then some (moveFrom oj t v) else s.obj k := by
  simp only [stepMove]
  rw [obj_setObj _ j _ (by simpa using obj_lt hj), obj_setObj _ i _ hil]; rfl

theorem moveFrom_ext {oj : Obj} (hf : oj.cf % 2 = 1) (t : Bool) (v : Option Nat) : (moveFrom oj t v).ext = oj.ext := by
  simp [moveFrom, hf]

theorem moveFrom_wf {s : State} {oj : Obj} (w : ObjWf s oj) (t : Bool) (v : Option Nat) : ObjWf s (moveFrom oj t v) := by
  unfold moveFrom
  split
  · next hf => exact ⟨rfl, fun h => by simp_all, fun _ => w.ext_ok hf⟩
  · next hf => exact ⟨w.inl_len, w.inl_le, fun h => absurd h hf⟩

theorem own_move {s : State} {i j : Nat} {oj : Obj} (O : Own s) (hi : s.obj i = none) (hil : i < s.objs.length)
    (hj : s.obj j = some oj) (t : Bool) (v : Option Nat) : Own (stepMove s i j t v oj) := by
  have hij : i ≠ j := by intro e; subst e; rw [hi] at hj; cases hj
  have hobj := obj_stepMove hil hj t v
  have wj := O.wf j oj hj
  -- what was in slot `j` is found in slot `i`
  refine own_reindex O rfl (fun k => if k = i then j else k) (fun k => if k = j then i else k)
    (fun k ok hk => ?_) (fun k ok hk hf => ?_)
  · rw [hobj] at hk
    split at hk
    · cases hk; exact ⟨wj.zero, fun hf => by cases hf⟩
    · split at hk
      · next e =>
        cases hk
        refine ⟨moveFrom_wf wj t v, fun hf => ?_⟩
        rw [moveFrom_flag] at hf
        exact ⟨by simp [e], oj, by simp [e, hj], hf, (moveFrom_ext hf t v).symm⟩
      · next ej ei => exact ⟨O.wf k ok hk, fun hf => ⟨by simp [ei, ej], ok, by simpa [ei] using hk, hf, rfl⟩⟩
  · by_cases e : k = j
    · subst e
      rw [hj] at hk; cases hk
      exact ⟨moveFrom oj t v, by rw [hobj]; simp [hij], by rw [moveFrom_flag]; exact hf, moveFrom_ext hf t v⟩
    · have ei : k ≠ i := by intro e; subst e; rw [hi] at hk; cases hk
      exact ⟨ok, by rw [hobj]; simp [e, ei, hk], hf, rfl⟩

theorem Reps.move {s : State} {a : AState} (A : Reps s a) {i j : Nat} {oj : Obj} (hv : i < a.n ∧ a.objs i = none)
    (hj : a.objs j = some oj) (t : Bool) (v : Option Nat) :
    Reps (stepMove s i j t v oj) { a with
      objs := updF (updF a.objs i (some (moveFrom oj t v))) j (some { oj with cf := 0 })
      hs := updF (updF a.hs i (a.hs j)) j [] } := by
  obtain ⟨H, O, rfl⟩ := A
  obtain ⟨hil, hin⟩ := hv
  have hj : s.obj j = some oj := hj
  have hij : i ≠ j := by intro e; subst e; rw [show s.obj i = none from hin] at hj; cases hj
  have hobj := obj_stepMove hil hj t v
  refine ⟨{ H with }, own_move O hin hil hj t v, ?_⟩
  simp only [abs, show (stepMove s i j t v oj).objs.length = s.objs.length by simp [stepMove], AState.mk.injEq, true_and]
  refine ⟨funext hobj, funext fun k => ?_, rfl, rfl, rfl, rfl, rfl⟩
  unfold updF; split
  · next e => rw [e]; simp [handles, hobj j, handlesOf]
  · split
    · next e =>
      simp only [e, handles, hobj i, if_neg hij, if_true, hj, handlesOf, moveFrom_flag, cellsOf]
      unfold moveFrom
      split <;> rfl
    · next ej ei => exact handles_congr (by rw [hobj k]; simp [ei, ej]) (fun _ _ _ => rfl)

theorem Reps.merge {s : State} {a : AState} (A : Reps s a) {i j : Nat} {oi oj : Obj} (hi : a.objs i = some oi)
    (hj : a.objs j = some oj) (hij : i ≠ j) :
    ∃ oi', oi'.typed = oi.typed ∧ oi'.value = oi.value ∧ Reps (stepMerge s i j oj) { a with
      objs := updF (updF a.objs i (some oi')) j (some { oj with cf := 0 })
      hs := updF (updF a.hs i (a.hs i ++ a.hs j)) j [] } := by
  have hh := A.hsOf hj
  obtain ⟨oi', ht, hv, A1⟩ := A.addAll hi (handlesOf s oj)
  exact ⟨oi', ht, hv, (A1.clear (i := j) (o := oj) (by simp [updF_other _ _ (Ne.symm hij), hj])).to (by rw [hh])⟩

@[simp] theorem resumed_resumeAll (s : State) (hs : List Ptr) : resumed (resumeAll s hs) = resumed s ++ hs := by
  simp only [resumed, resumeAll, List.filterMap_append, filterMap_res_map]
@[simp] theorem resumed_enqueue (s : State) (hs : List Ptr) : resumed (enqueue s hs) = resumed s := rfl
@[simp] theorem resumed_flushAll (s : State) : resumed (flushAll s) = resumed s ++ s.queue := by
  simp only [resumed, flushAll, List.filterMap_append, filterMap_res_map]
@[simp] theorem resumed_flushUntil (s : State) (me : Ptr) :
    resumed (flushUntil s me) = resumed s ++ s.queue.take (s.queue.idxOf me + 1) := by
  simp only [resumed, flushUntil, List.filterMap_append, filterMap_res_map]

theorem Reps.suspendNow {s : State} {a : AState} (A : Reps s a) {i : Nat} {o : Obj} (hi : a.objs i = some o) :
    Reps (SP.suspendNow s i o) { a with
      objs := updF a.objs i (some { o with cf := 0 })
      hs := updF a.hs i []
      queue := a.queue ++ (if a.active then a.hs i else [])
      resumed := a.resumed ++ (if a.active then [] else a.hs i) } := by
  have hh := A.hsOf hi
  unfold SP.suspendNow
  by_cases hc : o.cf / 2 = 0
  · rw [if_pos hc]
    exact (A.clear hi).to (by simp [← hh, handlesOf, hc])
  · rw [if_neg hc, hh, A.active]
    cases ha : a.active with
    | true => exact ((A.enqueue _).clear hi).to (by simp [ha])
    | false => exact ((A.resumeAll _).clear hi).to (by simp [ha])

theorem Reps.dtor {s : State} {a : AState} (A : Reps s a) {i : Nat} {o : Obj} (hi : a.objs i = some o) :
    Reps (setObj (if o.cf = 0 then s else SP.suspendNow s i o) i none) { a with
      objs := updF a.objs i none
      hs := updF a.hs i []
      queue := a.queue ++ (if a.active then a.hs i else [])
      resumed := a.resumed ++ (if a.active then [] else a.hs i) } := by
  have hil : i < a.n := by rw [← A.eq]; exact obj_lt ((A.obj i).trans hi)
  split
  · next hz =>
    exact (A.setSlot hil none (fun o' h => by rw [hi] at h; cases h; rw [hz]; decide) (fun _ e => by cases e)).to
      (by simp [← A.hsOf hi, handlesOf, hz])
  · exact ((A.suspendNow hi).setSlot hil none (fun o' h => by simp at h; rw [← h]; exact fun h => by cases h) (fun _ e => by cases e)).to
      (by simp)

theorem count_take_drop (l : List Ptr) (n : Nat) (x : Ptr) : (l.take n).count x + (l.drop n).count x = l.count x := by
  rw [← List.count_append, List.take_append_drop]

/-- the ready queue when `await_suspend` returns -/
def awaitQ (s : State) (o : Obj) (me : Ptr) : List Ptr :=
  s.queue ++ (handlesOf s { o with cf := o.cf - 2 } ++ awaitExtra s o me)

theorem Reps.awaitQueue {t : State} {a : AState} (A : Reps t a) {i : Nat} {o : Obj} (hi : a.objs i = some o)
    (hc : o.cf / 2 ≠ 0) (me : Ptr) :
    Reps (SP.awaitQueue t i o me) { a with
      objs := updF a.objs i (some { o with cf := 0 })
      hs := updF a.hs i []
      given := a.given ++ awaitExtra t o me
      queue := a.queue ++ (handlesOf t { o with cf := o.cf - 2 } ++ awaitExtra t o me) } :=
  ((((A.shrink hi 1 (by omega)).handIn (awaitExtra t o me)).enqueue
    (handlesOf t { o with cf := o.cf - 2 } ++ awaitExtra t o me)).clear (i := i) (o := { o with cf := o.cf - 2 }) (by simp)).to
    (by simp)

/-- `co_await` on a non-empty suspend point.  Coroutine mode: the popped handle runs at once; if it is the awaiting
coroutine itself that is all, otherwise the scheduler runs the queue up to `me`.  Normal mode: everything runs. -/
theorem Reps.awaitObj {s : State} (A : Reps s (abs s)) {i : Nat} {o : Obj} (hi : s.obj i = some o) (hc : o.cf / 2 ≠ 0)
    (me : Ptr) :
    Reps (SP.awaitObj s i o me) { abs s with
      objs := updF s.obj i (some { o with cf := 0 })
      hs := updF (handles s) i []
      given := s.given ++ awaitExtra s o me
      resumed := SP.resumed s ++ [popValue s o] ++
        (if s.active then if popValue s o = me then [] else (awaitQ s o me).take ((awaitQ s o me).idxOf me + 1)
         else awaitQ s o me)
      queue := if s.active then if popValue s o = me then awaitQ s o me else (awaitQ s o me).drop ((awaitQ s o me).idxOf me + 1)
               else [] } := by
  unfold SP.awaitObj
  rw [if_neg hc]
  cases ha : s.active with
  | true =>
      simp only [if_true]
      split
      · exact ((A.awaitQueue hi hc me).resumeAll _).to (by simp [awaitQ, *])
      · exact (((A.awaitQueue hi hc me).resumeAll _).flushUntil me).to (by simp [awaitQ, *])
  | false =>
      exact (((((A.setActive true).awaitQueue hi hc me).resumeAll _).flushAll).setActive false).to
        (by simp [awaitQ, awaitExtra, handlesOf, cellsOf, popValue, ha])

theorem await_count {s : State} (A0 : Reps s (abs s)) {i : Nat} {o : Obj} (hi : s.obj i = some o) (hc : o.cf / 2 ≠ 0)
    (me x : Ptr) :
    (resumed (awaitObj s i o me)).count x + (awaitObj s i o me).queue.count x
      = (resumed s).count x + s.queue.count x + (handles s i).count x + (awaitExtra s o me).count x := by
  have A := A0.awaitObj hi hc me
  rw [A.resumed, A.queue]
  have hW : (awaitQ s o me).count x + [popValue s o].count x
      = s.queue.count x + (handles s i).count x + (awaitExtra s o me).count x := by
    simp only [awaitQ, handles_pop A0.own hi hc, List.count_append]; omega
  generalize awaitQ s o me = W at hW
  have := count_take_drop W (W.idxOf me + 1) x
  simp only [List.count_append]
  cases s.active
  · simp only [Bool.false_eq_true, if_false, List.count_nil]; omega
  · simp only [if_true]; split <;> (try simp only [List.count_nil]) <;> omega

theorem idxOf_append_right (q l : List Ptr) (x : Ptr) (h : x ∉ q) : (q ++ l).idxOf x = q.length + l.idxOf x := by
  simp [List.idxOf_append, h]; omega

theorem handles_snoc {s : State} (O : Own s) {i : Nat} {o : Obj} (hi : s.obj i = some o) {rest : List Ptr} {last : Ptr}
    (h : handles s i = rest ++ [last]) :
    o.cf / 2 ≠ 0 ∧ rest = handlesOf s { o with cf := o.cf - 2 } ∧ last = popValue s o := by
  have hc : o.cf / 2 ≠ 0 := fun hc => by rw [handles_of_count_zero hi hc] at h; simp at h
  have := List.append_inj' ((handles_pop O hi hc).symm.trans h) (by simp)
  exact ⟨hc, this.1.symm, by simpa using this.2.symm⟩

theorem obj_setVal {s : State} {i : Nat} {o : Obj} (hi : s.obj i = some o) (v : Option Nat) :
    (setVal s i v).obj = updF s.obj i (some { o with value := v }) := by
  simp only [setVal, hi, obj_setObj _ i _ (obj_lt hi)]

theorem Reps.setVal {s : State} {a : AState} (A : Reps s a) {i : Nat} {o : Obj} (hi : a.objs i = some o) (v : Option Nat) :
    Reps (SP.setVal s i v) { a with objs := updF a.objs i (some { o with value := v }) } := by
  have hi' := (A.obj i).trans hi
  have w := A.own.wf i o hi'
  rw [show SP.setVal s i v = setObj s i (some { o with value := v }) by simp only [SP.setVal, hi']]
  exact ((objStep_same (o' := { o with value := v }) A.heap A.own hi' rfl rfl ⟨w.inl_len, w.inl_le, w.ext_ok⟩).reps A).to
    (by rw [show handlesOf (setObj s i _) { o with value := v } = handlesOf s o from rfl, A.hsOf hi, updF_eta])

theorem addAllF_cases (i : Nat) (hs : List Ptr) : ∀ (s : State) (k m0 : Nat),
    addAllF s i hs k m0 = (addAll s i hs, none)
    ∨ ∃ pre suf, hs = pre ++ suf ∧ addAllF s i hs k m0 = (addAll s i pre, some (m0 + pre.length)) := by
  induction hs with
  | nil => intro s k m0; left; rfl
  | cons x t ih =>
      intro s k m0
      have next : ∀ k', addAllF (add s i x) i t k' (m0 + 1) = (addAll s i (x :: t), none)
          ∨ ∃ pre suf, x :: t = pre ++ suf
              ∧ addAllF (add s i x) i t k' (m0 + 1) = (addAll s i pre, some (m0 + pre.length)) := by
        intro k'
        rcases ih (add s i x) k' (m0 + 1) with h | ⟨pre, suf, e, h⟩
        · exact Or.inl h
        · exact Or.inr ⟨x :: pre, suf, by rw [e]; rfl, by rw [h, addAll_cons, List.length_cons]; congr 2; omega⟩
      cases ho : s.obj i with
      | none => left; simp only [addAllF, ho, addAll_none ho]
      | some o =>
          simp only [addAllF, ho]
          split
          · split
            · exact Or.inr ⟨[], x :: t, rfl, rfl⟩
            · exact next (k - 1)
          · exact next k

/-- under `std::bad_alloc` every `hs` is as before (the strong guarantee at the level of the handles), but not the
representation: the target may have moved to a bigger block on the way, hence `oi'` -/
theorem Reps.mergeF {s : State} {a : AState} (A : Reps s a) {i : Nat} {oi : Obj} (hi : a.objs i = some oi) (j : Nat)
    (oj : Obj) (k : Nat) :
    stepMergeF s i j oj k = (stepMerge s i j oj, Res.unit)
    ∨ ((stepMergeF s i j oj k).2 = Res.threw ∧ ∃ oi', oi'.typed = oi.typed ∧ oi'.value = oi.value
        ∧ Reps (stepMergeF s i j oj k).1 { a with objs := updF a.objs i (some oi') }) := by
  rcases addAllF_cases i (handlesOf s oj) s k 0 with h | ⟨pre, suf, -, h⟩
  · left; simp only [stepMergeF, h]; rfl
  · right
    simp only [stepMergeF, h, Nat.zero_add]
    -- `pre` was added, then the count is taken back by `pre.length`
    obtain ⟨o1, ht, hv, A1⟩ := A.addAll hi pre
    have h1 : (SP.addAll s i pre).obj i = some o1 := (A1.obj i).trans (updF_same _ _ _)
    have hh : handlesOf (SP.addAll s i pre) o1 = a.hs i ++ pre := (A1.hsOf (updF_same _ _ _)).trans (updF_same _ _ _)
    have hlen : o1.cf / 2 = (a.hs i).length + pre.length := by
      rw [← handlesOf_length (A1.own.wf i o1 h1), hh, List.length_append]
    rw [show undoAdds (SP.addAll s i pre) i pre.length = setObj (SP.addAll s i pre) i (some { o1 with cf := o1.cf - 2 * pre.length })
      by simp only [undoAdds, h1]]
    refine ⟨trivial, { o1 with cf := o1.cf - 2 * pre.length }, ht, hv, (A1.shrink (updF_same _ _ _) pre.length (by omega)).to ?_⟩
    rw [handlesOf_shrink _ (by omega), hh, hlen, Nat.add_sub_cancel, List.take_left']
    · simp
    · rfl

theorem Reps.call {s : State} (A : Reps s (abs s)) (hs : List Ptr) (j : Option Nat) (hj : callRefused s j = false) :
    Reps (stepCall s hs j) { abs s with
      objs := match (generalizing := false) j with
        | some jj => updF s.obj jj ((s.obj jj).map ({ · with cf := 0 }))
        | none => s.obj
      hs := match (generalizing := false) j with | some jj => updF (handles s) jj [] | none => handles s
      given := s.given ++ hs
      resumed := SP.resumed s ++ s.queue ++ hs
        ++ (match (generalizing := false) j with | some jj => handles s jj | none => [])
      queue := [] } := by
  have R := (A.setActive true).ready hs
  cases j with
  | none => exact ((R.flushAll).setActive s.active).to (by simp)
  | some jj =>
      cases ho : s.obj jj with
      | none => simp [callRefused, ho] at hj
      | some o =>
          rw [show stepCall s hs (some jj)
              = { SP.flushAll (SP.suspendNow (SP.ready { s with active := true } hs) jj o) with active := s.active } by
            simp only [stepCall, callBody, show ({ s with active := true } : State).obj jj = some o from ho]]
          exact (((R.suspendNow (i := jj) ho).flushAll).setActive s.active).to (by simp [ho])

/-- the value stays except under the implicit member-wise move operations of `suspend_point<X>`: the target of a typed
move-assignment gets the source's value, the source of a typed move construction / move-assignment is left without -/
def ValStep (s : State) (op : Op) (k : Nat) (o o' : Obj) : Prop :=
  o'.typed = o.typed ∧
  (o'.value = o.value
   ∨ (∃ j oj, op = Op.assign k j ∧ j ≠ k ∧ s.obj j = some oj ∧ o.typed = true ∧ oj.typed = true ∧ o'.value = oj.value)
   ∨ (o.typed = true ∧ o'.value = none
      ∧ ((∃ i, op = Op.mov i k) ∨ ∃ i oi, op = Op.assign i k ∧ i ≠ k ∧ s.obj i = some oi ∧ oi.typed = true)))

def ValFrame (s : State) (op : Op) (g : Nat → Option Obj) : Prop :=
  ∀ k o o', s.obj k = some o → g k = some o' → ValStep s op k o o'

theorem ValFrame.refl {s : State} {op : Op} : ValFrame s op s.obj := fun k o o' h1 h2 => by
  rw [h1] at h2; cases h2; exact ⟨rfl, .inl rfl⟩

theorem ValFrame.updF {s : State} {op : Op} {g : Nat → Option Obj} (V : ValFrame s op g) {i : Nat} {x : Option Obj}
    (hx : ∀ o o', s.obj i = some o → x = some o' → ValStep s op i o o') : ValFrame s op (updF g i x) := by
  intro k o o' h1 h2
  unfold SP.updF at h2; split at h2
  · next e => subst e; exact hx o o' h1 h2
  · exact V k o o' h1 h2

/-- the condition of `ValFrame.updF` for a slot that held `o` and now holds `o'` -/
theorem same_val {s : State} {op : Op} {i : Nat} {o o' : Obj} (hi : s.obj i = some o) (ht : o'.typed = o.typed)
    (hv : o'.value = o.value) : ∀ o1 o1', s.obj i = some o1 → some o' = some o1' → ValStep s op i o1 o1' :=
  fun o1 o1' h1 h2 => by rw [hi] at h1; cases h1; cases h2; exact ⟨ht, .inl hv⟩

structure Keeps (s : State) (op : Op) (s' : State) : Prop where
  inv : Inv s'
  len : s'.objs.length = s.objs.length
  active : s'.active = s.active
  val : ValFrame s op s'.obj

theorem Keeps.refl {s : State} {op : Op} (I : Inv s) : Keeps s op s := ⟨I, rfl, rfl, .refl⟩

/-- `bal` is conservation in `a'` minus conservation in `s` (`I.conserve`), every term moved to the side where it is added -/
theorem Reps.keeps {s s' : State} {op : Op} {a' : AState} (I : Inv s) (A : Reps s' a') (hn : a'.n = s.objs.length)
    (ha : a'.active = s.active) (V : ValFrame s op a'.objs) (idle : s.active = false → a'.queue = [])
    (bal : ∀ x, a'.given.count x + (held s).count x + s.queue.count x + (SP.resumed s).count x + s.popped.count x
       = s.given.count x + (heldAll a'.hs s.objs.length).count x + a'.queue.count x + a'.resumed.count x
         + a'.popped.count x) : Keeps s op s' :=
  ⟨A.inv ⟨fun h => idle (ha ▸ h), fun x => by have := I.conserve x; have := bal x; rw [hn]; omega⟩, A.len.trans hn,
    A.active.trans ha, fun k => by rw [A.obj]; exact V k⟩

theorem Reps.keeps0 {s s' : State} {op : Op} {X : Nat → Option Obj} {G Q R P : List Ptr} (I : Inv s)
    (A : Reps s' { abs s with objs := X, given := G, queue := Q, resumed := R, popped := P }) (V : ValFrame s op X)
    (idle : s.active = false → Q = [])
    (bal : ∀ x, G.count x + s.queue.count x + (SP.resumed s).count x + s.popped.count x
       = s.given.count x + Q.count x + R.count x + P.count x) : Keeps s op s' :=
  A.keeps I rfl rfl V idle fun x => by have := bal x; simp only [held, abs_hs]; omega

theorem Reps.keeps1 {s s' : State} {op : Op} {X : Nat → Option Obj} {l G Q R P : List Ptr} (I : Inv s) {i : Nat}
    (hi : i < s.objs.length)
    (A : Reps s' { abs s with objs := X, hs := updF (handles s) i l, given := G, queue := Q, resumed := R, popped := P })
    (V : ValFrame s op X) (idle : s.active = false → Q = [])
    (bal : ∀ x, G.count x + (handles s i).count x + s.queue.count x + (SP.resumed s).count x + s.popped.count x
       = s.given.count x + l.count x + Q.count x + R.count x + P.count x) : Keeps s op s' :=
  A.keeps I rfl rfl V idle fun x => by
    have := bal x
    have := count_heldAll_updF (H := handles s) hi l x
    simp only [held]; omega

theorem Reps.keeps2 {s s' : State} {op : Op} {X : Nat → Option Obj} (I : Inv s) {i j : Nat} (hij : i ≠ j)
    (hi : i < s.objs.length) (hj : j < s.objs.length) {l l' : List Ptr}
    (A : Reps s' { abs s with objs := X, hs := updF (updF (handles s) i l) j l' }) (V : ValFrame s op X)
    (bal : ∀ x, (handles s i).count x + (handles s j).count x = l.count x + l'.count x) : Keeps s op s' :=
  A.keeps I rfl rfl V I.idle fun x => by
    have := bal x
    have := count_heldAll_updF (H := handles s) hi l x
    have := count_heldAll_updF (H := updF (handles s) i l) hj l' x
    rw [updF_other _ _ (Ne.symm hij)] at this
    simp only [held, abs_given, abs_queue, abs_resumed, abs_popped]; omega

theorem ctor_keeps {s : State} {op : Op} (I : Inv s) {i : Nat} (hv : vacant s i = true) (o0 : Obj)
    (h0 : ¬ o0.cf % 2 = 1 ∧ o0.inl.length = 3 ∧ o0.cf / 2 ≤ 3) {g : List Ptr} (hg : g = s.given ++ o0.inl.take (o0.cf / 2)) :
    Keeps s op (setObj { s with given := g } i (some o0)) := by
  subst hg
  have V := vacant_iff.1 hv
  exact ((I.reps.handIn (o0.inl.take (o0.cf / 2))).ctor V o0 h0).keeps1 I V.1
    (.updF .refl (fun o _ h => by rw [V.2] at h; cases h)) I.idle (fun x => by simp [handles_none V.2])

theorem addH_keeps {s : State} {op : Op} (I : Inv s) {i : Nat} {o : Obj} (hi : s.obj i = some o) (h : Ptr) :
    Keeps s op (add { s with given := s.given ++ [h] } i h) := by
  obtain ⟨o', ht, hv, A⟩ := (I.reps.handIn [h]).add hi h
  exact A.keeps1 I (obj_lt hi) (.updF .refl (same_val hi ht hv)) I.idle (fun x => by simp; omega)

theorem move_keeps {s : State} {op : Op} (I : Inv s) {i j : Nat} {oj : Obj} (hv : vacant s i = true) (hj : s.obj j = some oj)
    (t : Bool) (v : Option Nat) : Keeps s op (stepMove s i j t v oj) := by
  have V := vacant_iff.1 hv
  exact Reps.keeps2 I (fun e => by rw [← e, V.2] at hj; cases hj) V.1 (obj_lt hj) (I.reps.move V hj t v)
    (.updF (.updF .refl (fun o _ h => by rw [V.2] at h; cases h)) (same_val hj rfl rfl))
    (fun x => by simp [handles_none V.2])

theorem merge_keeps {s : State} {op : Op} (I : Inv s) {i j : Nat} {oi oj : Obj} (hi : s.obj i = some oi) (hj : s.obj j = some oj)
    (hij : i ≠ j) : Keeps s op (stepMerge s i j oj) := by
  obtain ⟨oi', ht, hv, A⟩ := I.reps.merge hi hj hij
  exact Reps.keeps2 I hij (obj_lt hi) (obj_lt hj) A (.updF (.updF .refl (same_val hi ht hv)) (same_val hj rfl rfl))
    (fun x => by simp)

theorem call_keeps {s : State} {op : Op} (I : Inv s) (hs : List Ptr) (j : Option Nat) (hj : callRefused s j = false) :
    Keeps s op (stepCall s hs j) := by
  have A := I.reps.call hs j hj
  cases j with
  | none => exact A.keeps0 I .refl (fun _ => rfl) (fun x => by simp; omega)
  | some jj =>
      cases ho : s.obj jj with
      | none => simp [callRefused, ho] at hj
      | some o =>
          exact A.keeps1 I (obj_lt ho)
            (.updF .refl (fun o1 o1' h1 h2 => by rw [h1] at h2; cases h2; exact ⟨rfl, .inl rfl⟩)) (fun _ => rfl)
            (fun x => by simp; omega)

theorem stepF_spec {s : State} {op : Op} (I : Inv s) (f : FOp) : Keeps s op (stepF s f).1 := by
  cases f with
  | addF i h =>
      simp only [stepF]
      split
      · next o hi =>
        split
        · exact .refl I
        · exact addH_keeps I hi h
      · exact .refl I
  | mergeF i j k =>
      simp only [stepF]
      split
      · next oi oj hi hj =>
        split
        · exact .refl I
        · next hij =>
          rcases I.reps.mergeF hi j oj k with e | ⟨-, oi', ht, hv, A⟩
          · rw [e]; exact merge_keeps I hi hj hij
          · exact A.keeps0 I (.updF .refl (same_val hi ht hv)) I.idle (fun x => rfl)
      · exact .refl I
  | call hs j throws =>
      simp only [stepF]
      split
      · exact .refl I
      · next hj => exact call_keeps I hs j (by simpa using hj)
  | createX hs =>
      simp only [stepF]
      split
      · next ha =>
        exact (I.reps.ready hs).keeps0 I .refl (fun h => by rw [ha] at h; cases h) (fun x => by simp; omega)
      · exact call_keeps I hs none rfl
  | isActive => exact .refl I

theorem step_spec {s : State} (I : Inv s) (op : Op) : Keeps s op (step s op).1 := by
  have same : Keeps s op s := .refl I
  have A0 := I.reps
  cases op with
  | fault f => exact stepF_spec I f
  | ctor i | ctorV i v =>
      simp only [step]; split
      · next hv => exact ctor_keeps I hv _ (by simp) (g := s.given) (by simp)
      · exact same
  | ctorH i h | ctorHV i h v =>
      simp only [step]; split
      · next hv => exact ctor_keeps I hv _ (by simp) (by simp)
      · exact same
  | ctorSV i j v | movBase i j =>
      simp only [step]; split
      · split
        · exact move_keeps I ‹_› ‹_› _ _
        · exact same
      · exact same
  | mov i j =>
      simp only [step]; split
      · next oj hj =>
        split
        · next hv =>
          split
          · next htj =>
            -- `value(std::move(other.value))`
            have V := vacant_iff.1 hv
            have A := (A0.move V hj oj.typed oj.value).setVal (updF_same _ _ _) none
            refine A.keeps2 I (fun e => by rw [← e, V.2] at hj; cases hj) V.1 (obj_lt hj) ?_
              (fun x => by simp [handles_none V.2])
            exact .updF (.updF (.updF .refl (fun o _ h => by rw [V.2] at h; cases h)) (same_val (o' := { oj with cf := 0 }) hj rfl rfl))
              (fun o o' h1 h2 => by
                rw [hj] at h1; cases h1; cases h2; exact ⟨rfl, .inr (.inr ⟨htj, rfl, .inl ⟨i, rfl⟩⟩)⟩)
          · exact move_keeps I hv hj _ _
        · exact same
      · exact same
  | merge i j =>
      simp only [step]; split
      · split
        · exact same
        · exact merge_keeps I ‹_› ‹_› ‹_›
      · exact same
  | assign i j =>
      simp only [step]; split
      · next oi oj hi hj =>
        split
        · exact same
        · next hij =>
          split
          · exact same
          · next hcomp =>
            split
            · next hti =>
              -- base `operator=` (the merge), then `value = std::move(other.value)`
              have htj : oj.typed = true := by
                cases h : oj.typed with
                | true => rfl
                | false => simp [hti, h] at hcomp
              obtain ⟨oi', ht, hv, A⟩ := A0.merge hi hj hij
              have A := (A.setVal (o := oi') ((updF_other _ _ hij).trans (updF_same _ _ _)) oj.value).setVal
                (o := { oj with cf := 0 }) ((updF_other _ _ (Ne.symm hij)).trans (updF_same _ _ _)) none
              refine A.keeps2 I hij (obj_lt hi) (obj_lt hj) ?_ (fun x => by simp)
              exact .updF (.updF (.updF (.updF .refl (same_val hi ht hv)) (same_val (o' := { oj with cf := 0 }) hj rfl rfl))
                (fun o o' h1 h2 => by
                  rw [hi] at h1; cases h1; cases h2
                  exact ⟨ht, .inr (.inl ⟨j, oj, rfl, Ne.symm hij, hj, hti, htj, rfl⟩)⟩))
                (fun o o' h1 h2 => by
                  rw [hj] at h1; cases h1; cases h2
                  exact ⟨rfl, .inr (.inr ⟨htj, rfl, .inr ⟨i, oi, rfl, hij, hi, hti⟩⟩)⟩)
            · exact merge_keeps I hi hj hij
      · exact same
  | addH i h =>
      simp only [step]; split
      · next o hi => exact addH_keeps I hi h
      · exact same
  | pop i =>
      simp only [step]; split
      · next o hi =>
        split
        · exact same
        · next hc =>
          exact ((A0.shrink hi 1 (by omega)).handBack [popValue s o]).keeps1 I (obj_lt hi)
            (.updF .refl (same_val hi rfl rfl)) I.idle (fun x => by rw [handles_pop I.own hi hc]; simp; omega)
      · exact same
  | clear i =>
      simp only [step]; split
      · next o hi =>
        exact (A0.suspendNow hi).keeps1 I (obj_lt hi) (.updF .refl (same_val hi rfl rfl))
          (fun ha => by simp [ha, I.idle ha]) (fun x => by cases h : s.active <;> simp [h] <;> omega)
      · exact same
  | dtor i =>
      simp only [step]; split
      · next o hi =>
        exact (A0.dtor hi).keeps1 I (obj_lt hi) (.updF .refl (fun _ _ _ h => by cases h))
          (fun ha => by simp [ha, I.idle ha]) (fun x => by cases h : s.active <;> simp [h] <;> omega)
      · exact same
  | await i me =>
      simp only [step]; split
      · next o hi =>
        by_cases hc : o.cf / 2 = 0
        · rw [awaitObj, if_pos hc]; exact same
        · have A := A0.awaitObj hi hc me
          refine A.keeps1 I (obj_lt hi) (.updF .refl (same_val hi rfl rfl)) (fun ha => by simp [ha])
            (fun x => ?_)
          have := await_count A0 hi hc me x
          rw [A.resumed, A.queue] at this
          simp only [List.count_append, List.count_nil, abs_popped] at this ⊢
          omega
      · exact same
  | yield me =>
      simp only [step]; split
      · next ha =>
        refine (((A0.handIn [me]).enqueue [me]).flushUntil me).keeps0 I .refl
          (fun h => by rw [ha] at h; cases h) (fun x => ?_)
        have := count_take_drop (s.queue ++ [me]) ((s.queue ++ [me]).idxOf me + 1) x
        simp only [List.count_append, abs_queue, abs_given, abs_resumed, abs_popped] at this ⊢
        omega
      · exact same
  | size i | empty i | value i | conv i | cconv i | ares i =>
      simp only [step]; split <;> (try split) <;> exact same
  | finish =>
      simp only [step]; split
      · exact A0.flushAll.keeps0 I .refl (fun _ => rfl) (fun x => by simp; omega)
      · exact same
  | create i hs v =>
      simp only [step]; split
      · next hv =>
        have V := vacant_iff.1 hv
        obtain ⟨o', -, -, A⟩ := (A0.ctor V { typed := v.isSome, value := v } (by simp)).createAll
          (updF_same _ _ _) hs
        exact (A.to (b := { abs s with objs := updF s.obj i (some o'), hs := updF (handles s) i hs, given := s.given ++ hs })
          (by simp)).keeps1 I V.1 (.updF .refl (fun o _ h => by rw [V.2] at h; cases h)) I.idle
          (fun x => by simp [handles_none V.2])
      · exact same

theorem inv_step {s : State} (I : Inv s) (op : Op) : Inv (step s op).1 := (step_spec I op).inv

theorem step_len {s : State} (I : Inv s) (op : Op) : (step s op).1.objs.length = s.objs.length := (step_spec I op).len

theorem inv_run {s : State} (I : Inv s) (ops : List Op) : Inv (run s ops) := by
  induction ops generalizing s with
  | nil => exact I
  | cons op t ih => exact ih (inv_step I op)

theorem run_append (s : State) (a b : List Op) : run s (a ++ b) = run (run s a) b := by
  simp [run, List.foldl_append]

theorem run_len {s : State} (I : Inv s) (ops : List Op) : (run s ops).objs.length = s.objs.length := by
  induction ops generalizing s with
  | nil => rfl
  | cons op t ih => exact (ih (inv_step I op)).trans (step_len I op)

theorem dtor_none {s : State} (I : Inv s) (i : Nat) :
    (step s (Op.dtor i)).1.obj i = none ∧ ∀ k, k ≠ i → (step s (Op.dtor i)).1.obj k = s.obj k := by
  simp only [step]
  split
  · have D := I.reps.dtor ‹_›
    exact ⟨(D.obj i).trans (updF_same _ _ _), fun k hk => (D.obj k).trans (updF_other _ _ hk)⟩
  · exact ⟨‹_›, fun _ _ => rfl⟩

theorem run_dtors {s : State} (I : Inv s) (m : Nat) :
    Inv (run s ((List.range m).map Op.dtor)) ∧ ∀ k, k < m → (run s ((List.range m).map Op.dtor)).obj k = none := by
  induction m with
  | zero => exact ⟨I, fun k hk => by omega⟩
  | succ m ih =>
      obtain ⟨I1, h1⟩ := ih
      rw [List.range_succ, List.map_append, run_append]
      generalize run s ((List.range m).map Op.dtor) = t at I1 h1
      have D := dtor_none I1 m
      show Inv (step t (Op.dtor m)).1 ∧ ∀ k, k < m + 1 → (step t (Op.dtor m)).1.obj k = none
      refine ⟨inv_step I1 _, fun k hk => ?_⟩
      by_cases ek : k = m
      · rw [ek]; exact D.1
      · rw [D.2 k ek]; exact h1 k (by omega)

theorem end_state {s : State} (I : Inv s) :
    Inv (run s (endOps s.objs.length)) ∧ (∀ k, (run s (endOps s.objs.length)).obj k = none)
    ∧ (run s (endOps s.objs.length)).queue = [] := by
  unfold endOps
  rw [run_append]
  obtain ⟨I1, h1⟩ := run_dtors I s.objs.length
  have hl := run_len I ((List.range s.objs.length).map Op.dtor)
  generalize run s ((List.range s.objs.length).map Op.dtor) = t at I1 h1 hl
  have hnone : ∀ k, t.obj k = none := by
    intro k
    by_cases hk : k < s.objs.length
    · exact h1 k hk
    · exact obj_ge (by omega)
  show Inv (step t Op.finish).1 ∧ (∀ k, (step t Op.finish).1.obj k = none) ∧ (step t Op.finish).1.queue = []
  refine ⟨inv_step I1 _, ?_, ?_⟩
  · intro k; simp only [step]; split <;> exact hnone k
  · simp only [step]; split
    · rfl
    · exact I1.idle (by simpa using ‹¬ t.active = true›)

theorem end_of_life (n : Nat) (a : Bool) (ops : List Op) :
    Inv (run (init n a) (ops ++ endOps n)) ∧ (∀ k, (run (init n a) (ops ++ endOps n)).obj k = none)
    ∧ (run (init n a) (ops ++ endOps n)).queue = [] := by
  have E := end_state (inv_run (inv_init n a) ops)
  rwa [run_len (inv_init n a), show (init n a).objs.length = n by simp [init], ← run_append] at E

end Cocls.SP
