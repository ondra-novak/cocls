import CoclsModel.Async
/-!
Invariant of the `async<T>` life-cycle model (`Async.lean`), preserved by every step.  `Inv` is read pairwise
(`Rel`: one coroutine record against one future record), so that a transition owes `Rel` only for the records it replaces:
one coroutine record against the unchanged futures (`Inv.updateCo`; when the binding stays, `Rel.setCo` and `next_setCo`),
or one future record, with coroutine records whose bindings stay (`Inv.update`).  Every operation is a composition of such
transitions; for each, `Next s t` says that `Inv` holds again and that `t` continues `s` (`Ext`, which follows the model's
own `setFut` / `resolve` / `setCo`, except that a fresh future and its binding go together: `AllBound` fails in between).
-/
namespace Cocls.Async

@[simp] theorem upd_same {α} (m : Nat → α) (i : Nat) (v : α) : upd m i v i = v := by simp [upd]
theorem upd_apply {α} (m : Nat → α) (i j : Nat) (v : α) : upd m i v j = if j = i then v else m j := rfl
theorem upd_ne {α} (m : Nat → α) {i j : Nat} (v : α) (h : j ≠ i) : upd m i v j = m j := by simp [upd, h]
theorem upd_upd {α} (m : Nat → α) (i : Nat) (v w : α) : upd (upd m i v) i w = upd m i w := by
  funext j; simp only [upd]; split <;> rfl

@[simp] theorem newFut_co (s : State) (o : Option Nat) (w : List Nat) (op : Bool) : (newFut s o w op).co = s.co := rfl
@[simp] theorem newFut_nextFut (s : State) (o : Option Nat) (w : List Nat) (op : Bool) :
    (newFut s o w op).nextFut = s.nextFut + 1 := rfl
@[simp] theorem newFut_nExt (s : State) (o : Option Nat) (w : List Nat) (op : Bool) : (newFut s o w op).nExt = s.nExt := rfl
theorem newFut_fut_new (s : State) (o : Option Nat) (w : List Nat) (op : Bool) :
    (newFut s o w op).fut s.nextFut = { claimed := true, owner := o, waiters := w, cb := op, isOp := op } := by
  simp [newFut, setFut]

theorem create_co_ne (s : State) {c j : Nat} (h : c ≠ j) : (create s j).co c = s.co c := by
  simp [create, setCo, upd_ne _ _ h]
theorem create_st (s : State) (j : Nat) : ((create s j).co j).st = St.unstarted := by simp [create, setCo]
theorem startCoro_co_ne (s : State) {c j : Nat} (b : Option Nat) (h : c ≠ j) : (startCoro s j b).co c = s.co c := by
  simp [startCoro, setCo, upd_ne _ _ h]
@[simp] theorem create_nextFut (s : State) (j : Nat) : (create s j).nextFut = s.nextFut := rfl
@[simp] theorem create_nExt (s : State) (j : Nat) : (create s j).nExt = s.nExt := rfl
@[simp] theorem create_fut (s : State) (j : Nat) : (create s j).fut = s.fut := rfl
@[simp] theorem startCoro_nextFut (s : State) (j : Nat) (b : Option Nat) : (startCoro s j b).nextFut = s.nextFut := rfl
@[simp] theorem startCoro_nExt (s : State) (j : Nat) (b : Option Nat) : (startCoro s j b).nExt = s.nExt := rfl
@[simp] theorem startCoro_fut (s : State) (j : Nat) (b : Option Nat) : (startCoro s j b).fut = s.fut := rfl

theorem spawnBound_co_ne (s : State) {c j : Nat} (x : Nat) (h : x ≠ j) : (spawnBound s c j).co x = s.co x := by
  simp [spawnBound, startCoro_co_ne _ _ h, create_co_ne _ h]

theorem spawnBound_fut (s : State) (c j : Nat) :
    (spawnBound s c j).fut s.nextFut = { claimed := true, owner := some c, waiters := [] } := by
  simpa [spawnBound] using newFut_fut_new (create s j) (some c) [] false

theorem wakeOne_zero (x : Coro) : wakeOne x 0 = x := by
  obtain ⟨st⟩ := x
  cases st <;> rfl

theorem finish_self (s : State) (c : Nat) (o : Outcome) :
    ((finish s c o).co c).st = St.done ∧ ((finish s c o).co c).outcome = some o
    ∧ ((finish s c o).co c).bound = (s.co c).bound := by
  unfold finish
  split
  · next hb => simp [retire, setCo, hb]
  · next f hb => simp [retire, setCo, deliver, resolve, setFut, wakeOne, hb]

def St.began : St → Bool
  | St.running | St.wantAwait _ _ | St.awaiting _ _ | St.resumable _ _ | St.yielded | St.done => true
  | _ => false
/-- the handle has left the `async` object -/
def St.started : St → Bool
  | St.absent | St.unstarted | St.dropped => false
  | _ => true
def St.freed : St → Bool
  | St.done | St.dropped => true
  | _ => false
def St.susp : St → Bool
  | St.awaiting _ _ => true
  | _ => false
def St.isAw (st : St) (f : Nat) : Bool := match st with | St.awaiting g _ => g == f | _ => false
def St.isRes (st : St) (f : Nat) : Bool := match st with | St.resumable g _ => g == f | _ => false
def St.refs (st : St) (f : Nat) : Bool :=
  match st with
  | St.awaiting g _ | St.wantAwait g _ | St.resumable g _ => g == f
  | _ => false
def St.active : St → Bool
  | St.running | St.wantAwait _ _ | St.resumable _ _ => true
  | _ => false
def St.mid : St → Bool
  | St.running | St.wantAwait _ _ | St.resumable _ _ | St.yielded => true
  | _ => false

theorem St.isAw_refs : ∀ {st : St} {f : Nat}, st.isAw f = true → st.refs f = true
  | .awaiting _ _, _, h => h
theorem St.isAw_of_norefs {st : St} {f : Nat} (h : st.refs f = false) : st.isAw f = false := by
  cases st <;> first | exact h | rfl
theorem St.isRes_of_norefs {st : St} {f : Nat} (h : st.refs f = false) : st.isRes f = false := by
  cases st <;> first | exact h | rfl
theorem St.mid_not_isAw : ∀ {st : St}, st.mid = true → ∀ f, st.isAw f = false
  | .running, _, _ | .wantAwait .., _, _ | .resumable .., _, _ | .yielded, _, _ => rfl
/-- all that `CoOk` asks about the state is the same for the states of an executing body -/
theorem St.mid_class : ∀ {st : St}, st.mid = true →
    st.began = true ∧ st.freed = false ∧ st.started = true ∧ st.susp = false ∧ st ≠ St.done ∧ st ≠ St.absent
  | .running, _ | .wantAwait .., _ | .resumable .., _ | .yielded, _ => ⟨rfl, rfl, rfl, rfl, nofun, nofun⟩
theorem St.mid_not_done {st : St} (h : st.mid = true) : st ≠ St.done := (St.mid_class h).2.2.2.2.1
theorem St.mid_not_freed {st : St} (h : st.mid = true) : st.freed = false := (St.mid_class h).2.1

theorem wakeOne_st_mid (x : Coro) (n : Nat) (hm : x.st.mid = true) : (wakeOne x n).st = x.st := by
  simp only [wakeOne]
  split
  · next e => rw [e] at hm; cases hm
  · rfl

/-- the ghost counters of one coroutine are a function of its life-cycle state `st`; the clause `Inv.co_ok` -/
structure CoOk (x : Coro) : Prop where
  body : x.bodyStarts = if x.st.began then 1 else 0
  frees : x.frameFrees = if x.st.freed then 1 else 0
  args : x.argDtors = x.frameFrees
  locals : x.localDtors = if x.st = St.done then 1 else 0
  allocs : x.allocs = if x.st = St.absent then 0 else 1
  starts : x.startsOk = if x.st.started then 1 else 0
  wake : x.wakes + (if x.st.susp then 1 else 0) = x.suspends
  outc : x.outcome.isSome = decide (x.st = St.done)
  deliv : x.deliveredTo = if x.st = St.done then x.bound.toList else []
  unb : x.st.started = false → x.bound = none
  notif : x.notifiedAtFree = if x.st = St.done then some true else none

/-- for a transition from a known state: the clauses of `h` are brought to the form `field = value` once, then every
clause is a computation -/
macro "co_tac" h:ident : tactic =>
  `(tactic| (cases $h:ident
             simp [*, St.began, St.freed, St.started, St.susp] at *
             constructor <;> simp [*, St.began, St.freed, St.started, St.susp]))

theorem coOk_default : CoOk {} := by
  constructor <;> simp [St.began, St.freed, St.started, St.susp]

theorem coOk_create (x : Coro) (p : List Act) (h : CoOk x) (hs : x.st = St.absent) :
    CoOk { x with st := St.unstarted, pc := p, allocs := x.allocs + 1 } := by co_tac h

theorem coOk_dropU (x : Coro) (h : CoOk x) (hs : x.st = St.unstarted) :
    CoOk { x with st := St.dropped, frameFrees := x.frameFrees + 1, argDtors := x.argDtors + 1 } := by co_tac h

theorem coOk_start (x : Coro) (b : Option Nat) (h : CoOk x) (hs : x.st = St.unstarted) :
    CoOk { x with st := St.scheduled, bound := b, startsOk := x.startsOk + 1 } := by co_tac h

theorem coOk_begin (x : Coro) (h : CoOk x) (hs : x.st = St.scheduled) :
    CoOk { x with st := St.running, bodyStarts := x.bodyStarts + 1 } := by co_tac h

theorem coOk_mid (x : Coro) (st : St) (p : List Act) (a : Nat) (w : List (Nat × Outcome)) (h : CoOk x)
    (hs : x.st.mid = true) (hs' : st.mid = true) :
    CoOk { x with st := st, pc := p, acc := a, saw := w } := by
  obtain ⟨b1, b2, b3, b4, b5, b6⟩ := St.mid_class hs
  obtain ⟨c1, c2, c3, c4, c5, c6⟩ := St.mid_class hs'
  cases h
  simp [*] at *
  constructor <;> simp [*]

theorem coOk_same (x : Coro) (p : List Act) (b : Option Nat) (h : CoOk x) (hb : b = x.bound) :
    CoOk { x with pc := p, bound := b } := by subst hb; exact { h with }

theorem coOk_subscribe (x : Coro) (f : Nat) (ct : Bool) (h : CoOk x) (hs : x.st.mid = true) :
    CoOk { x with st := St.awaiting f ct, suspends := x.suspends + 1 } := by
  obtain ⟨b1, b2, b3, b4, b5, b6⟩ := St.mid_class hs
  cases h
  simp [*] at *
  constructor <;> simp [*, St.began, St.freed, St.started, St.susp]

theorem coOk_wake (x : Coro) (f : Nat) (ct : Bool) (h : CoOk x) (hs : x.st = St.awaiting f ct) :
    CoOk { x with st := St.resumable f ct, wakes := x.wakes + 1 } := by co_tac h

/-- the record of a coroutine after `final_awaiter` -/
def retired (x : Coro) (o : Outcome) (to : List Nat) : Coro :=
  { x with st := St.done, outcome := some o, localDtors := x.localDtors + 1, deliveredTo := to ++ x.deliveredTo,
           notifiedAtFree := some true, frameFrees := x.frameFrees + 1, argDtors := x.argDtors + 1 }

theorem coOk_retire (x : Coro) (o : Outcome) (to : List Nat) (h : CoOk x) (hs : x.st.mid = true)
    (hto : to = x.bound.toList) : CoOk (retired x o to) := by
  obtain ⟨b1, b2, b3, b4, b5, b6⟩ := St.mid_class hs
  cases h
  simp [*] at *
  constructor <;> simp [*, retired, St.began, St.freed, St.started, St.susp]

structure Inv (s : State) : Prop where
  next_le : s.nExt ≤ s.nextFut
  co_ok : ∀ c, CoOk (s.co c)
  bound_lt : ∀ c f, (s.co c).bound = some f → f < s.nextFut ∧ (s.fut f).claimed = true
  bound_live : ∀ c f, (s.co c).bound = some f → (s.co c).st ≠ St.done →
      (s.fut f).ready = false ∧ (s.fut f).out = none ∧ (s.fut f).setBy = []
  bound_done : ∀ c f, (s.co c).bound = some f → (s.co c).st = St.done →
      (s.fut f).ready = true ∧ (s.fut f).out = (s.co c).outcome ∧ (s.fut f).setBy = [some c]
  bound_inj : ∀ c c' f, (s.co c).bound = some f → (s.co c').bound = some f → c = c'
  unbound_set : ∀ f, (∀ c, (s.co c).bound ≠ some f) →
      (s.fut f).setBy = [] ∨ ((s.fut f).setBy = [none] ∧ f < s.nExt ∧ (s.fut f).ready = true)
  ready_ok : ∀ f, (s.fut f).ready = true → (s.fut f).waiters = [] ∧ (s.fut f).claimed = true
  out_ready : ∀ f, (s.fut f).out ≠ none → (s.fut f).ready = true
  refs_lt : ∀ c f, (s.co c).st.refs f = true → f < s.nextFut
  waiters_count : ∀ c f, (s.fut f).waiters.count c = if (s.co c).st.isAw f then 1 else 0
  res_ready : ∀ c f, (s.co c).st.isRes f = true → (s.fut f).ready = true
  owner_only : ∀ c f, s.nExt ≤ f → (s.co c).st.refs f = true → (s.fut f).owner = some c

/-- what `Inv` says about one coroutine (index `c`, record `x`) and one future (index `f`, record `Y`) -/
structure Rel (nf ne c f : Nat) (x : Coro) (Y : Fut) : Prop where
  lt : x.bound = some f ∨ x.st.refs f = true → f < nf
  claimed : x.bound = some f → Y.claimed = true
  live : x.bound = some f → x.st ≠ St.done → Y.ready = false ∧ Y.out = none ∧ Y.setBy = []
  done : x.bound = some f → x.st = St.done → Y.ready = true ∧ Y.out = x.outcome ∧ Y.setBy = [some c]
  count : Y.waiters.count c = if x.st.isAw f then 1 else 0
  res : x.st.isRes f = true → Y.ready = true
  owner : ne ≤ f → x.st.refs f = true → Y.owner = some c

theorem Inv.rel {s : State} (h : Inv s) (c f : Nat) : Rel s.nextFut s.nExt c f (s.co c) (s.fut f) :=
  ⟨fun e => e.elim (fun e => (h.bound_lt c f e).1) (h.refs_lt c f), fun e => (h.bound_lt c f e).2, h.bound_live c f,
   h.bound_done c f, h.waiters_count c f, h.res_ready c f, h.owner_only c f⟩

theorem Inv.of_rel {s : State} (hn : s.nExt ≤ s.nextFut) (hk : ∀ c, CoOk (s.co c))
    (hr : ∀ c f, Rel s.nextFut s.nExt c f (s.co c) (s.fut f))
    (hi : ∀ c c' f, (s.co c).bound = some f → (s.co c').bound = some f → c = c')
    (hu : ∀ f, (∀ c, (s.co c).bound ≠ some f) →
      (s.fut f).setBy = [] ∨ ((s.fut f).setBy = [none] ∧ f < s.nExt ∧ (s.fut f).ready = true))
    (hro : ∀ f, (s.fut f).ready = true → (s.fut f).waiters = [] ∧ (s.fut f).claimed = true)
    (hor : ∀ f, (s.fut f).out ≠ none → (s.fut f).ready = true) : Inv s :=
  ⟨hn, hk, fun c f e => ⟨(hr c f).lt (.inl e), (hr c f).claimed e⟩, fun c f => (hr c f).live, fun c f => (hr c f).done,
   hi, hu, hro, hor, fun c f e => (hr c f).lt (.inr e), fun c f => (hr c f).count, fun c f => (hr c f).res,
   fun c f => (hr c f).owner⟩

theorem Rel.of_unrelated {nf ne c f : Nat} {x : Coro} {Y : Fut} (hb : x.bound ≠ some f) (hr : x.st.refs f = false)
    (hc : Y.waiters.count c = 0) : Rel nf ne c f x Y :=
  ⟨fun e => by simp [hb, hr] at e, fun e => absurd e hb, fun e => absurd e hb, fun e => absurd e hb,
   by simp [hc, St.isAw_of_norefs hr], fun e => by simp [St.isRes_of_norefs hr] at e, fun _ e => by simp [hr] at e⟩

/-- `hrefs`: a new reference only to a future it may await; `hd`: finished only if detached -/
theorem Rel.setCo {nf ne c f : Nat} {x x' : Coro} {Y : Fut} (r : Rel nf ne c f x Y) (hnd : x.st ≠ St.done)
    (hb : x'.bound = x.bound) (hd : x'.st = St.done → x'.bound = none) (haw : x'.st.isAw f = x.st.isAw f)
    (hrefs : x'.st.refs f = true → x.st.refs f = true ∨ (f < nf ∧ (ne ≤ f → Y.owner = some c)))
    (hres : x'.st.isRes f = true → Y.ready = true) : Rel nf ne c f x' Y where
  lt e := e.elim (fun e => r.lt (.inl (hb ▸ e))) fun e => (hrefs e).elim (fun e => r.lt (.inr e)) (·.1)
  claimed e := r.claimed (hb ▸ e)
  live e _ := r.live (hb ▸ e) hnd
  done e e' := by rw [hd e'] at e; cases e
  count := haw ▸ r.count
  res := hres
  owner hf e := (hrefs e).elim (r.owner hf) (·.2 hf)

theorem Inv.update {s : State} (h : Inv s) (co' : Nat → Coro) (f : Nat) (Y : Fut)
    (hb : ∀ y, (co' y).bound = (s.co y).bound) (hk : ∀ y, CoOk (co' y))
    (hf : ∀ y, Rel s.nextFut s.nExt y f (co' y) Y) (hg : ∀ y g, g ≠ f → Rel s.nextFut s.nExt y g (co' y) (s.fut g))
    (hs : (∀ y, (s.co y).bound ≠ some f) → Y.setBy = [] ∨ (Y.setBy = [none] ∧ f < s.nExt ∧ Y.ready = true))
    (hr : Y.ready = true → Y.waiters = [] ∧ Y.claimed = true) (ho : Y.out ≠ none → Y.ready = true) :
    Inv { s with co := co', fut := upd s.fut f Y } := by
  refine Inv.of_rel h.next_le hk (fun y g => ?_) (fun y y' g => ?_) (fun g hu => ?_) (fun g => ?_) (fun g => ?_)
    <;> simp only [upd_apply]
  · split
    · next e => exact e ▸ hf y
    · next e => exact hg y g e
  · rw [hb, hb]; exact h.bound_inj y y' g
  · have hu' : ∀ y, (s.co y).bound ≠ some g := fun y => hb y ▸ hu y
    split
    · next e => subst e; exact hs hu'
    · exact h.unbound_set g hu'
  · split
    · exact hr
    · exact h.ready_ok g
  · split
    · exact ho
    · exact h.out_ready g

theorem Inv.updateCo {s : State} (h : Inv s) (c : Nat) (x : Coro) (hk : CoOk x)
    (hr : ∀ f, Rel s.nextFut s.nExt c f x (s.fut f)) (hkeep : ∀ f, (s.co c).bound = some f → x.bound = some f)
    (hnew : ∀ f, x.bound = some f → (s.co c).bound = some f ∨ ∀ y, (s.co y).bound ≠ some f) : Inv (setCo s c x) := by
  refine Inv.of_rel h.next_le (fun y => ?_) (fun y f => ?_) (fun y y' f => ?_) (fun f hu => ?_) h.ready_ok h.out_ready
  · simp only [setCo, upd_apply]; split
    · exact hk
    · exact h.co_ok y
  · simp only [setCo, upd_apply]; split
    · next e => exact e ▸ hr f
    · exact h.rel y f
  · simp only [setCo, upd_apply]; split <;> split
    · next e e' => exact fun _ _ => e.trans e'.symm
    · next e _ => exact fun a b => (hnew f a).elim (fun a => e ▸ h.bound_inj c y' f a b) (absurd b <| · y')
    · next _ e => exact fun a b => (hnew f b).elim (fun b => e ▸ h.bound_inj y c f a b) (absurd a <| · y)
    · exact h.bound_inj y y' f
  · refine h.unbound_set f fun y e => hu y ?_
    simp only [setCo, upd_apply]; split
    · next e' => exact hkeep f (e' ▸ e)
    · exact e

theorem Inv.grow {s : State} (h : Inv s) : Inv { s with nextFut := s.nextFut + 1 } :=
  { h with
    next_le := Nat.le_succ_of_le h.next_le
    bound_lt := fun c f e => ⟨Nat.lt_succ_of_lt (h.bound_lt c f e).1, (h.bound_lt c f e).2⟩
    refs_lt := fun c f e => Nat.lt_succ_of_lt (h.refs_lt c f e) }

theorem Inv.unstarted_unbound {s : State} (h : Inv s) {c : Nat} (hc : (s.co c).st = St.unstarted) : (s.co c).bound = none :=
  (h.co_ok c).unb (by rw [hc]; rfl)

theorem Inv.unclaimed {s : State} (h : Inv s) (k : Nat) (hc : (s.fut k).claimed = false) :
    (∀ c, (s.co c).bound ≠ some k) ∧ (s.fut k).ready = false ∧ (s.fut k).out = none ∧ (s.fut k).setBy = [] := by
  have hub : ∀ c, (s.co c).bound ≠ some k := fun c hb => by
    have := (h.bound_lt c k hb).2; rw [hc] at this; cases this
  have hr : (s.fut k).ready = false := by
    cases hr : (s.fut k).ready
    · rfl
    · have := (h.ready_ok k hr).2; rw [hc] at this; cases this
  refine ⟨hub, hr, ?_, ?_⟩
  · cases ho : (s.fut k).out
    · rfl
    · have := h.out_ready k (by rw [ho]; simp); rw [hr] at this; cases this
  · rcases h.unbound_set k hub with e | e
    · exact e
    · rw [hr] at e; cases e.2.2

theorem inv_init (prog : Nat → List Act) (n : Nat) (cx : Bool → Nat → Option Nat := fun _ _ => none) :
    Inv (init prog n cx) := by
  constructor <;> simp [init, coOk_default, St.refs, St.isAw, St.isRes]

theorem Inv.bind {s : State} (h : Inv s) (c f : Nat) (hc : (s.co c).st = St.unstarted)
    (hf : f < s.nextFut) (hcl : (s.fut f).claimed = true) (hr : (s.fut f).ready = false)
    (ho : (s.fut f).out = none) (hs : (s.fut f).setBy = []) (hu : ∀ y, (s.co y).bound ≠ some f) :
    Inv (startCoro s c (some f)) := by
  have hb := h.unstarted_unbound hc
  refine h.updateCo c _ (coOk_start _ _ (h.co_ok c) hc) (fun g => ?_) (fun g e => by rw [hb] at e; cases e)
    fun g e => by cases e; exact .inr hu
  have r := h.rel c g
  exact {
    lt := fun e => e.elim (fun e => by cases e; exact hf) nofun
    claimed := fun e => by cases e; exact hcl
    live := fun e _ => by cases e; exact ⟨hr, ho, hs⟩
    done := fun _ e => nomatch e
    count := by simpa [hc, St.isAw] using r.count
    res := nofun
    owner := nofun }

/-- what `resolve f` does to one coroutine record, given the invariant `waiters.count = [isAw]` -/
def wk (x : Coro) (f : Nat) : Coro := wakeOne x (if x.st.isAw f then 1 else 0)

theorem resolve_co (s : State) (f : Nat) (h : Inv s) : (resolve s f).co = fun x => wk (s.co x) f := by
  funext x; simp only [resolve, wk, h.waiters_count x f]

@[simp] theorem wk_bound (x : Coro) (f : Nat) : (wk x f).bound = x.bound := rfl
@[simp] theorem wk_outcome (x : Coro) (f : Nat) : (wk x f).outcome = x.outcome := rfl

theorem wk_of_not (x : Coro) (f : Nat) (h : x.st.isAw f = false) : wk x f = x := by
  rw [wk, h]; exact wakeOne_zero x

theorem wk_of_aw (x : Coro) (f : Nat) (ct : Bool) (h : x.st = St.awaiting f ct) :
    wk x f = { x with st := St.resumable f ct, wakes := x.wakes + 1 } := by
  simp [wk, wakeOne, h, St.isAw]

theorem wk_cases (x : Coro) (f : Nat) :
    wk x f = x ∧ x.st.isAw f = false ∨ ∃ ct, x.st = St.awaiting f ct ∧ wk x f = { x with st := St.resumable f ct, wakes := x.wakes + 1 } := by
  cases hx : x.st.isAw f
  · exact .inl ⟨wk_of_not x f hx, rfl⟩
  · match hs : x.st, hx with
    | .awaiting g ct, hx =>
      obtain rfl : g = f := by simpa [St.isAw] using hx
      exact .inr ⟨ct, rfl, wk_of_aw x _ _ hs⟩

theorem coOk_wk (x : Coro) (f : Nat) (h : CoOk x) : CoOk (wk x f) := by
  rcases wk_cases x f with ⟨e, _⟩ | ⟨ct, hs, e⟩
  · rw [e]; exact h
  · rw [e]; exact coOk_wake x f ct h hs

theorem Rel.wake {nf ne c g : Nat} {x : Coro} {Y : Fut} (r : Rel nf ne c g x Y) {f : Nat} (hg : g ≠ f) :
    Rel nf ne c g (wk x f) Y := by
  rcases wk_cases x f with ⟨e, _⟩ | ⟨ct, hs, e⟩
  · rw [e]; exact r
  · have hfg : (f == g) = false := by simpa using Ne.symm hg
    rw [e]
    exact r.setCo (by simp [hs]) rfl (fun e => nomatch e) (by simp [hs, St.isAw, hfg])
      (fun e => by simp [St.refs, hfg] at e) (fun e => by simp [St.isRes, hfg] at e)

theorem Rel.wake_self {nf ne c f : Nat} {x : Coro} {Y0 Y : Fut} (r : Rel nf ne c f x Y0) (hb : x.bound ≠ some f)
    (hr : Y.ready = true) (hw : Y.waiters = []) (ho : Y.owner = Y0.owner) : Rel nf ne c f (wk x f) Y := by
  obtain ⟨hrefs, haw⟩ : (wk x f).st.refs f = x.st.refs f ∧ (wk x f).st.isAw f = false := by
    rcases wk_cases x f with ⟨e, hn⟩ | ⟨ct, hs, e⟩ <;> rw [e]
    · exact ⟨rfl, hn⟩
    · simp [hs, St.refs, St.isAw]
  exact {
    lt := fun e => r.lt (e.elim .inl fun e => .inr (hrefs ▸ e))
    claimed := fun e => absurd e hb
    live := fun e => absurd e hb
    done := fun e => absurd e hb
    count := by simp [hw, haw]
    res := fun _ => hr
    owner := fun hf e => ho ▸ r.owner hf (hrefs ▸ e) }

theorem resolve_setFut_eq (s : State) (f : Nat) (X : Fut) (h : Inv s) (hw : X.waiters = (s.fut f).waiters) :
    resolve (setFut s f X) f
      = { s with co := fun x => wk (s.co x) f,
                 fut := upd s.fut f { X with ready := true, waiters := [], cb := false,
                                             cbCalls := X.cbCalls + (if X.cb then 1 else 0) } } := by
  simp only [resolve, setFut, upd_same, upd_upd, hw, wk, h.waiters_count]

/-- a future after coroutine `c` delivered `o` into it and resolved it -/
def delivered (x : Fut) (c : Nat) (o : Outcome) : Fut :=
  { x with out := some o, setBy := some c :: x.setBy, ready := true, waiters := [], cb := false,
           cbCalls := x.cbCalls + (if x.cb then 1 else 0) }

theorem finish_bound_eq (s : State) (c f : Nat) (o : Outcome) (h : Inv s) (hm : (s.co c).st.mid = true) :
    retire (deliver s c f o) c o [f] ((deliver s c f o).fut f).ready
      = { s with co := upd (fun x => wk (s.co x) f) c (retired (s.co c) o [f]),
                 fut := upd s.fut f (delivered (s.fut f) c o) } := by
  have e := resolve_setFut_eq s f { s.fut f with out := some o, setBy := some c :: (s.fut f).setBy } h rfl
  simp only [deliver, e, retire, setCo, upd_same, wk_of_not _ f (St.mid_not_isAw hm f), retired, delivered]

def Frozen (x y : Coro) : Prop :=
  (x.st = St.dropped → y.st = St.dropped)
  ∧ (x.st = St.done → y.st = St.done ∧ y.outcome = x.outcome ∧ y.bound = x.bound)

theorem Frozen.refl (x : Coro) : Frozen x x := ⟨id, fun h => ⟨h, rfl, rfl⟩⟩
theorem Frozen.trans {x y z : Coro} (a : Frozen x y) (b : Frozen y z) : Frozen x z :=
  ⟨fun h => b.1 (a.1 h), fun h => by
    obtain ⟨h1, h2, h3⟩ := a.2 h
    obtain ⟨k1, k2, k3⟩ := b.2 h1
    exact ⟨k1, k2.trans h2, k3.trans h3⟩⟩
theorem Frozen.of_live {x y : Coro} (h : x.st.freed = false) : Frozen x y :=
  ⟨fun e => by simp [e, St.freed] at h, fun e => by simp [e, St.freed] at h⟩

def BLe (s t : State) : Prop :=
  (∀ c f, (s.co c).bound = some f → (t.co c).bound = some f) ∧ t.nextFut = s.nextFut ∧ t.nExt = s.nExt

theorem BLe.refl (s : State) : BLe s s := ⟨fun _ _ h => h, rfl, rfl⟩

/-- the futures from `nExt` on are those created for a coroutine (`start()`, `co_await child`) -/
def AllBound (s : State) : Prop := ∀ f, s.nExt ≤ f → f < s.nextFut → ∃ j, (s.co j).bound = some f

theorem ab_of_ble {s t : State} (h : AllBound s) (b : BLe s t) : AllBound t := by
  intro f h1 h2
  rw [b.2.2] at h1; rw [b.2.1] at h2
  obtain ⟨j, hj⟩ := h f h1 h2
  exact ⟨j, b.1 j f hj⟩

theorem ab_init (prog : Nat → List Act) (n : Nat) (cx : Bool → Nat → Option Nat := fun _ _ => none) :
    AllBound (init prog n cx) := by
  intro f h1 h2; simp [init] at h1 h2; omega

/-- the completion callback of an operation's result future is called exactly once, by the resolution -/
def FutCb (x : Fut) : Prop :=
  x.cbCalls = (if x.isOp && x.ready then 1 else 0) ∧ x.cb = (x.isOp && !x.ready)

def CbInv (s : State) : Prop := ∀ f, FutCb (s.fut f)

theorem cb_init (prog : Nat → List Act) (n : Nat) (cx : Bool → Nat → Option Nat := fun _ _ => none) :
    CbInv (init prog n cx) := by
  intro f; simp [init, FutCb]

theorem cb_dropU (s : State) (c : Nat) (h : CbInv s) : CbInv (dropU s c) := h

/-- `t` continues `s` -/
structure Ext (s t : State) : Prop where
  frozen : ∀ c, Frozen (s.co c) (t.co c)
  bound : ∀ c f, (s.co c).bound = some f → (t.co c).bound = some f
  allBound : AllBound s → AllBound t
  cb : CbInv s → CbInv t

theorem Ext.refl (s : State) : Ext s s := ⟨fun _ => Frozen.refl _, fun _ _ h => h, id, id⟩
theorem Ext.trans {s t u : State} (a : Ext s t) (b : Ext t u) : Ext s u :=
  ⟨fun c => (a.frozen c).trans (b.frozen c), fun c f h => b.bound c f (a.bound c f h),
   fun h => b.allBound (a.allBound h), fun h => b.cb (a.cb h)⟩

theorem ext_setCo (s : State) (c : Nat) (x : Coro) (hl : (s.co c).st.freed = false)
    (hb : ∀ f, (s.co c).bound = some f → x.bound = some f) : Ext s (setCo s c x) := by
  have hB : ∀ y f, (s.co y).bound = some f → ((setCo s c x).co y).bound = some f := by
    intro y f hy; simp only [setCo, upd_apply]; split
    · next e => exact hb f (e ▸ hy)
    · exact hy
  refine ⟨fun y => ?_, hB, fun h => ab_of_ble h ⟨hB, rfl, rfl⟩, id⟩
  simp only [setCo, upd_apply]; split
  · next e => exact Frozen.of_live (e ▸ hl)
  · exact Frozen.refl _

/-- `hX` is `id` when only fields outside `FutCb` change; callers write `by exact id` where `X` is an `_` that the
following step determines -/
theorem ext_setFut (s : State) (f : Nat) (X : Fut) (hX : FutCb (s.fut f) → FutCb X) : Ext s (setFut s f X) := by
  refine ⟨fun _ => Frozen.refl _, fun _ _ h => h, fun h => ab_of_ble h ⟨fun _ _ h => h, rfl, rfl⟩, fun h g => ?_⟩
  simp only [setFut, upd_apply]; split
  · exact hX (h f)
  · exact h g

theorem ext_resolve (s : State) (f : Nat) : Ext s (resolve s f) := by
  have hB : ∀ c g, (s.co c).bound = some g → ((resolve s f).co c).bound = some g := fun c g h => h
  refine ⟨fun c => ?_, hB, fun h => ab_of_ble h ⟨hB, rfl, rfl⟩, fun h g => ?_⟩
  · constructor <;> intro h <;> simp [resolve, wakeOne, h]
  · simp only [resolve, upd_apply]; split
    · obtain ⟨h1, h2⟩ := h f
      simp only [FutCb] at *
      cases hr : (s.fut f).ready <;> cases ho : (s.fut f).isOp <;> simp_all
    · exact h g

theorem ext_startFresh (s : State) (j : Nat) (o : Option Nat) (op : Bool) (hl : (s.co j).st.freed = false)
    (hb : (s.co j).bound = none) : Ext s (startCoro (newFut s o [] op) j (some s.nextFut)) := by
  have e := ext_setCo (newFut s o [] op) j
    { s.co j with st := St.scheduled, bound := some s.nextFut, startsOk := (s.co j).startsOk + 1 } hl (by simp [hb])
  refine ⟨e.frozen, e.bound, fun h f h1 h2 => ?_, fun h => e.cb fun g => ?_⟩
  · simp at h1 h2
    by_cases hf : f = s.nextFut
    · subst hf; exact ⟨j, by simp [startCoro, setCo]⟩
    · obtain ⟨y, hy⟩ := h f h1 (by omega)
      exact ⟨y, e.bound y f hy⟩
  · simp only [newFut, setFut, upd_apply]; split
    · simp [FutCb]
    · exact h g

structure Next (s t : State) : Prop where
  inv : Inv t
  ext : Ext s t

theorem Next.refl {s : State} (h : Inv s) : Next s s := ⟨h, Ext.refl s⟩
theorem Next.trans {s t u : State} (a : Next s t) (b : Next t u) : Next s u := ⟨b.inv, a.ext.trans b.ext⟩

theorem next_setCo (s : State) (c : Nat) (x : Coro) (h : Inv s) (hok : CoOk x)
    (hl : (s.co c).st.freed = false) (hb : x.bound = (s.co c).bound) (hd : x.st = St.done → x.bound = none)
    (haw : ∀ f, x.st.isAw f = (s.co c).st.isAw f)
    (hrefs : ∀ f, x.st.refs f = true →
        (s.co c).st.refs f = true ∨ (f < s.nextFut ∧ (s.nExt ≤ f → (s.fut f).owner = some c)))
    (hres : ∀ f, x.st.isRes f = true → (s.fut f).ready = true) :
    Next s (setCo s c x) := by
  have hnd : (s.co c).st ≠ St.done := fun e => by simp [e, St.freed] at hl
  exact ⟨h.updateCo c x hok (fun f => (h.rel c f).setCo hnd hb hd (haw f) (hrefs f) (hres f)) (fun f e => hb ▸ e)
    fun f e => .inl (hb ▸ e), ext_setCo s c x hl (by simp [hb])⟩

theorem next_create (s : State) (c : Nat) (h : Inv s) (hc : (s.co c).st = St.absent) : Next s (create s c) :=
  next_setCo s c _ h (coOk_create _ _ (h.co_ok c) hc) (by rw [hc]; rfl) rfl nofun (fun _ => by rw [hc]; rfl) nofun nofun

theorem next_dropU (s : State) (c : Nat) (h : Inv s) (hc : (s.co c).st = St.unstarted) : Next s (dropU s c) :=
  next_setCo s c _ h (coOk_dropU _ (h.co_ok c) hc) (by rw [hc]; rfl) rfl nofun (fun _ => by rw [hc]; rfl) nofun nofun

theorem next_detach (s : State) (c : Nat) (h : Inv s) (hc : (s.co c).st = St.unstarted) : Next s (startCoro s c none) :=
  next_setCo s c _ h (coOk_start _ none (h.co_ok c) hc) (by rw [hc]; rfl) (h.unstarted_unbound hc).symm nofun
    (fun _ => by rw [hc]; rfl) nofun nofun

theorem next_begin (s : State) (c : Nat) (h : Inv s) (hc : (s.co c).st = St.scheduled) :
    Next s (setCo s c { s.co c with st := St.running, bodyStarts := (s.co c).bodyStarts + 1 }) :=
  next_setCo s c _ h (coOk_begin _ (h.co_ok c) hc) (by rw [hc]; rfl) rfl nofun (fun _ => by rw [hc]; rfl) nofun nofun

theorem next_mid (s : State) (c : Nat) (st : St) (p : List Act) (a : Nat) (w : List (Nat × Outcome)) (h : Inv s)
    (hm : (s.co c).st.mid = true) (hm' : st.mid = true) (hres : ∀ f, st.isRes f = false)
    (hrefs : ∀ f, st.refs f = true → f < s.nextFut ∧ (s.nExt ≤ f → (s.fut f).owner = some c)) :
    Next s (setCo s c { s.co c with st := st, pc := p, acc := a, saw := w }) :=
  next_setCo s c _ h (coOk_mid _ _ p a w (h.co_ok c) hm hm') (St.mid_not_freed hm) rfl
    (fun e => absurd e (St.mid_not_done hm')) (fun f => by rw [St.mid_not_isAw hm f]; exact St.mid_not_isAw hm' f)
    (fun f e => .inr (hrefs f e)) (fun f e => by rw [hres f] at e; cases e)

theorem next_same (s : State) (c : Nat) (p : List Act) (b : Option Nat) (h : Inv s) (hl : (s.co c).st.freed = false)
    (hb : b = (s.co c).bound) : Next s (setCo s c { s.co c with pc := p, bound := b }) :=
  next_setCo s c _ h (coOk_same _ p b (h.co_ok c) hb) hl hb
    (fun (e : (s.co c).st = St.done) => by simp [e, St.freed] at hl) (fun _ => rfl) (fun _ => .inl) (h.res_ready c)

theorem next_want (s : State) (c f : Nat) (ct : Bool) (h : Inv s) (hr : (s.co c).st = St.running)
    (hf : f < s.nextFut) (hown : s.nExt ≤ f → (s.fut f).owner = some c) : Next s (setSt s c (St.wantAwait f ct)) :=
  next_mid s c _ (s.co c).pc (s.co c).acc (s.co c).saw h (by rw [hr]; rfl) rfl (fun _ => rfl)
    fun g e => by simp [St.refs] at e; exact e ▸ ⟨hf, hown⟩

theorem next_start (s : State) (c : Nat) (h : Inv s) (hc : (s.co c).st = St.unstarted) (o : Option Nat) (op : Bool) :
    Next s (startCoro (newFut s o [] op) c (some s.nextFut)) := by
  have hub : ∀ y, (s.co y).bound ≠ some s.nextFut := fun y e => Nat.lt_irrefl _ (h.bound_lt y _ e).1
  have nr : ∀ y, (s.co y).st.refs s.nextFut = false := fun y => by
    cases e : (s.co y).st.refs s.nextFut
    · rfl
    · exact absurd (h.refs_lt y _ e) (Nat.lt_irrefl _)
  have hn : Inv (newFut s o [] op) := Inv.grow <|
    h.update s.co s.nextFut { claimed := true, owner := o, waiters := [], cb := op, isOp := op } (fun _ => rfl) h.co_ok
      (fun y => .of_unrelated (hub y) (nr y) rfl) (fun y g _ => h.rel y g) (fun _ => .inl rfl) (fun e => nomatch e)
      (fun e => absurd rfl e)
  refine ⟨?_, ext_startFresh s c o op (by rw [hc]; rfl) (h.unstarted_unbound hc)⟩
  apply hn.bind c s.nextFut (by simpa using hc) (by simp) <;> simp [newFut_fut_new, hub]

theorem next_startP (s : State) (c k : Nat) (h : Inv s) : Next s (step s (Op.startP c k)).1 := by
  simp only [step]
  split
  · next hg =>
    have hl : (s.co c).st.freed = false := by rw [hg.1]; rfl
    have hb := h.unstarted_unbound hg.1
    split
    · -- refused: `_future` is overwritten with null, which it already was
      exact next_same s c (s.co c).pc none h hl hb.symm
    · next hcl =>
      obtain ⟨hub, hr, ho, hs⟩ := h.unclaimed k (by simpa using hcl)
      have hk : Inv (setFut s k { s.fut k with claimed := true }) :=
        h.update s.co k _ (fun _ => rfl) h.co_ok (fun y => { h.rel y k with claimed := fun _ => rfl })
          (fun y g _ => h.rel y g) (h.unbound_set k) (fun e => ⟨(h.ready_ok k e).1, rfl⟩) (h.out_ready k)
      refine ⟨?_, (ext_setFut s k _ (by exact id)).trans (ext_setCo _ c _ hl (by simp [setFut, hb]))⟩
      apply hk.bind c k hg.1 (Nat.lt_of_lt_of_le hg.2 h.next_le) <;> simp [setFut, hr, ho, hs, hub]
  · exact .refl h

/-- `promise(value)` / `~promise` by the driver: `X` is the claimed promise's future with or without the value -/
theorem next_resolve_driver (s : State) (k : Nat) (X : Fut) (h : Inv s) (hk : k < s.nExt)
    (hc : (s.fut k).claimed = false) (hX : FutCb (s.fut k) → FutCb X) (hw : X.waiters = (s.fut k).waiters)
    (hcl : X.claimed = true) (hown : X.owner = (s.fut k).owner)
    (hsb : X.setBy = (s.fut k).setBy ∨ X.setBy = none :: (s.fut k).setBy) : Next s (resolve (setFut s k X) k) := by
  obtain ⟨hub, -, -, hs⟩ := h.unclaimed k hc
  rw [hs] at hsb
  refine ⟨?_, (ext_setFut s k X hX).trans (ext_resolve _ k)⟩
  rw [resolve_setFut_eq s k X h hw]
  exact h.update _ k _ (fun _ => rfl) (fun x => coOk_wk _ k (h.co_ok x))
    (fun x => (h.rel x k).wake_self (hub x) rfl rfl hown) (fun x g e => (h.rel x g).wake e)
    (fun _ => hsb.imp_right fun e => ⟨e, hk, rfl⟩) (fun _ => ⟨rfl, hcl⟩) (fun _ => rfl)

theorem next_setF (s : State) (k : Nat) (o : Outcome) (h : Inv s) : Next s (setF s k o).1 := by
  unfold setF
  split
  · next hk =>
    split
    · exact .refl h
    · next hc => exact next_resolve_driver s k _ h hk (by simpa using hc) id rfl rfl rfl (.inr rfl)
  · exact .refl h

theorem next_dropP (s : State) (k : Nat) (h : Inv s) : Next s (dropP s k).1 := by
  unfold dropP
  split
  · next hk =>
    split
    · exact .refl h
    · next hc => exact next_resolve_driver s k _ h hk (by simpa using hc) id rfl rfl rfl (.inl rfl)
  · exact .refl h

theorem next_subscribe (s : State) (c f : Nat) (ct : Bool) (h : Inv s) (hm : (s.co c).st.mid = true)
    (hr : (s.fut f).ready = false) (hf : f < s.nextFut) (hown : s.nExt ≤ f → (s.fut f).owner = some c) :
    Next s (subscribe s c f ct) := by
  have hnd := St.mid_not_done hm
  have hnaw := St.mid_not_isAw hm
  refine ⟨?_, (ext_setFut s f _ (by exact id)).trans (ext_setCo _ c _ (St.mid_not_freed hm) fun _ => id)⟩
  refine h.update _ f _ (fun y => ?_) (fun y => ?_) (fun y => ?_) (fun y g e' => ?_)
    (h.unbound_set f) (fun e => by rw [hr] at e; cases e) (h.out_ready f) <;> simp only [setFut, upd_apply] <;> split
  · next e => rw [e]
  · rfl
  · exact coOk_subscribe _ f ct (h.co_ok c) hm
  · exact h.co_ok y
  · next e =>
    have r := h.rel c f
    rw [e]
    exact { r with
      lt := fun _ => hf
      live := fun e _ => r.live e hnd
      done := fun _ e => nomatch e
      count := by have := r.count; rw [hnaw f] at this; simpa [St.isAw] using this
      res := nofun
      owner := fun hg _ => hown hg }
  · next e => exact { h.rel y f with count := by simpa [List.count_cons, Ne.symm e] using (h.rel y f).count }
  · next e =>
    have hfg : (f == g) = false := by simpa using Ne.symm e'
    rw [e]
    exact (h.rel c g).setCo hnd rfl (fun e => nomatch e) (by rw [hnaw g]; simp [St.isAw, hfg])
      (fun e => by simp [St.refs, hfg] at e) nofun
  · exact h.rel y g

theorem next_finish (s : State) (c : Nat) (o : Outcome) (h : Inv s) (hm : (s.co c).st.mid = true) : Next s (finish s c o) := by
  have hl := St.mid_not_freed hm
  unfold finish
  split
  · next hb =>
    exact next_setCo s c _ h (coOk_retire _ o [] (h.co_ok c) hm (by rw [hb]; rfl)) hl rfl (fun _ => hb)
      (fun g => (St.mid_not_isAw hm g).symm) nofun nofun
  · next f hb =>
    refine ⟨?_, ((ext_setFut s f _ (by exact id)).trans (ext_resolve _ f)).trans (ext_setCo _ c _ ?_ fun _ => id)⟩
    · rw [finish_bound_eq s c f o h hm]
      obtain ⟨-, -, hs0⟩ := h.bound_live c f hb (St.mid_not_done hm)
      have hlt := h.bound_lt c f hb
      refine h.update _ f _ (fun y => ?_) (fun y => ?_) (fun y => ?_) (fun y g e' => ?_)
        (fun hu => absurd hb (hu c)) (fun _ => ⟨rfl, hlt.2⟩) (fun _ => rfl) <;> simp only [upd_apply] <;> split
      · next e => rw [e]; rfl
      · rfl
      · exact coOk_retire _ o [f] (h.co_ok c) hm (by rw [hb]; rfl)
      · exact coOk_wk _ f (h.co_ok y)
      · next e =>
        subst e
        exact {
          lt := fun _ => hlt.1
          claimed := fun _ => hlt.2
          live := fun _ e => absurd rfl e
          done := fun _ _ => ⟨rfl, rfl, by simp [delivered, hs0]⟩
          count := by simp [delivered, retired, St.isAw]
          res := fun _ => rfl
          owner := nofun }
      · next e => exact (h.rel y f).wake_self (fun e' => e (h.bound_inj y c f e' hb)) rfl rfl rfl
      · next e =>
        refine .of_unrelated (by simp [retired, hb, Ne.symm e']) rfl ?_
        simpa [e, St.mid_not_isAw hm g] using h.waiters_count y g
      · exact (h.rel y g).wake e'
    · simp only [resolve, setFut, wakeOne_st_mid _ _ hm]; exact hl

theorem next_consume (s : State) (c f : Nat) (ct : Bool) (h : Inv s) (hm : (s.co c).st.mid = true) :
    Next s (consume s c f ct) := by
  unfold consume
  split
  · exact next_mid s c St.running _ _ _ h hm rfl (fun _ => rfl) nofun
  · split
    · exact next_mid s c St.running _ _ _ h hm rfl (fun _ => rfl) nofun
    · exact next_finish s c _ h hm

theorem next_spawnBound (s : State) (c j : Nat) (h : Inv s) (hj : (s.co j).st = St.absent) : Next s (spawnBound s c j) :=
  have n := next_create s j h hj
  n.trans (next_start (create s j) j n.inv (create_st s j) (some c) false)

theorem next_execAct (s : State) (c : Nat) (a : Act) (h : Inv s) (hr : (s.co c).st = St.running) :
    Next s (execAct s c a) := by
  have hm : (s.co c).st.mid = true := by rw [hr]; rfl
  cases a with
  | compute => exact .refl h
  | awaitFut k ct =>
    simp only [execAct]
    split
    · next hk => exact next_want s c k ct h hr (Nat.lt_of_lt_of_le hk h.next_le) (by intro h'; omega)
    · exact .refl h
  | awaitChild j direct ct =>
    simp only [execAct]
    split
    · next hg =>
      have n := next_spawnBound s c j h hg.1
      have hst : ((spawnBound s c j).co c).st = St.running := by rw [spawnBound_co_ne s c fun e => hg.2 e.symm]; exact hr
      have hlt : s.nextFut < (spawnBound s c j).nextFut := by simp [spawnBound]
      have hown : (spawnBound s c j).nExt ≤ s.nextFut → ((spawnBound s c j).fut s.nextFut).owner = some c := by
        simp [spawnBound_fut]
      split
      · exact n.trans (next_subscribe _ c s.nextFut ct n.inv (by rw [hst]; rfl) (by simp [spawnBound_fut]) hlt hown)
      · exact n.trans (next_want _ c s.nextFut ct n.inv hst hlt hown)
    · exact .refl h
  | detachChild j awaited =>
    simp only [execAct]
    split
    · next hg =>
      have hcj : c ≠ j := fun e => hg.2 e.symm
      have n := next_create s j h hg.1
      have n := n.trans (next_detach _ j n.inv (create_st s j))
      split
      · refine n.trans (next_mid _ c St.yielded _ _ _ n.inv ?_ rfl (fun _ => rfl) nofun)
        rw [startCoro_co_ne _ _ hcj, create_co_ne _ hcj]; exact hm
      · exact n
    · exact .refl h
  | dropChild j =>
    simp only [execAct]
    split
    · next hg =>
      have n := next_create s j h hg.1
      exact n.trans (next_dropU _ j n.inv (create_st s j))
    · exact .refl h
  | throw e => exact next_finish s c _ h hm
  | ret v => exact next_finish s c _ h hm

theorem next_stepCo (s : State) (c : Nat) (h : Inv s) : Next s (stepCo s c).1 := by
  unfold stepCo
  split
  · next hs => exact next_begin s c h hs
  · next hs => exact next_mid s c St.running _ _ _ h (by rw [hs]; rfl) rfl (fun _ => rfl) nofun
  · next f ct hs => exact next_consume s c f ct h (by rw [hs]; rfl)
  · next f ct hs =>
    split
    · exact next_consume s c f ct h (by rw [hs]; rfl)
    · next hr =>
      exact next_subscribe s c f ct h (by rw [hs]; rfl) (by simpa using hr) (h.refs_lt c f (by simp [hs, St.refs]))
        fun hf => h.owner_only c f hf (by simp [hs, St.refs])
  · next hs =>
    split
    · exact next_finish s c _ h (by rw [hs]; rfl)
    · next a rest hp =>
      have n := next_same s c rest (s.co c).bound h (by rw [hs]; rfl) rfl
      exact n.trans (next_execAct _ c a n.inv (by simp [setCo, hs]))
  · exact .refl h

theorem next_step (s : State) (op : Op) (h : Inv s) : Next s (step s op).1 := by
  cases op with
  | create c =>
    simp only [step]; split
    · next hc => exact next_create s c h hc
    · exact .refl h
  | dropU c =>
    simp only [step]; split
    · next hc => exact next_dropU s c h hc
    · exact .refl h
  | detach c =>
    simp only [step]; split
    · next hc => exact next_detach s c h hc
    · exact .refl h
  | start c o =>
    simp only [step]; split
    · next hc => exact next_start s c h hc none o
    · exact .refl h
  | startP c k => exact next_startP s c k h
  | setF k o => exact next_setF s k o h
  | dropP k => exact next_dropP s k h
  | step c => exact next_stepCo s c h

theorem next_run (s : State) (ops : List Op) (h : Inv s) : Next s (run s ops) := by
  induction ops generalizing s with
  | nil => exact .refl h
  | cons op ops ih => exact (next_step s op h).trans (ih _ (next_step s op h).inv)

/-- a finished coroutine keeps its outcome and binding (`Ext.frozen`); the rest is `Inv` read in the later state -/
theorem done_forever {s : State} (h : Inv s) (c : Nat) (hd : (s.co c).st = St.done) (ops : List Op) :
    let t := run s ops
    (t.co c).st = St.done ∧ (t.co c).outcome = (s.co c).outcome ∧ (t.co c).bound = (s.co c).bound
    ∧ (t.co c).deliveredTo = (s.co c).bound.toList
    ∧ ∀ f, (s.co c).bound = some f →
        (t.fut f).ready = true ∧ (t.fut f).out = (s.co c).outcome ∧ (t.fut f).setBy = [some c] := by
  intro t
  have n : Next s t := next_run s ops h
  obtain ⟨b1, b2, b3⟩ := (n.ext.frozen c).2 hd
  refine ⟨b1, b2, b3, ?_, fun f hf => ?_⟩
  · rw [(n.inv.co_ok c).deliv, if_pos b1, b3]
  · have d := n.inv.bound_done c f (by rw [b3, hf]) b1
    rw [b2] at d
    exact d

/-- `s1`: the state inside the step of `c` on which `finish` acts -/
theorem finish_forever {s : State} (h : Inv s) (c : Nat) (s1 : State) (o : Outcome)
    (e1 : (step s (Op.step c)).1 = finish s1 c o) (ops : List Op) :
    let t := run s (Op.step c :: ops)
    (t.co c).st = St.done ∧ (t.co c).outcome = some o ∧ (t.co c).bound = (s1.co c).bound
    ∧ (t.co c).deliveredTo = (s1.co c).bound.toList
    ∧ ∀ f, (s1.co c).bound = some f → (t.fut f).ready = true ∧ (t.fut f).out = some o ∧ (t.fut f).setBy = [some c] := by
  obtain ⟨a1, a2, a3⟩ := finish_self s1 c o
  rw [← e1] at a1 a2 a3
  have d := done_forever (next_step s (Op.step c) h).inv c a1 ops
  rw [a2, a3] at d
  exact d

end Cocls.Async
