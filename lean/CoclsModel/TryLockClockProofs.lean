import CoclsModel.TryLockClock
import CoclsModel.StorageMtProofs

/-
Every run of `StorageMt` (the interleaving model of `reusable_storage_mtsafe` that C19 compares with the real headers) is
simulated by a run of the sequentially consistent flag system `Sc`, hence (`proj_run`) of the happens-before machine of
`TryLockClock.lean`: `storageMt_refines`.  `Sim` relates, everything else of `Mt.State` being projected away:

  `_busy`                          =  `Sc.busy`
  thread in `needDel` / `needNew`  ↦  `won`       (inside `reusable_storage::alloc`)
  thread in `needUnbusy`           ↦  `giveback`
  thread in `idle` / `needPriv`    ↦  `idle`, or `use` if the `Sc` side made it the user of the live shared frame
  a live frame in the shared block (⇔ `busy` and no holder, by `MInv.busy_iff`)  ⇔  exactly one thread in `use`

"holder" is `Mt.Pc.holder` throughout: the thread that has won `_busy` and is in one of the three phases of its growth; the "user" is
the `Sc` thread in `use`, to which the live shared frame belongs.

Granularity: `StorageMt` does the exchange and a fitting allocation in one step (two `Sc` steps); a whole `dealloc` in one step by
whichever thread is scheduled (in `Sc`: a hand-over of the frame to that thread if it is not the user, the trailer read, the
store); its steps at `operator delete/new` are invisible to `Sc`.  One direction only: `Sc` chooses "fits / grows / throws" freely and
lets the frame migrate, so it has more behaviours than `StorageMt`.
-/

namespace Cocls.TryLock
open Cocls.Clock Cocls.Storage

def cfgAll (N : Nat) : Cfg := { threads := N, migrate := fun _ _ => true }

structure Sim (N : Nat) (m : Mt.State) (x : Sc) : Prop where
  flag : x.busy = m.busy
  del : ∀ t fid sz, m.pc t = Mt.Pc.needDel fid sz → x.pc t = Pc.won
  new : ∀ t fid sz, m.pc t = Mt.Pc.needNew fid sz → x.pc t = Pc.won
  unb : ∀ t fid, m.pc t = Mt.Pc.needUnbusy fid → x.pc t = Pc.giveback
  non : ∀ t, (m.pc t).holder = false → x.pc t = Pc.idle ∨ x.pc t = Pc.use
  excl : ∀ t u, (x.pc t).owner = true → (x.pc u).owner = true → t = u
  useOf : m.busy = true → (∀ t, (m.pc t).holder = false) → ∃ h, h < N ∧ x.pc h = Pc.use
  useOnly : ∀ h, x.pc h = Pc.use → m.busy = true ∧ ∀ t, (m.pc t).holder = false

/-- the goal shape on which one `grind` call proves all clauses -/
theorem Sim.of_and {N : Nat} {m : Mt.State} {x : Sc}
    (h : x.busy = m.busy ∧
      (∀ t fid sz, m.pc t = Mt.Pc.needDel fid sz → x.pc t = Pc.won) ∧
      (∀ t fid sz, m.pc t = Mt.Pc.needNew fid sz → x.pc t = Pc.won) ∧
      (∀ t fid, m.pc t = Mt.Pc.needUnbusy fid → x.pc t = Pc.giveback) ∧
      (∀ t, (m.pc t).holder = false → x.pc t = Pc.idle ∨ x.pc t = Pc.use) ∧
      (∀ t u, (x.pc t).owner = true → (x.pc u).owner = true → t = u) ∧
      (m.busy = true → (∀ t, (m.pc t).holder = false) → ∃ h, h < N ∧ x.pc h = Pc.use) ∧
      (∀ h, x.pc h = Pc.use → m.busy = true ∧ ∀ t, (m.pc t).holder = false)) : Sim N m x :=
  let ⟨a, b, c, d, e, f, g, h⟩ := h
  ⟨a, b, c, d, e, f, g, h⟩

theorem sim_init (N : Nat) : Sim N Mt.init Sc.init := by
  constructor <;> simp [Mt.init, Sc.init, Pc.owner]

theorem sim_same {N : Nat} {m m' : Mt.State} {x : Sc} (hs : Sim N m x) (hb : m'.busy = m.busy) (t : Nat)
    (hpc : ∀ u, u ≠ t → m'.pc u = m.pc u) (h0 : (m.pc t).holder = false) (h1 : (m'.pc t).holder = false) : Sim N m' x := by
  cases hs
  refine .of_and ?_
  grind [Mt.Pc.holder]

theorem sim_idle_of_free {N : Nat} {m : Mt.State} {x : Sc} (hs : Sim N m x) (hb : m.busy = false)
    (hF1 : ∀ u, (m.pc u).holder = false) (t : Nat) : x.pc t = Pc.idle := by
  rcases hs.non t (hF1 t) with h | h
  · exact h
  · have := (hs.useOnly t h).1; rw [hb] at this; cases this

theorem sim_owner {N : Nat} {m : Mt.State} {x : Sc} (hs : Sim N m x) {t : Nat} (ht : (m.pc t).holder = true) :
    (x.pc t).owner = true := by
  cases hq : m.pc t with
  | needDel fid sz => rw [hs.del t fid sz hq]; rfl
  | needNew fid sz => rw [hs.new t fid sz hq]; rfl
  | needUnbusy fid => rw [hs.unb t fid hq]; rfl
  | _ => rw [hq] at ht; cases ht

theorem sim_others {N : Nat} {m : Mt.State} {x : Sc} (hs : Sim N m x) {t : Nat} (ht : (m.pc t).holder = true)
    (u : Nat) (hu : u ≠ t) : x.pc u = Pc.idle ∧ (m.pc u).holder = false := by
  have hto := sim_owner hs ht
  have hmu : (m.pc u).holder = false := by
    cases hh : (m.pc u).holder
    · rfl
    · exact absurd (hs.excl u t (sim_owner hs hh) hto) hu
  refine ⟨?_, hmu⟩
  rcases hs.non u hmu with h | h
  · exact h
  · exact absurd (hs.excl u t (by rw [h]; rfl) hto) hu

/-- `Sim` when `t` is the only thread not idle on both sides (it wins the flag, grows the block, fails to, gives the flag back) -/
theorem sim_single {N : Nat} {m : Mt.State} {x : Sc} (t : Nat) (hb : x.busy = m.busy)
    (hx : ∀ u, u ≠ t → x.pc u = Pc.idle) (hm : ∀ u, u ≠ t → (m.pc u).holder = false)
    (hdel : ∀ fid sz, m.pc t = Mt.Pc.needDel fid sz → x.pc t = Pc.won)
    (hnew : ∀ fid sz, m.pc t = Mt.Pc.needNew fid sz → x.pc t = Pc.won)
    (hunb : ∀ fid, m.pc t = Mt.Pc.needUnbusy fid → x.pc t = Pc.giveback)
    (hnon : (m.pc t).holder = false → (x.pc t = Pc.use ∧ m.busy = true ∧ t < N) ∨ (x.pc t = Pc.idle ∧ m.busy = false)) :
    Sim N m x := by
  have huse : ∀ h, x.pc h = Pc.use → h = t ∧ (m.pc t).holder = false := fun h hh => by
    have : h = t := Decidable.byContradiction fun hne => by rw [hx h hne] at hh; cases hh
    subst this
    refine ⟨rfl, ?_⟩
    cases hq : m.pc h <;> simp [Mt.Pc.holder] <;> simp_all
  refine .of_and ?_
  grind [Mt.Pc.holder, Pc.owner]

/-- `dealloc` of the shared frame by thread `t` while the user is `h` -/
theorem sim_freed {N : Nat} {m m' : Mt.State} {x x' : Sc} (hs : Sim N m x) (t h : Nat) (hh : x.pc h = Pc.use)
    (hb : m'.busy = false) (hpc : ∀ u, m'.pc u = m.pc u)
    (hxb : x'.busy = false) (hxpc : ∀ u, x'.pc u = if u = t ∨ u = h then Pc.idle else x.pc u) : Sim N m' x' := by
  have := hs.useOnly h hh
  cases hs
  refine .of_and ?_
  grind [Mt.Pc.holder, Pc.owner]

/-- a contended exchange is a stutter of `Sc` -/
theorem scAlloc_busy_id (x : Sc) (t : Nat) (h : x.busy = true) : (scAlloc x t).busy = x.busy ∧ ∀ u, (scAlloc x t).pc u = x.pc u := by
  refine ⟨by simp [scAlloc, h], fun u => ?_⟩
  simp only [scAlloc, h, upd_apply]
  split
  · next hu => simp [hu]
  · rfl

theorem scStep_of {N : Nat} (x : Sc) {t : Nat} (ht : t < N) (c : Nat) :
    scStep (cfgAll N) x (t, c) =
      match x.pc t with
      | Pc.idle => scAlloc x t
      | Pc.won => scWon x t c
      | Pc.use => scUse (cfgAll N) x t c
      | Pc.rel => scStore x t
      | Pc.giveback => scStore x t := by
  simp only [scStep, cfgAll, ht, if_true]
  cases x.pc t <;> rfl

theorem mt_sim_begin {N : Nat} {m : Mt.State} {x : Sc} (hm : Mt.MInv m) (hs : Sim N m x) (t : Nat) (ht : t < N)
    (hidle : m.pc t = Mt.Pc.idle) (sz : Nat) :
    ∃ es : List (Nat × Nat), Sim N (Mt.stepBegin m t sz).1 (es.foldl (scStep (cfgAll N)) x) := by
  have h0 : (m.pc t).holder = false := by rw [hidle]; rfl
  unfold Mt.stepBegin
  split
  · -- contended: private block
    refine ⟨[], sim_same hs rfl t (fun u hu => by simp [hu]) h0 (by simp [Mt.Pc.holder])⟩
  · next hb =>
    have hb : m.busy = false := by simpa using hb
    have hF1 := (hm.free_block hb).1
    have hid := sim_idle_of_free hs hb hF1
    have hxb : x.busy = false := by rw [hs.flag]; exact hb
    split
    · refine ⟨[(t, 0)], ?_⟩
      simp only [List.foldl_cons, List.foldl_nil, scStep_of x ht, hid t]
      split <;> exact sim_single t rfl (fun u hu => by simp [scAlloc, hu, hid u]) (fun u hu => by simp [hu, hF1 u])
        (by simp [scAlloc, hxb]) (by simp [scAlloc, hxb]) (by simp) (by simp [Mt.Pc.holder])
    · refine ⟨[(t, 0), (t, 0)], ?_⟩
      simp only [List.foldl_cons, List.foldl_nil, scStep_of _ ht, hid t, scAlloc, hxb, upd_same, if_true]
      exact sim_single t rfl (fun u hu => by simp [scWon, scSetPc, hu, hid u]) (fun u _ => hF1 u)
        (by simp [hidle]) (by simp [hidle]) (by simp [hidle]) (by simp [scWon, scSetPc, ht])

theorem mt_sim_free {N : Nat} {m : Mt.State} {x : Sc} (hm : Mt.MInv m) (hs : Sim N m x) (t : Nat) (ht : t < N)
    (hidle : m.pc t = Mt.Pc.idle) (id : Nat) :
    ∃ es : List (Nat × Nat), Sim N (Mt.stepFree m id).1 (es.foldl (scStep (cfgAll N)) x) := by
  have h0 : (m.pc t).holder = false := by rw [hidle]; rfl
  unfold Mt.stepFree
  split
  · exact ⟨[], hs⟩
  · next f hfind =>
    have hf : f ∈ m.frames := List.mem_of_find?_eq_some hfind
    split
    · exact ⟨[], sim_same hs rfl t (fun u _ => rfl) h0 h0⟩
    · next hp =>
      have hp : f.priv = false := by simpa using hp
      obtain ⟨hF3, _, hbusy⟩ := hm.of_shared hf hp
      obtain ⟨h, hh, hxh⟩ := hs.useOf hbusy hF3
      by_cases hth : h = t
      · subst hth
        refine ⟨[(h, 3), (h, 0)], ?_⟩
        simp only [List.foldl_cons, List.foldl_nil, scStep_of _ hh, hxh, scUse, scSetPc, upd_same]
        refine sim_freed hs h h hxh rfl (fun u => rfl) rfl (fun u => ?_)
        simp only [scStore, upd_apply]
        split <;> simp_all
      · have hxt : x.pc t = Pc.idle := by
          rcases hs.non t h0 with hx | hx
          · exact hx
          · exact absurd (hs.excl t h (by rw [hx]; rfl) (by rw [hxh]; rfl)).symm hth
        refine ⟨[(h, t + 4), (t, 3), (t, 0)], ?_⟩
        simp only [List.foldl_cons, List.foldl_nil, scStep_of _ hh, scStep_of _ ht, hxh, scUse, hxt, Ne.symm hth,
          show (cfgAll N).migrate h t = true from rfl, show t < (cfgAll N).threads from ht, ne_eq, not_false_eq_true, and_self,
          if_true, scHandover, scSetPc, upd_same]
        refine sim_freed hs t h hxh rfl (fun u => rfl) rfl (fun u => ?_)
        simp only [scStore, upd_apply]
        split <;> simp_all

theorem mt_sim_go {N : Nat} {m : Mt.State} {x : Sc} (hm : Mt.MInv m) (hs : Sim N m x) (t : Nat) (ht : t < N) :
    ∃ es : List (Nat × Nat), Sim N (Mt.stepGo m t).1 (es.foldl (scStep (cfgAll N)) x) := by
  unfold Mt.stepGo
  split
  · exact ⟨[], hs⟩
  · next fid sz hpc =>
    have hh : (m.pc t).holder = true := by rw [hpc]; rfl
    exact ⟨[], sim_single t hs.flag (fun u hu => (sim_others hs hh u hu).1) (fun u hu => by simp [hu, sim_others hs hh u hu])
      (by simp) (by simp [hs.del t fid sz hpc]) (by simp) (by simp [Mt.Pc.holder])⟩
  · next fid sz hpc =>
    have hh : (m.pc t).holder = true := by rw [hpc]; rfl
    have hxt : x.pc t = Pc.won := hs.new t fid sz hpc
    refine ⟨[(t, 1)], ?_⟩
    simp only [List.foldl_cons, List.foldl_nil, scStep_of x ht, hxt]
    exact sim_single t hs.flag (fun u hu => by simp [scWon, scSetPc, hu, sim_others hs hh u hu])
      (fun u hu => by simp [hu, sim_others hs hh u hu]) (by simp) (by simp) (by simp)
      (by simp [scWon, scSetPc, ht, (hm.holder rfl hh).1, Mt.setPc])
  · next fid sz hpc =>
    exact ⟨[], sim_same hs rfl t (fun u hu => by simp [hu]) (by rw [hpc]; rfl) (by simp [Mt.Pc.holder])⟩
  · next fid hpc =>
    have hxt : x.pc t = Pc.giveback := hs.unb t fid hpc
    refine ⟨[(t, 0)], ?_⟩
    simp only [List.foldl_cons, List.foldl_nil, scStep_of x ht, hxt]
    have hh : (m.pc t).holder = true := by rw [hpc]; rfl
    exact sim_single t rfl (fun u hu => by simp [scStore, hu, sim_others hs hh u hu])
      (fun u hu => by simp [hu, sim_others hs hh u hu]) (by simp) (by simp) (by simp) (by simp [scStore, Mt.setPc])

theorem mt_sim_gofail {N : Nat} {m : Mt.State} {x : Sc} (hm : Mt.MInv m) (hs : Sim N m x) (t : Nat) (ht : t < N) :
    ∃ es : List (Nat × Nat), Sim N (Mt.stepGoFail m t).1 (es.foldl (scStep (cfgAll N)) x) := by
  unfold Mt.stepGoFail
  split
  · next fid sz hpc =>
    have hxt : x.pc t = Pc.won := hs.new t fid sz hpc
    refine ⟨[(t, 2)], ?_⟩
    simp only [List.foldl_cons, List.foldl_nil, scStep_of x ht, hxt]
    have hh : (m.pc t).holder = true := by rw [hpc]; rfl
    exact sim_single t hs.flag (fun u hu => by simp [scWon, scSetPc, hu, sim_others hs hh u hu])
      (fun u hu => by simp [hu, sim_others hs hh u hu]) (by simp) (by simp) (by simp [scWon, scSetPc]) (by simp [Mt.Pc.holder])
  · next fid sz hpc =>
    exact ⟨[], sim_same hs rfl t (fun u hu => by simp [hu]) (by rw [hpc]; rfl) (by simp [Mt.Pc.holder])⟩
  · exact mt_sim_go hm hs t ht

theorem mt_sim_step {N : Nat} {m : Mt.State} {x : Sc} (hm : Mt.MInv m) (hs : Sim N m x) (t : Nat) (ht : t < N) (a : Mt.Act) :
    ∃ es : List (Nat × Nat), Sim N (Mt.step m t a).1 (es.foldl (scStep (cfgAll N)) x) := by
  unfold Mt.step
  split
  · next hidle =>
    cases a with
    | alloc sz => exact mt_sim_begin hm hs t ht hidle sz
    | free id => exact mt_sim_free hm hs t ht hidle id
    | go => exact ⟨[], hs⟩
    | fail => exact ⟨[], hs⟩
  · cases a with
    | fail => exact mt_sim_gofail hm hs t ht
    | alloc sz => exact mt_sim_go hm hs t ht
    | free id => exact mt_sim_go hm hs t ht
    | go => exact mt_sim_go hm hs t ht

theorem mt_sim_run_from {N : Nat} (sched : List (Nat × Mt.Act)) (hN : ∀ e ∈ sched, e.1 < N) {m : Mt.State} {x : Sc}
    (hm : Mt.MInv m) (hs : Sim N m x) :
    ∃ es : List (Nat × Nat), Sim N (Mt.run m sched) (es.foldl (scStep (cfgAll N)) x) := by
  unfold Mt.run
  induction sched generalizing m x with
  | nil => exact ⟨[], hs⟩
  | cons e rest ih =>
    obtain ⟨es1, h1⟩ := mt_sim_step hm hs e.1 (hN e (by simp)) e.2
    obtain ⟨es2, h2⟩ := ih (fun e' he' => hN e' (by simp [he'])) (Mt.minv_step hm e.1 e.2) h1
    exact ⟨es1 ++ es2, by rw [List.foldl_append]; exact h2⟩

/-- Race freedom (`trylock_race_free`) holds for every event list `es`; what the refinement adds is that every `StorageMt` behaviour
— those the C19 correspondence runs compare with the real storage — is among the try-lock runs, and the owner that
`trylock_owner_sees_previous` and `trylock_mutual_exclusion` ask for: the user of a live shared frame through `MInv.of_shared` and
`Sim.useOf`, a holder through `sim_owner`. -/
theorem storageMt_refines (o : TryLockOrders) {N : Nat} (sched : List (Nat × Mt.Act)) (hN : ∀ e ∈ sched, e.1 < N) :
    ∃ es : List (Nat × Nat), Sim N (Mt.run Mt.init sched) (proj (run o (cfgAll N) es)) := by
  obtain ⟨es, h⟩ := mt_sim_run_from sched hN Mt.minv_init (sim_init N)
  exact ⟨es, by rw [proj_run]; exact h⟩

theorem storageMt_flag_refines (o : TryLockOrders) {N : Nat} (sched : List (Nat × Mt.Act)) (hN : ∀ e ∈ sched, e.1 < N) :
    ∃ es : List (Nat × Nat), ((lastMsg (run o (cfgAll N) es)).val != 0) = (Mt.run Mt.init sched).busy := by
  obtain ⟨es, h⟩ := storageMt_refines o sched hN
  exact ⟨es, h.flag⟩

end Cocls.TryLock
