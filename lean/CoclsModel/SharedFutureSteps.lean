import CoclsModel.SharedFutureInv
/-!
One lemma for each function of the shared_future micro-step model: from a state with the invariant, at the program counter where
`astep` calls it, the function delivers `StepOK`.  `step_runProg` and `step_runActs` follow the recursion of a thread's program
and of the walker's list; `step_astep` puts them together.
-/
namespace Cocls.SharedFuture
variable {c : Cfg} {s : State} {t : Nat}

@[simp] theorem setPc_pc_same (s : State) (t : Nat) (p : Pc) : (setPc s t p).pc t = p := by simp [setPc]

theorem dropH_pc (s : State) (t : Nat) : (dropH s t).1.pc = s.pc := by
  unfold dropH dropRef; split <;> rfl

theorem dropH_held (s : State) (t : Nat) : (dropH s t).1.held t = s.held t - 1 := by
  unfold dropH; simp

theorem copyH_pc (s : State) (t : Nat) : (copyH s t).pc = s.pc := by cases s; rfl  -- not bare `rfl`: see `StepOK.quiet`

theorem obsStep_fst_owns (x : Nat) (k : WK) (sn : Seen) (hk : ownsCtx k = true) (hf : s.freed = 0) :
    (obsStep s t x k sn).1 =
      { s with
        observed := upd s.observed x (s.observed x + 1)
        ctx := upd s.ctx x false
        refs := s.refs - 1
        holders := s.holders.erase (Holder.ctx x)
        freed := if s.refs = 1 then 1 else 0 } := by
  unfold obsStep
  rw [if_pos hk]
  simp only [touch_eq hf]
  exact dropRef_fst (s := { s with observed := upd s.observed x (s.observed x + 1), ctx := upd s.ctx x false }) (Holder.ctx x) hf

theorem obsStep_fst_sync (x : Nat) (sn : Seen) (hf : s.freed = 0) :
    (obsStep s t x WK.sync sn).1 = { s with observed := upd s.observed x (s.observed x + 1) } := by
  simp [obsStep, ownsCtx, touch_eq hf]

theorem obsStep_fst_peek (x : Nat) (sn : Seen) (hf : s.freed = 0) : (obsStep s t x WK.peek sn).1 = s := by
  simp [obsStep, ownsCtx, touch_eq hf]

/-- peeks are not awaits -/
def isAwObs (y : Nat) : Ev → Bool
  | Ev.obs x k _ => x == y && k != WK.peek
  | _ => false

def isFreedEv : Ev → Bool
  | Ev.freed _ => true
  | _ => false

def isObsEv : Ev → Bool
  | Ev.obs _ _ _ => true
  | _ => false

def Acc (s s' : State) (evs : List Ev) : Prop :=
  (∀ y, evs.countP (isAwObs y) + s.observed y = s'.observed y) ∧ evs.countP isFreedEv + s.freed = s'.freed

theorem Acc.refl (s : State) : Acc s s [] := ⟨fun _ => by simp, by simp⟩

theorem Acc.trans {s s1 s2 : State} {e1 e2 : List Ev} (h1 : Acc s s1 e1) (h2 : Acc s1 s2 e2) : Acc s s2 (e1 ++ e2) := by
  refine ⟨fun y => ?_, ?_⟩
  · have a := h1.1 y; have b := h2.1 y; rw [List.countP_append]; omega
  · have a := h1.2; have b := h2.2; rw [List.countP_append]; omega

/-- the result every reader must see: decided by the configuration alone -/
def resultObs (c : Cfg) : Obs :=
  match finalPayload c with
  | Outcome.val v => Obs.val v
  | Outcome.exc e => Obs.exc e
  | Outcome.none => Obs.canceled

def ObsGood (c : Cfg) (evs : List Ev) : Prop := ∀ x k o, Ev.obs x k o ∈ evs → o = resultObs c

def NoObs (evs : List Ev) : Prop := ∀ e ∈ evs, isObsEv e = false

theorem NoObs.good {evs : List Ev} (h : NoObs evs) (c : Cfg) : ObsGood c evs := by
  intro x k o hm; have := h _ hm; simp [isObsEv] at this

theorem NoObs.append {a b : List Ev} (ha : NoObs a) (hb : NoObs b) : NoObs (a ++ b) := by
  intro e hm; rcases List.mem_append.1 hm with h | h
  · exact ha e h
  · exact hb e h

theorem ObsGood.append {a b : List Ev} (ha : ObsGood c a) (hb : ObsGood c b) : ObsGood c (a ++ b) := by
  intro x k o hm; rcases List.mem_append.1 hm with h | h
  · exact ha x k o h
  · exact hb x k o h

theorem NoObs.countP {evs : List Ev} (h : NoObs evs) (y : Nat) : evs.countP (isAwObs y) = 0 :=
  List.countP_eq_zero.2 fun e he => by
    have := h e he
    cases e <;> simp_all [isAwObs, isObsEv]

/-- What a step from `s` that prints `evs` delivers, and by `StepOK.trans` a run: the invariant again, the events account for
the ghost counters `observed` and `freed`, every observation printed is the single result.  Not a relation of moves (it does not
say that `s'` comes from `s`). -/
structure StepOK (c : Cfg) (s s' : State) (evs : List Ev) : Prop where
  inv : Inv c s'
  acc : Acc s s' evs
  good : ObsGood c evs

theorem StepOK.trans {s s1 s2 : State} {e1 e2 : List Ev} (h1 : StepOK c s s1 e1) (h2 : StepOK c s1 s2 e2) : StepOK c s s2 (e1 ++ e2) :=
  ⟨h2.inv, h1.acc.trans h2.acc, h1.good.append h2.good⟩

theorem StepOK.refl (h : Inv c s) : StepOK c s s [] := ⟨h, Acc.refl s, nofun⟩

theorem StepOK.after {s s1 s2 : State} {e : List Ev} (h1 : StepOK c s s1 []) (h2 : StepOK c s1 s2 e) : StepOK c s s2 e := h1.trans h2

/-- The side conditions are closed by unfolding the updates: `rfl` across nested record updates makes the unifier compare the
records field by field. -/
theorem StepOK.quiet {s s' : State} {evs : List Ev} (h : Inv c s')
    (ho : s'.observed = s.observed := by simp only [setPc, touch, addRef, giveHandles])
    (hf : s'.freed = s.freed := by simp only [setPc, touch, addRef, giveHandles])
    (h1 : NoObs evs := by simp [NoObs, isObsEv]) (h2 : evs.countP isFreedEv = 0 := by simp [isFreedEv]) : StepOK c s s' evs :=
  ⟨h, ⟨fun y => by rw [h1.countP y, ho]; omega, by rw [h2, hf]; omega⟩, h1.good c⟩

theorem acc_dropRef (s : State) (t : Nat) (x : Holder) : Acc s (dropRef s t x).1 (dropRef s t x).2 := by
  unfold dropRef
  split
  · exact ⟨fun y => by simp [touch, isAwObs], by simp [isFreedEv]; omega⟩
  · exact ⟨fun y => by simp [touch], by simp [touch]⟩

theorem noObs_dropRef (s : State) (t : Nat) (x : Holder) : NoObs (dropRef s t x).2 := by
  unfold dropRef; split <;> (intro e hm; simp at hm; try (subst hm; rfl))

theorem acc_obsStep (s : State) (t x : Nat) (k : WK) (sn : Seen) : Acc s (obsStep s t x k sn).1 (obsStep s t x k sn).2 := by
  have one (k : WK) (hk : k ≠ WK.peek) (o : Obs) (y : Nat) :
      [Ev.obs x k o].countP (isAwObs y) + s.observed y = upd s.observed x (s.observed x + 1) y := by
    by_cases hy : y = x
    · subst hy; simp [isAwObs, hk]; omega
    · have : ¬ x = y := fun e => hy e.symm
      simp [isAwObs, hy, this]
  unfold obsStep
  split
  · rename_i hk
    have h1 : Acc s { touch s with observed := upd s.observed x (s.observed x + 1), ctx := upd s.ctx x false }
        [Ev.obs x k (obsOf s sn)] :=
      ⟨one k (by rintro rfl; simp [ownsCtx] at hk) _, by simp [isFreedEv, touch]⟩
    exact h1.trans (acc_dropRef _ t (Holder.ctx x))
  · split
    · rename_i hk
      subst hk
      exact ⟨one WK.sync nofun _, by simp [isFreedEv, touch]⟩
    · rename_i hk1 hk2
      have : k = WK.peek := by cases k <;> simp_all [ownsCtx]
      subst this
      exact ⟨fun y => by simp [isAwObs, touch], by simp [isFreedEv, touch]⟩

theorem obsGood_obsStep (hp : obsOf s sn = resultObs c) (t x : Nat) (k : WK) : ObsGood c (obsStep s t x k sn).2 := by
  unfold obsStep
  split
  · intro x' k' o hm
    simp only [List.mem_cons] at hm
    rcases hm with h1 | h1
    · injection h1 with _ _ ho; rw [ho, hp]
    · have := noObs_dropRef _ _ _ _ h1; simp [isObsEv] at this
  · split <;> (intro x' k' o hm; simp at hm; rw [hm.2.2, hp])

theorem startAwait_counters (s : State) (t : Nat) (k : WK) (p : Pc) :
    (setPc (touch (startAwait s t k)) t p).observed = s.observed ∧ (setPc (touch (startAwait s t k)) t p).freed = s.freed := by
  cases s; unfold startAwait; split <;> exact ⟨rfl, rfl⟩

theorem copyH_counters (s : State) (t : Nat) (p : Pc) :
    (setPc (copyH s t) t p).observed = s.observed ∧ (setPc (copyH s t) t p).freed = s.freed := by
  cases s; exact ⟨rfl, rfl⟩

theorem nCharge_filter (is : List CI) : nCharge (is.filter (fun i => !i.isCharge)) = 0 := by
  induction is with
  | nil => rfl
  | cons a l ih => cases a <;> simpa [List.filter_cons, CI.isCharge, nCharge] using ih

theorem ctor_facts (h : Inv c s) {is : List CI} (hpc : s.pc t = Pc.cRun is) : t = 0 ∧ t < c.n ∧ s.freed = 0 ∧ 1 ≤ s.refs := by
  have hpk := hpc ▸ h.pcok t
  have := alive_of_held h (t := t) (by have := (h.own_at hpc).1.1; omega)
  exact ⟨hpk.1, hpk.2, this.2, this.1⟩

/-- a constructor instruction that only moves the program counter, to `is'` -/
theorem inv_ctor (h : Inv c s) {i : CI} {is : List CI} (hpc : s.pc t = Pc.cRun (i :: is)) (is' : List CI)
    (hn : nCharge is' ≤ nCharge (i :: is)) (hn' : s.slot ≠ Slot.ready → nCharge is' = nCharge (i :: is))
    (hl : CI.loadTmp ∈ is' ↔ CI.loadTmp ∈ i :: is) : Inv c (setPc s t (Pc.cRun is')) := by
  obtain ⟨⟨a1, a2, a3, a4, a5, a6⟩, a7⟩ := h.own_at hpc
  exact h.setPc hpc
    ⟨⟨a1, a2, by omega, fun e => a4 (by omega), fun x y => hn' x ▸ a5 x y, fun m => a6 (hl.1 m)⟩, fun x y => hl.2 (a7 x y)⟩

/-- nobody has subscribed while the object is under construction -/
theorem chain_nil_of_ctor (h : Inv c s) {e : Seen} {is : List CI} (hpc : s.pc t = Pc.cRun (CI.charge e :: is)) {l : List Node}
    (hs : s.slot = Slot.chain l) : l = [] := by
  have hc := (h.own_at hpc).1
  simp only [nCharge] at hc
  have htr : s.tracerRef = false := hc.2.2.2.1 (by omega)
  have h1 := h.tracerCnt
  have h2 := h.ctor0 hc.2.1
  apply List.eq_nil_iff_forall_not_mem.2
  intro x hx
  cases x with
  | tracer =>
      have : 0 < l.count Node.tracer := List.count_pos_iff.2 hx
      simp [hs, chainOf, htr] at h1
      omega
  | aw y =>
      have : 0 < l.count (Node.aw y) := List.count_pos_iff.2 hx
      have h3 := h.wake y
      have h4 := h.subAw y
      have : s.subscribed y = false := by
        cases hq : s.subscribed y
        · rfl
        · have := h4 hq; simp [h2 y] at this
      simp [hs, chainOf, this] at h3
      omega

theorem inv_c_charge_ok (h : Inv c s) {e : Seen} {is : List CI} (hpc : s.pc t = Pc.cRun (CI.charge e :: is)) {l : List Node}
    (hs : s.slot = Slot.chain l) :
    Inv c { setPc (addRef s Holder.tracer) t (Pc.cRun is) with slot := Slot.chain (Node.tracer :: l), tracerRef := true } := by
  obtain ⟨h0, hn, hf, hr⟩ := ctor_facts h hpc
  obtain rfl := chain_nil_of_ctor h hpc hs
  obtain ⟨⟨a1, a2, a3, a4, a5, a6⟩, a7⟩ := h.own_at hpc
  simp only [nCharge] at a3 a4
  have htr : s.tracerRef = false := a4 (by omega)
  have hk : kindOf c t ≠ Kind.res := by rw [h0, kindOf_zero]; nofun
  have d := h.dat
  have hch : chainOf s.slot = [] := by rw [hs]; rfl
  have hnr : s.slot ≠ Slot.ready := by rw [hs]; nofun
  simp only [addRef, touch_eq hf, setPc]
  refine Inv.of_step (s := s) rfl
    { h.thr_at hpc with
      own := ⟨⟨a1, a2, by omega, fun _ => by omega, nofun, fun m => a6 (List.mem_cons_of_mem _ m)⟩,
        fun x y => (List.mem_cons.1 (a7 x y)).resolve_left nofun⟩
      res := fun x => absurd x hk
      ctor := fun _ => ⟨fun _ => Or.inl rfl, fun _ => rfl, fun _ _ => rfl⟩ }
    (fun u hu => (h.thr u).frame id id (fun a => absurd a (h0 ▸ hu)) (fun _ => rfl) (by simp [hs]) ⟨rfl, rfl, rfl, rfl⟩)
    (wacts_upd rfl (hpc ▸ rfl)) (inflight_upd rfl (hpc ▸ rfl))
    { d with
      nopromise := fun x => absurd (d.nopromise x).2 hnr
      pay := nofun
      toRefs := d.toRefs.add Holder.tracer hf rfl rfl rfl (fun y => by cases y <;> simp [owned, htr])
      tracerCnt := by have := d.tracerCnt; rw [hch, htr] at this; simpa [chainOf] using this
      tracerLast := fun _ => rfl
      wake := fun x => by have := d.wake x; rw [hch] at this; simpa [chainOf] using this
      obsv := fun x => by have := d.obsv x; rw [hch] at this; simpa [chainOf] using this
      wokenReady := fun x y => absurd (d.wokenReady x y) hnr }

theorem count_map_thread (L : List Nat) (y : Holder) :
    (L.map Holder.thread).count y = match y with | Holder.thread i => L.count i | _ => 0 := by
  cases y with
  | thread i =>
      induction L with
      | nil => rfl
      | cons a L ih => simp [List.count_cons, ih]
  | _ => exact List.count_eq_zero.2 (by simp)

theorem count_handleTids (c : Cfg) (i : Nat) :
    (handleTids c).count i = if i < c.n ∧ kindOf c i = Kind.handle then 1 else 0 := by
  unfold handleTids
  by_cases h1 : kindOf c i = Kind.handle
  · rw [List.count_filter (by simpa using h1), List.count_range]; simp [h1]
  · rw [List.count_eq_zero.2 (fun hm => h1 (by simpa using (List.mem_filter.1 hm).2))]; simp [h1]

theorem inv_giveHandles (h : Inv c s) {is : List CI} (hpc : s.pc t = Pc.cRun is) (hg : s.given = false) :
    Inv c (giveHandles c s) := by
  obtain ⟨h0, hn, hf, hr⟩ := ctor_facts h hpc
  obtain ⟨⟨a1, a2, a3⟩, a7⟩ := h.own_at hpc
  have d := h.dat
  have hkt : ¬ (t < c.n ∧ kindOf c t = Kind.handle) := by rw [h0, kindOf_zero]; simp
  have hgate : ∀ u, u < c.n ∧ kindOf c u = Kind.handle → s.pc u = Pc.hStart ∨ s.pc u = Pc.hGate :=
    fun u hk => h.aPre a2 u hk.1 hk.2
  have hheld : ∀ u, u < c.n ∧ kindOf c u = Kind.handle → s.held u = 0 := fun u hk => by
    simpa [hg] using h.aGate u (hgate u hk)
  have hpc' : (giveHandles c s).pc = upd s.pc t (Pc.cRun is) := hpc ▸ (upd_self s.pc t).symm
  simp only [giveHandles, touch_eq hf] at hpc' ⊢
  refine Inv.of_step (s := s) hpc' { h.thr_at hpc with own := ⟨⟨by dsimp only; rw [if_neg hkt]; exact a1, a2, a3⟩, a7⟩ } (fun u hu => ?_)
    (wacts_upd hpc' (hpc ▸ rfl)) (fun _ => rfl)
    { d with
      refsLen := by simp [d.refsLen, Nat.add_comm]
      hThread := fun u => by
        simp only [List.count_append, count_map_thread, count_handleTids, d.hThread]
        split
        · rw [hheld u ‹_›]
        · exact Nat.zero_add _
      hCtx := fun u => by rw [List.count_append, count_map_thread, Nat.zero_add]; exact d.hCtx u
      hTracer := by rw [List.count_append, count_map_thread, Nat.zero_add]; exact d.hTracer
      freedIff := by dsimp only; rw [hf, if_neg (by omega)]
      resHeld := fun u hk => by dsimp only; rw [if_neg (by simp [hk])]; exact d.resHeld u hk
      givenC := fun _ => rfl }
  have T := h.thr u
  by_cases hk : u < c.n ∧ kindOf c u = Kind.handle
  · refine { T with own := ?_ }
    rcases hgate u hk with e | e <;> rw [e] <;> exact if_pos hk
  · refine T.frame id id (fun a => absurd a (h0 ▸ hu)) (fun hgt => absurd ?_ hk) Iff.rfl ⟨rfl, rfl, rfl, if_neg hk⟩
    have := T.pcok
    rcases (gate_iff _).1 hgt with e | e <;> (rw [e] at this; exact this.symm)

theorem inv_construct (h : Inv c s) (hpc : s.pc t = Pc.cRun []) (hg : s.given = true) :
    Inv c (setPc { s with constructed := true } t (Pc.hRun (c.prog t))) := by
  obtain ⟨h0, hn, hf, hr⟩ := ctor_facts h hpc
  obtain ⟨⟨a1, a2, a3, a4, a5, a6⟩, a7⟩ := h.own_at hpc
  have hk : kindOf c t = Kind.creator := h0 ▸ kindOf_zero c
  refine Inv.of_step (s := s) rfl ⟨⟨by simp [hk], hn⟩, trivial, fun _ => rfl, nofun, fun x => by simp [hk] at x,
      fun _ => ⟨fun x => Or.inl ?_, nofun, fun x y => by simpa using a7 x y⟩⟩
    (fun u hu => (h.thr u).frame id (fun _ => rfl) (fun a => absurd a (h0 ▸ hu)) (fun _ => rfl) Iff.rfl ⟨rfl, rfl, rfl, rfl⟩)
    (wacts_upd rfl (hpc ▸ rfl)) (inflight_upd rfl (hpc ▸ rfl)) { h.dat with ctor0 := nofun, givenC := fun _ => hg }
  cases hq : s.tracerRef
  · exact absurd (a5 x hq) (by simp [nCharge])
  · rfl

theorem step_distribute (h : Inv c s) (hpc : s.pc t = Pc.cRun []) :
    StepOK c s (setPc (distribute c s) t (Pc.hRun (c.prog t))) [] := by
  unfold distribute
  split
  · rename_i hg; exact .quiet (inv_construct h hpc hg)
  · rename_i hg; exact .quiet (inv_construct (inv_giveHandles h hpc (Bool.eq_false_iff.2 hg)) hpc rfl)

theorem step_cstep (h : Inv c s) {i : CI} {is : List CI} (hpc : s.pc t = Pc.cRun (i :: is)) :
    StepOK c s (cstep c s t i is).1 (cstep c s t i is).2 := by
  have hf := (ctor_facts h hpc).2.2.1
  cases i <;> simp only [cstep, touch_eq hf]
  case xchgInit => exact .quiet (inv_ctor h hpc is (Nat.le_refl _) (fun _ => rfl) (by simp))
  case giveInit =>
      split
      · exact .quiet (inv_ctor h hpc is (Nat.le_refl _) (fun _ => rfl) (by simp))
      · rename_i hg
        exact .quiet (inv_ctor (inv_giveHandles h hpc (Bool.eq_false_iff.2 hg)) hpc is (Nat.le_refl _) (fun _ => rfl) (by simp))
  case xchgTmp => exact .quiet (inv_ctor h hpc is (Nat.le_refl _) (fun _ => rfl) (by simp))
  case loadTmp =>
      -- the promise is published: only a mode with a promise has this instruction
      obtain ⟨⟨a1, a2, a3, a4, a5, a6⟩, a7⟩ := h.own_at hpc
      have hp := a6 (List.mem_cons_self ..)
      exact .quiet (h.step hpc rfl ⟨⟨a1, a2, a3, a4, a5, fun _ => hp⟩, nofun⟩ (wacts_upd rfl (hpc ▸ rfl)) (inflight_upd rfl (hpc ▸ rfl))
        { h.dat with nopromise := fun e => by simp [hp] at e } (g := ⟨fun _ => rfl, rfl, rfl, rfl, Iff.rfl⟩))
  case loadPending =>
      split
      · rename_i hs
        exact .quiet (inv_ctor h hpc _ (by simp [nCharge_filter]) (fun a => absurd hs a) (by simp [List.mem_filter, CI.isCharge]))
      · exact .quiet (inv_ctor h hpc is (Nat.le_refl _) (fun _ => rfl) (by simp))
  case charge e =>
      split
      · rename_i hs; exact .quiet (inv_ctor h hpc is (Nat.le_add_left ..) (fun a => absurd hs a) (by simp))
      · rename_i l hs
        split
        · exact .quiet (inv_c_charge_ok h hpc hs)
        · exact .quiet (inv_ctor h hpc _ (Nat.le_refl _) (fun _ => rfl) (by simp))

/-- a thread that holds a handle reaches live memory -/
theorem touch_held (h : Inv c s) (hh : 1 ≤ s.held t) : touch s = s :=
  touch_eq (alive_of_held h (t := t) (by omega)).2

theorem inv_skip (h : Inv c s) {a : Act} {p : List Act} (hpc : s.pc t = Pc.hRun (a :: p)) :
    Inv c (setPc s t (Pc.hRun p)) :=
  h.setPc hpc trivial

/-- a handle of `t` is copied or dropped -/
theorem inv_held (h : Inv c s) {q : List Act} (hpc : s.pc t = Pc.hRun q) {n r f : Nat} {hs : List Holder}
    (rf : Refs { s with held := upd s.held t n, refs := r, holders := hs, freed := f }) :
    Inv c { s with held := upd s.held t n, refs := r, holders := hs, freed := f } :=
  h.step (p := Pc.hRun q) hpc (hpc ▸ (upd_self s.pc t).symm) trivial (wacts_upd (hpc ▸ (upd_self s.pc t).symm) (hpc ▸ rfl)) (fun _ => rfl)
    { h.dat with
      toRefs := rf
      resHeld := fun u hu => by have := h.resHeld u hu; have := h.pcok t; grind [upd, pcOK] }
    (fr := fun u hu => ⟨rfl, rfl, rfl, upd_other _ _ _ _ hu⟩)

theorem inv_copyH (h : Inv c s) {q : List Act} (hpc : s.pc t = Pc.hRun q) (hh : s.held t ≠ 0) :
    Inv c (copyH s t) := by
  have hf := (alive_of_held h hh).2
  simp only [copyH, addRef, touch_eq hf]
  exact inv_held h hpc (h.refs.add (Holder.thread t) hf rfl rfl rfl (fun y => by cases y <;> grind [owned, upd]))

theorem inv_dropH (h : Inv c s) {q : List Act} (hpc : s.pc t = Pc.hRun q) (hh : s.held t ≠ 0) :
    Inv c (dropH s t).1 := by
  simp only [dropH, dropRef_fst _ (alive_of_held h hh).2]
  exact inv_held h hpc
    (h.refs.drop (Holder.thread t) (Nat.pos_of_ne_zero hh) rfl rfl rfl (fun y => by cases y <;> grind [owned, upd]))

theorem step_dropH (h : Inv c s) {q : List Act} (hpc : s.pc t = Pc.hRun q) (hh : s.held t ≠ 0) :
    StepOK c s (dropH s t).1 (dropH s t).2 :=
  ⟨inv_dropH h hpc hh, acc_dropRef s t (Holder.thread t), (noObs_dropRef s t _).good c⟩

theorem step_dropAll (n : Nat) : ∀ s : State, Inv c s → s.pc t = Pc.hRun [] → n ≤ s.held t →
    StepOK c s (dropAll t n s).1 (dropAll t n s).2 ∧ (dropAll t n s).1.pc t = Pc.hRun [] ∧ (dropAll t n s).1.held t = s.held t - n := by
  induction n with
  | zero => intro s h hpc _; exact ⟨.refl h, hpc, rfl⟩
  | succ n ih =>
      intro s h hpc hn
      have h1 := step_dropH h hpc (by omega)
      have := ih (dropH s t).1 h1.inv (by rw [dropH_pc]; exact hpc) (by rw [dropH_held]; omega)
      simp only [dropAll]
      refine ⟨h1.trans this.1, this.2.1, ?_⟩
      rw [this.2.2, dropH_held]; omega

theorem step_endThread (h : Inv c s) (hpc : s.pc t = Pc.hRun []) : StepOK c s (endThread s t).1 (endThread s t).2 := by
  have := step_dropAll (c := c) (t := t) (s.held t) s h hpc (Nat.le_refl _)
  have hh : (dropAll t (s.held t) s).1.held t = 0 := by rw [this.2.2]; omega
  unfold endThread
  exact this.1.trans (.quiet (this.1.inv.setPc this.2.1 hh (hp := nofun) (hok := fun _ => trivial)))

theorem inv_await (h : Inv c s) {k : WK} {p : List Act} (hpc : s.pc t = Pc.hRun (Act.await k :: p)) (hh : s.held t ≠ 0)
    (hk : k ≠ WK.peek) (ha : s.awaited t = false) {p' : Pc}
    (hp' : p' = Pc.hCas k Seen.null p ∨ (p' = Pc.hRead k p ∧ s.slot = Slot.ready)) :
    Inv c (setPc (touch (startAwait s t k)) t p') := by
  obtain ⟨hr, hf⟩ := alive_of_held h hh
  obtain ⟨c1, c2, c3, c4, c5, c6, c7, c8, c9, c10⟩ := not_awaited_clean h ha
  have d := h.dat
  have hcon : s.constructed = true := (h.thr t).aProg (by rw [hpc]; rfl)
  have hcls : cls p' = cls (Pc.hRun (Act.await k :: p)) ∧ actsOf p' = [] ∧ inflight p' = 1 ∧ postCtor p' = true := by
    rcases hp' with rfl | ⟨rfl, _⟩ <;> simp [cls, preClaim, preResolve, isCtor, gate, actsOf, inflight, postCtor, hk]
  have hI : ∀ x, inflight (upd s.pc t p' x) = upd (fun x => inflight (s.pc x)) t 1 x := fun x => by
    unfold upd; split <;> simp [hcls.2.2.1]
  have hpk : pcOK c t (Pc.hRun (Act.await k :: p)) → pcOK c t p' := by rcases hp' with rfl | ⟨rfl, _⟩ <;> exact id
  rw [touch_eq (by unfold startAwait; split <;> exact hf)]
  -- one proof for both values of `ownsCtx k`
  by_cases ho : ownsCtx k = true
  all_goals
    simp only [startAwait, ho, if_true, Bool.false_eq_true, if_false, addRef, touch_eq hf, setPc]
    refine h.step hpc rfl ?_ (wacts_upd rfl (by rw [hpc]; exact hcls.2.1)) hI (hp := fun _ => rfl) (hc := hcls.1) (hok := hpk)
      (g := ⟨id, rfl, rfl, rfl, Iff.rfl⟩) (fr := fun u hu => ⟨upd_other _ _ _ _ hu, upd_other _ _ _ _ hu, rfl, rfl⟩)
      { d with
        ctor0 := fun hc' => by simp [hcon] at hc'
        refsLen := by simp [d.refsLen]
        hThread := fun u => by simpa using d.hThread u
        hCtx := fun u => by have := d.hCtx u; grind [upd]
        hTracer := by simpa using d.hTracer
        freedIff := by have := d.freedIff; grind
        obsv := fun x => by have := d.obsv x; grind [upd]
        subAw := fun x => by have := d.subAw x; grind [upd]
        awKind := fun x => by have := d.awKind x; grind [upd]
        ctxIff := fun x => by have := d.ctxIff x; grind [upd]
        wakeKind := fun x => by have := d.wakeKind x; grind [upd]
        storeKind := fun x => by have := d.storeKind x; grind [upd]
        flagIff := fun x => by have := d.flagIff x; grind [upd] }
    rcases hp' with rfl | ⟨rfl, hs⟩
    · exact ⟨hk, upd_same .., upd_same .., c7, Nat.pos_of_ne_zero hh⟩
    · exact ⟨Or.inr ⟨upd_same .., upd_same ..⟩, Nat.pos_of_ne_zero hh, hs⟩

theorem step_runProg (p : List Act) : ∀ s : State, Inv c s → s.pc t = Pc.hRun p → StepOK c s (runProg t s p).1 (runProg t s p).2 := by
  induction p with
  | nil => intro s h hpc; simp only [runProg]; exact step_endThread h hpc
  | cons a p ih =>
      intro s h hpc
      have skip : StepOK c s (runProg t (setPc s t (Pc.hRun p)) p).1 (runProg t (setPc s t (Pc.hRun p)) p).2 :=
        .after (.quiet (inv_skip h hpc)) (ih _ (inv_skip h hpc) (by simp))
      cases a with
      | copy =>
          simp only [runProg]
          split
          · exact skip
          · rename_i hh
            have h1 := inv_skip (inv_copyH h hpc hh) hpc
            exact .after (.quiet h1 (copyH_counters s t _).1 (copyH_counters s t _).2) (ih _ h1 (by simp))
      | drop =>
          simp only [runProg]
          split
          · exact skip
          · rename_i hh
            have h1 := step_dropH h hpc hh
            have h2 := inv_skip h1.inv (by rw [dropH_pc]; exact hpc)
            exact h1.trans (.after (.quiet h2) (ih _ h2 (by simp)))
      | peek =>
          simp only [runProg]
          split
          · exact skip
          · rename_i hh
            rw [touch_held h (Nat.pos_of_ne_zero hh)]
            split
            · rename_i hs; exact .quiet (h.setPc hpc ⟨Or.inl rfl, Nat.pos_of_ne_zero hh, hs⟩)
            · exact .quiet (inv_skip h hpc)
      | await k =>
          simp only [runProg]
          split
          · exact skip
          · rename_i hh
            have hh1 : s.held t ≠ 0 := fun e => hh (Or.inl e)
            have hh2 : s.awaited t = false := by
              cases hq : s.awaited t
              · rfl
              · exact absurd (Or.inr (Or.inl hq)) hh
            have hh3 : k ≠ WK.peek := fun e => hh (Or.inr (Or.inr e))
            have hc := startAwait_counters s t k
            split
            · rename_i hs; exact .quiet (inv_await h hpc hh1 hh3 hh2 (Or.inr ⟨rfl, hs⟩)) (hc _).1 (hc _).2
            · exact .quiet (inv_await h hpc hh1 hh3 hh2 (Or.inl rfl)) (hc _).1 (hc _).2

theorem step_gate (h : Inv c s) (hpc : s.pc t = Pc.hStart ∨ s.pc t = Pc.hGate) (hc : s.constructed = true) :
    StepOK c s (runProg t (setPc s t (Pc.hRun (c.prog t))) (c.prog t)).1 (runProg t (setPc s t (Pc.hRun (c.prog t))) (c.prog t)).2 := by
  have hk : kindOf c t = Kind.handle ∧ t < c.n := by
    have := h.pcok t
    rcases hpc with h1 | h1 <;> (rw [h1] at this; exact this)
  have h0 : t ≠ 0 := ((kind_handle_iff c t).1 hk.1).1
  have h1 : Inv c (setPc s t (Pc.hRun (c.prog t))) := by
    refine Inv.of_step (s := s) rfl ⟨⟨by simp [hk.1], hk.2⟩, trivial, fun _ => hc, fun hc' => Bool.noConfusion (hc.symm.trans hc'),
        fun hr => by simp [hk.1] at hr, fun e => absurd e h0⟩
      (fun u _ => { h.thr u with }) (wacts_upd rfl ?_) (inflight_upd rfl ?_) { h.dat with }
    all_goals rcases hpc with h1 | h1 <;> (rw [h1]; rfl)
  exact .after (.quiet h1) (step_runProg _ _ h1 (by simp))

theorem getLast_cons_of_mem (x y : Node) (l : List Node) (h : y ∈ l) : (x :: l).getLast? = l.getLast? := by
  cases l with
  | nil => cases h
  | cons a l => rfl

theorem step_casStep (h : Inv c s) {k : WK} {e : Seen} {p : List Act} (hpc : s.pc t = Pc.hCas k e p) :
    StepOK c s (casStep s t k e p).1 (casStep s t k e p).2 := by
  obtain ⟨b1, b2, b3, b4, b5⟩ := h.own_at hpc
  rw [casStep, touch_held h b5]
  split
  · rename_i hs; exact .quiet (h.setPc hpc ⟨Or.inr ⟨b2, b3⟩, b5, hs⟩ (hi := if_neg b1))
  · rename_i l hs
    split
    · -- subscribed: a coroutine or callback returns to its caller, in `obsv` its node takes the place of its in-flight count
      have d := h.dat
      have hch : chainOf s.slot = l := by rw [hs]; rfl
      have hnr : s.slot ≠ Slot.ready := by rw [hs]; nofun
      have hi : inflight (s.pc t) = 1 := by rw [hpc]; rfl
      simp only [setPc]
      refine .quiet (h.step (p := if k = WK.sync then Pc.hWait p else Pc.hRun p) (I := upd (fun x => inflight (s.pc x)) t (if k = WK.sync then 1 else 0))
        hpc rfl ?_ (wacts_upd rfl (by rw [hpc]; split <;> rfl)) (fun x => by simp only [upd]; split <;> first | rfl | (split <;> rfl))
        (hp := fun _ => rfl) (hc := by split <;> rfl) (hok := by split <;> exact id)
        (g := ⟨id, rfl, rfl, rfl, by simp [hs]⟩) (fr := fun u hu => ⟨rfl, rfl, upd_other _ _ _ _ hu, rfl⟩)
        { d with
          nopromise := fun x => absurd (d.nopromise x).2 hnr
          pay := nofun
          tracerCnt := by have := d.tracerCnt; rw [hch] at this; simpa [chainOf] using this
          tracerLast := fun x => by
            have hm : Node.tracer ∈ l := by simpa [chainOf] using x
            have := d.tracerLast (hch ▸ hm)
            rw [hch] at this
            exact (getLast_cons_of_mem _ _ l hm).trans this
          wake := fun x => by have := d.wake x; rw [hch] at this; simp only [chainOf, List.count_cons]; grind [upd]
          obsv := fun x => by have := d.obsv x; rw [hch] at this; simp only [chainOf, List.count_cons]; grind [upd]
          subAw := fun x => by have := d.subAw x; grind [upd]
          wokenReady := fun x y => absurd (d.wokenReady x y) hnr })
      split
      · exact ⟨by rw [b2]; assumption, b3, upd_same .., b5⟩
      · trivial
    · exact .quiet (h.setPc hpc ⟨b1, b2, b3, b4, b5⟩)

theorem step_wait (h : Inv c s) {p : List Act} (hpc : s.pc t = Pc.hWait p ∨ s.pc t = Pc.hBlocked p) (hfl : s.flag t = true) :
    StepOK c s (setPc s t (Pc.hRead WK.sync p)) [Ev.waitPass t] := by
  have hrd : s.slot = Slot.ready := h.wokenReady t ((h.flagIff t).1 hfl).2
  obtain ⟨b1, b2, b3, b4⟩ := h.aWait t p hpc
  rcases hpc with h1 | h1 <;> exact .quiet (h.setPc h1 ⟨Or.inr ⟨b1, b2⟩, b4, hrd⟩)

theorem inv_obs_self (h : Inv c s) {k : WK} (sn sn' : Seen) {p : List Act}
    (hpc : s.pc t = Pc.hRead k p ∨ s.pc t = Pc.hRead2 k sn' p) :
    Inv c (setPc (obsStep s t t k sn).1 t (Pc.hRun p)) := by
  obtain ⟨q1, q2, q3, q4, q5⟩ : cls (Pc.hRun p) = cls (s.pc t) ∧ (pcOK c t (s.pc t) → pcOK c t (Pc.hRun p)) ∧
      actsOf (Pc.hRun p) = actsOf (s.pc t) ∧ inflight (s.pc t) = (if k = WK.peek then 0 else 1) ∧ postCtor (s.pc t) = true := by
    rcases hpc with h1 | h1 <;> (rw [h1]; exact ⟨rfl, id, rfl, rfl, rfl⟩)
  have hc : (k = WK.peek ∨ (s.akind t = k ∧ s.awaited t = true)) ∧ 1 ≤ s.held t := by
    rcases hpc with h1 | h1
    · have := h.aRead t _ _ h1; exact ⟨this.1, this.2.1⟩
    · have := h.aRead2 t _ _ _ h1; exact ⟨this.1, this.2.1⟩
  obtain ⟨hr, hf⟩ := alive_of_held h (t := t) (by omega)
  have d := h.dat
  have hob := d.obsv t
  have hI : ∀ x, inflight (upd s.pc t (Pc.hRun p) x) = upd (fun x => inflight (s.pc x)) t 0 x := fun x => by
    unfold upd; split <;> rfl
  by_cases ho : ownsCtx k = true
  · have hkp : k ≠ WK.peek := by rintro rfl; cases ho
    obtain ⟨hak, haw⟩ := hc.1.resolve_left hkp
    simp only [q4, hkp, if_false, haw, if_true] at hob
    have hcx : s.ctx t = true := (d.ctxIff t).2 ⟨haw, hak ▸ ho, by omega⟩
    rw [obsStep_fst_owns t k sn ho hf]
    simp only [setPc]
    exact h.step rfl rfl trivial (wacts_upd rfl q3) hI (hp := fun _ => q5) (hc := q1) (hok := q2)
      { d with
        toRefs := d.toRefs.drop (Holder.ctx t) (by simp [owned, hcx]) rfl rfl rfl (fun y => by cases y <;> grind [owned, upd])
        obsv := fun x => by have := d.obsv x; grind [upd]
        ctxIff := fun x => by have := d.ctxIff x; grind [upd] }
  · cases k with
    | coro => exact absurd rfl ho
    | cb => exact absurd rfl ho
    | peek => rw [obsStep_fst_peek t sn hf]; exact h.setPc rfl trivial (fun _ => q5) q1 q3 q4.symm q2
    | sync =>
        obtain ⟨hak, haw⟩ := hc.1.resolve_left nofun
        rw [obsStep_fst_sync t sn hf]
        simp only [setPc]
        exact h.step rfl rfl trivial (wacts_upd rfl q3) hI (hp := fun _ => q5) (hc := q1) (hok := q2)
          { d with
            obsv := fun x => by have := d.obsv x; grind [upd]
            ctxIff := fun x => by have := d.ctxIff x; grind [upd, ownsCtx] }

theorem obsOf_good (h : Inv c s) (hs : s.slot = Slot.ready) : obsOf s Seen.ready = resultObs c := by
  unfold obsOf resultObs
  rw [h.pay hs]
  cases finalPayload c <;> simp

/-- `s'` is the resolved `s` up to the wake-up count -/
theorem step_obs {s' : State} {u x : Nat} {k : WK} {p : Pc} (h : Inv c s) (hs : s.slot = Slot.ready) (ha : Acc s s' [])
    (hp : s'.payload = s.payload) (h' : Inv c (setPc (obsStep s' u x k Seen.ready).1 t p)) :
    StepOK c s (setPc (obsStep s' u x k Seen.ready).1 t p) (obsStep s' u x k Seen.ready).2 :=
  ⟨h', ha.trans (acc_obsStep s' u x k Seen.ready), obsGood_obsStep (by unfold obsOf; rw [hp]; exact obsOf_good h hs) u x k⟩

theorem step_readStep (h : Inv c s) {k : WK} {p : List Act} (hpc : s.pc t = Pc.hRead k p) :
    StepOK c s (readStep s t k p).1 (readStep s t k p).2 := by
  obtain ⟨b1, b2, b3⟩ := h.own_at hpc
  unfold readStep
  split
  · rw [touch_held h b2, b3]; exact .quiet (h.setPc hpc ⟨b1, b2, b3, rfl⟩)
  · have h1 := inv_obs_self h Seen.ready Seen.ready (Or.inl hpc)
    exact (step_obs h b3 (Acc.refl s) rfl h1).trans (step_runProg _ _ h1 (by simp))

theorem step_readStep2 (h : Inv c s) {k : WK} {sn : Seen} {p : List Act} (hpc : s.pc t = Pc.hRead2 k sn p) :
    StepOK c s (readStep2 s t k sn p).1 (readStep2 s t k sn p).2 := by
  obtain ⟨_, _, hs, rfl⟩ := h.aRead2 t k sn p hpc
  have h1 := inv_obs_self h Seen.ready Seen.ready (Or.inr hpc)
  unfold readStep2
  exact (step_obs h hs (Acc.refl s) rfl h1).trans (step_runProg _ _ h1 (by simp))

theorem step_claimStep (h : Inv c s) (hpc : s.pc t = Pc.rStart ∨ s.pc t = Pc.rGate) (hp : s.published = true) :
    StepOK c s (claimStep c s t).1 (claimStep c s t).2 := by
  have T := h.thr t
  have hq : preResolve (s.pc t) = true ∧ actsOf (s.pc t) = [] ∧ inflight (s.pc t) = 0 ∧
      pcOK c t (s.pc t) = (kindOf c t = Kind.res ∧ t < c.n) := by
    rcases hpc with h1 | h1 <;> (rw [h1]; exact ⟨rfl, rfl, rfl, rfl⟩)
  have hk := hq.2.2.2 ▸ T.pcok
  have h0 : t ≠ 0 := ((kind_res_iff c t).1 hk.1).1
  have h1 : Inv c { setPc s t Pc.rResolve with owner := false } :=
    Inv.of_step (s := s) rfl ⟨hk, hp, nofun, fun _ _ hk' => by simp [hk.1] at hk',
        fun a b => ⟨fun h' => Bool.noConfusion (hp.symm.trans h'), fun _ => (T.res a b).2.1 hq.1, nofun⟩, fun e => absurd e h0⟩
      (fun u _ => { h.thr u with }) (wacts_upd rfl hq.2.1.symm) (inflight_upd rfl hq.2.2.1.symm) { h.dat with }
  simp only [claimStep]
  split <;> exact .quiet h1

theorem res_tid (hk : kindOf c t = Kind.res) : t = c.rtid := ((kind_res_iff c t).1 hk).2

theorem cntW_append (x : Nat) (a b : List WAct) : cntW x (a ++ b) = cntW x a + cntW x b := by
  induction a with
  | nil => simp [cntW]
  | cons y a ih => cases y <;> simp [cntW, ih] <;> omega

theorem cntO_append (x : Nat) (a b : List WAct) : cntO x (a ++ b) = cntO x a + cntO x b := by
  induction a with
  | nil => simp [cntO]
  | cons y a ih => cases y <;> simp [cntO, ih] <;> omega

theorem cntS_append (x : Nat) (a b : List WAct) : cntS x (a ++ b) = cntS x a + cntS x b := by
  induction a with
  | nil => simp [cntS]
  | cons y a ih => cases y <;> simp [cntS, ih] <;> omega

theorem cntRel_append (a b : List WAct) : cntRel (a ++ b) = cntRel a + cntRel b := by
  induction a with
  | nil => simp [cntRel]
  | cons y a ih => cases y <;> simp [cntRel, ih] <;> omega

theorem cntW_buildActs (ak : Nat → WK) (x : Nat) (l : List Node) : cntW x (buildActs ak l) = l.count (Node.aw x) := by
  unfold buildActs
  rw [cntW_append]
  induction l with
  | nil => rfl
  | cons y l ih => cases y <;> grind [inWalk, coros, cntW]

theorem cntO_buildActs (ak : Nat → WK) (x : Nat) (l : List Node) :
    cntO x (buildActs ak l) = if ak x = WK.sync then 0 else l.count (Node.aw x) := by
  unfold buildActs
  rw [cntO_append]
  induction l with
  | nil => simp [inWalk, coros, cntO]
  | cons y l ih => cases y <;> grind [inWalk, coros, cntO]

theorem cntS_buildActs (ak : Nat → WK) (x : Nat) (l : List Node) :
    cntS x (buildActs ak l) = if ak x = WK.sync then l.count (Node.aw x) else 0 := by
  unfold buildActs
  rw [cntS_append]
  induction l with
  | nil => simp [inWalk, coros, cntS]
  | cons y l ih => cases y <;> grind [inWalk, coros, cntS]

theorem cntRel_buildActs (ak : Nat → WK) (l : List Node) : cntRel (buildActs ak l) = l.count Node.tracer := by
  unfold buildActs
  rw [cntRel_append]
  induction l with
  | nil => rfl
  | cons y l ih => cases y <;> grind [inWalk, coros, cntRel]

theorem obsAfter_not_mem_buildActs (ak : Nat → WK) (x : Nat) (sn : Seen) (l : List Node) :
    WAct.obsAfter x sn ∉ buildActs ak l := by
  unfold buildActs
  induction l with
  | nil => simp [inWalk, coros]
  | cons y l ih => cases y <;> grind [inWalk, coros]

theorem Own.resolve {p : Pc} (h : Own c s t p) (b : Outcome) : Own c { s with payload := b, slot := Slot.ready } t p := by
  cases p
  case hRead => exact ⟨h.1, h.2.1, rfl⟩
  case hRead2 => exact ⟨h.1, h.2.1, rfl, h.2.2.2⟩
  case cRun => exact ⟨⟨h.1.1, h.1.2.1, h.1.2.2.1, h.1.2.2.2.1, fun a => absurd rfl a, h.1.2.2.2.2.2⟩, h.2⟩
  case rRun => exact ⟨rfl, h.2⟩
  all_goals exact h

theorem step_resolveStep (h : Inv c s) (hpc : s.pc t = Pc.rResolve) :
    StepOK c s (resolveStep c s t).1 (resolveStep c s t).2 := by
  have T := h.thr_at hpc
  have hk : kindOf c t = Kind.res ∧ t < c.n := T.pcok
  have ht := res_tid hk.1
  have h0 : t ≠ 0 := ((kind_res_iff c t).1 hk.1).1
  have hpub : s.published = true := T.own
  have d := h.dat
  have hprom : c.mode.hasPromise = true := by
    cases hq : c.mode.hasPromise
    · have := (d.nopromise hq).1; simp [hpub] at this
    · rfl
  have hpend : s.slot ≠ Slot.ready := (T.res hk.1 hk.2).2.1 rfl hprom
  have hf := (inv_alive_pending h hpend).1
  have hw0 : wacts c s = [] := by unfold wacts; rw [← ht, hpc]; rfl
  rw [hw0] at d
  simp only [resolveStep, touch_eq hf, setPc]
  refine .quiet <| Inv.of_step (s := s) rfl ⟨hk, ⟨rfl, hpub⟩, nofun, fun _ _ a => by simp [hk.1] at a,
      fun _ _ => ⟨fun a => Bool.noConfusion (hpub.symm.trans a), nofun, fun _ => rfl⟩, fun a => absurd a h0⟩
    (fun u hu =>
      { h.thr u with
        own := (h.own u).resolve c.rk.payload
        res := fun a => absurd ((res_tid a).trans ht.symm) hu
        ctor := fun e => ⟨fun a => absurd rfl a, ((h.thr u).ctor e).2⟩ })
    (W := buildActs s.akind (chainOf s.slot)) (by unfold wacts; rw [ht]; exact congrArg actsOf (upd_same ..))
    (inflight_upd rfl (hpc ▸ rfl))
    { d with
      nopromise := fun a => by simp [hprom] at a
      pay := fun _ => by simp [finalPayload, hprom]
      obsAfterReady := fun x sn a => absurd a (obsAfter_not_mem_buildActs _ _ _ _)
      tracerCnt := by simpa [cntRel_buildActs, chainOf, cntRel] using d.tracerCnt
      tracerLast := nofun
      wake := fun x => by simpa [cntW_buildActs, chainOf, cntW] using d.wake x
      obsv := fun x => by simpa [cntO_buildActs, chainOf, cntO] using d.obsv x
      wakeKind := fun x => by rw [cntO_buildActs]; split <;> simp [*]
      storeKind := fun x => by rw [cntS_buildActs]; split <;> simp [*]
      wokenReady := fun _ _ => rfl }

theorem walker_facts (h : Inv c s) {acts : List WAct} (hpc : s.pc t = Pc.rRun acts) :
    t = c.rtid ∧ kindOf c t = Kind.res ∧ t < c.n ∧ wacts c s = acts ∧ s.slot = Slot.ready := by
  have hpk : kindOf c t = Kind.res ∧ t < c.n := (h.thr_at hpc).pcok
  have ht := res_tid hpk.1
  refine ⟨ht, hpk.1, hpk.2, ?_, (h.aRun t _ hpc).1⟩
  unfold wacts; rw [← ht, hpc]; rfl

theorem wacts_walker {s' : State} (rest : List WAct) (ht : t = c.rtid) (hpc : s'.pc = upd s.pc t (Pc.rRun rest)) :
    wacts c s' = rest := by
  unfold wacts; rw [hpc, ← ht, upd_same]; rfl

theorem inv_w_store (h : Inv c s) {x : Nat} {rest : List WAct} (hpc : s.pc t = Pc.rRun (WAct.store x :: rest)) :
    Inv c { setPc s t (Pc.rRun rest) with flag := upd s.flag x true, woken := upd s.woken x (s.woken x + 1) } := by
  obtain ⟨ht, hk, hn, hw0, hrd⟩ := walker_facts h hpc
  have d := hw0 ▸ h.dat
  simp only [setPc]
  exact h.step hpc rfl (h.aRun t _ hpc) (wacts_walker rest ht rfl)
    (inflight_upd rfl (hpc ▸ rfl))
    { d with
      obsAfterReady := fun y sn a => d.obsAfterReady y sn (List.mem_cons_of_mem _ a)
      wake := fun y => by have := d.wake y; simp only [cntW] at this; grind [upd]
      storeKind := fun y a => d.storeKind y (by simp only [cntS]; omega)
      flagIff := fun y => by have := d.flagIff y; have := d.storeKind y; simp only [cntS] at this; grind [upd]
      wokenReady := fun _ _ => hrd }

theorem pendingObs_facts (h : Inv c s) (x : Nat) (hx : 0 < cntO x (wacts c s)) :
    ownsCtx (s.akind x) = true ∧ s.ctx x = true ∧ s.freed = 0 := by
  have h1 := h.obsv x
  have h2 := h.wakeKind x hx
  have haw : s.awaited x = true := by
    cases hq : s.awaited x
    · simp [hq] at h1; omega
    · rfl
  have h3 := h.awKind x haw
  have hown : ownsCtx (s.akind x) = true := by
    cases hq : s.akind x <;> simp_all [ownsCtx]
  have hcx : s.ctx x = true := (h.ctxIff x).2 ⟨haw, hown, by simp [haw] at h1; omega⟩
  exact ⟨hown, hcx, (alive_of_ctx h x hcx).2⟩

theorem inv_w_wake_load (h : Inv c s) {x : Nat} {rest : List WAct} (hpc : s.pc t = Pc.rRun (WAct.wake x :: rest)) :
    Inv c (setPc (touch { s with woken := upd s.woken x (s.woken x + 1) }) t (Pc.rRun (WAct.obsAfter x s.slot.seen :: rest))) := by
  obtain ⟨ht, hk, hn, hw0, hrd⟩ := walker_facts h hpc
  have d := hw0 ▸ h.dat
  have hf := (pendingObs_facts h x (by rw [hw0]; simp [cntO]; omega)).2.2
  have hns : s.akind x ≠ WK.sync := d.wakeKind x (by simp [cntO]; omega)
  rw [show s.slot.seen = Seen.ready by rw [hrd]; rfl, touch_eq (s := { s with woken := upd s.woken x (s.woken x + 1) }) hf]
  simp only [setPc]
  exact h.step hpc rfl (h.aRun t _ hpc) (wacts_walker _ ht rfl)
    (inflight_upd rfl (hpc ▸ rfl))
    { d with
      obsAfterReady := fun y sn a => by
        rcases List.mem_cons.1 a with e | e
        · cases e; rfl
        · exact d.obsAfterReady y sn (List.mem_cons_of_mem _ e)
      wake := fun y => by have := d.wake y; simp only [cntW] at this ⊢; grind [upd]
      flagIff := fun y => by have := d.flagIff y; grind [upd]  -- by `hns`
      wokenReady := fun _ _ => hrd }

/-- `b` = 1 when the observation is also the wake-up -/
theorem inv_w_obs (h : Inv c s) (x : Nat) (sn : Seen) {a : WAct} {rest : List WAct} (hpc : s.pc t = Pc.rRun (a :: rest)) (b : Nat)
    (ha : (a = WAct.wake x ∧ b = 1) ∨ ((∃ sn', a = WAct.obsAfter x sn') ∧ b = 0)) :
    Inv c (setPc (obsStep { s with woken := upd s.woken x (s.woken x + b) } t x (s.akind x) sn).1 t (Pc.rRun rest)) := by
  obtain ⟨ht, hk, hn, hw0, hrd⟩ := walker_facts h hpc
  have d := hw0 ▸ h.dat
  obtain ⟨e1, e2, e3, e5⟩ : (∀ y, cntW y (a :: rest) = (if x = y then b else 0) + cntW y rest) ∧
      (∀ y, cntO y (a :: rest) = (if x = y then 1 else 0) + cntO y rest) ∧ (∀ y, cntS y (a :: rest) = cntS y rest) ∧
      cntRel (a :: rest) = cntRel rest := by
    rcases ha with ⟨rfl, rfl⟩ | ⟨⟨sn', rfl⟩, rfl⟩ <;> exact ⟨fun _ => by simp [cntW], fun _ => rfl, fun _ => rfl, rfl⟩
  obtain ⟨hown, hcx, hf⟩ := pendingObs_facts h x (by rw [hw0, e2]; simp; omega)
  have hns : s.akind x ≠ WK.sync := d.wakeKind x (by rw [e2]; simp; omega)
  rw [obsStep_fst_owns (s := { s with woken := upd s.woken x (s.woken x + b) }) x _ sn hown hf]
  simp only [setPc]
  exact h.step hpc rfl (h.aRun t _ hpc) (wacts_walker _ ht rfl)
    (inflight_upd rfl (hpc ▸ rfl))
    { d with
      obsAfterReady := fun y sn a => d.obsAfterReady y sn (List.mem_cons_of_mem _ a)
      toRefs := d.toRefs.drop (Holder.ctx x) (by simp [owned, hcx]) rfl rfl rfl (fun y => by cases y <;> grind [owned, upd])
      tracerCnt := e5 ▸ d.tracerCnt
      wake := fun y => by have := d.wake y; rw [e1] at this; grind [upd]
      obsv := fun y => by have := d.obsv y; rw [e2] at this; grind [upd]
      ctxIff := fun y => by have := d.ctxIff y; grind [upd]
      wakeKind := fun y a => d.wakeKind y (by rw [e2]; omega)
      storeKind := fun y a => d.storeKind y (by rw [e3]; exact a)
      flagIff := fun y => by have := d.flagIff y; grind [upd]  -- by `hns`
      wokenReady := fun _ _ => hrd }

theorem inv_w_release (h : Inv c s) {rest : List WAct} (hpc : s.pc t = Pc.rRun (WAct.release :: rest)) :
    Inv c (setPc (dropRef { s with tracerRef := false } t Holder.tracer).1 t (Pc.rRun rest)) := by
  obtain ⟨ht, hk, hn, hw0, hrd⟩ := walker_facts h hpc
  have d := hw0 ▸ h.dat
  have h0 : t ≠ 0 := ((kind_res_iff c t).1 hk).1
  have hch : chainOf s.slot = [] := by rw [hrd]; rfl
  have htr : s.tracerRef = true := by
    have := d.tracerCnt
    cases hq : s.tracerRef
    · simp [hq, cntRel] at this
    · rfl
  obtain ⟨hr, hf⟩ := alive_of_tracer h htr
  rw [dropRef_fst (s := { s with tracerRef := false }) Holder.tracer hf]
  simp only [setPc]
  refine Inv.of_step (s := s) rfl { h.thr_at hpc with ctor := fun a => absurd a h0 }
    (fun u hu => ?_) (wacts_walker _ ht rfl) (inflight_upd rfl (hpc ▸ rfl))
    { d with
      obsAfterReady := fun y sn a => d.obsAfterReady y sn (List.mem_cons_of_mem _ a)
      toRefs := d.toRefs.drop Holder.tracer (by simp [owned, htr]) rfl rfl rfl (fun y => by cases y <;> simp [owned, htr])
      tracerCnt := by have := d.tracerCnt; rw [hch, htr] at this; simp only [cntRel] at this; simpa [hch] using this }
  by_cases hu0 : u = 0
  · subst hu0
    refine { h.thr 0 with own := ?_, ctor := fun e => ⟨fun a => absurd hrd a, ((h.thr 0).ctor e).2⟩ }
    have ho := h.own 0
    cases hq : s.pc 0 <;> rw [hq] at ho
    case cRun => exact ⟨⟨ho.1.1, ho.1.2.1, ho.1.2.2.1, fun _ => rfl, fun a => absurd hrd a, ho.1.2.2.2.2.2⟩, ho.2⟩
    all_goals exact ho
  · exact (h.thr u).frame id id (fun a => absurd a hu0) (fun _ => rfl) Iff.rfl ⟨rfl, rfl, rfl, rfl⟩

theorem step_runActs (acts : List WAct) : ∀ s : State, Inv c s → s.pc t = Pc.rRun acts →
    StepOK c s (runActs c t s acts).1 (runActs c t s acts).2 := by
  induction acts with
  | nil =>
      intro s h hpc
      simp only [runActs]
      split <;> exact .quiet (h.setPc hpc (h.resHeld t (walker_facts h hpc).2.1) (hok := fun _ => trivial))
  | cons a rest ih =>
      intro s h hpc
      obtain ⟨ht, hk, hn, hw0, hrd⟩ := walker_facts h hpc
      cases a with
      | store x => simp only [runActs]; exact .quiet (inv_w_store h hpc)
      | wake x =>
          simp only [runActs]
          split
          · exact .quiet (inv_w_wake_load h hpc)
          · have h1 := inv_w_obs h x Seen.ready hpc 1 (Or.inl ⟨rfl, rfl⟩)
            have h0 : Acc s { s with woken := upd s.woken x (s.woken x + 1) } [] := ⟨fun _ => by simp, by simp⟩
            exact (step_obs h hrd h0 rfl h1).trans (ih _ h1 (by simp))
      | obsAfter x sn =>
          simp only [runActs]
          obtain rfl : sn = Seen.ready := h.obsAfterReady x sn (by rw [hw0]; simp)
          have h1 := inv_w_obs h x Seen.ready hpc 0 (Or.inr ⟨⟨_, rfl⟩, rfl⟩)
          rw [show upd s.woken x (s.woken x + 0) = s.woken from upd_self s.woken x] at h1
          exact (step_obs h hrd (Acc.refl s) rfl h1).trans (ih _ h1 (by simp))
      | release =>
          simp only [runActs]
          have h1 := inv_w_release h hpc
          have h0 : Acc s { s with tracerRef := false } [] := ⟨fun _ => by simp, by simp⟩
          exact StepOK.trans ⟨h1, h0.trans (acc_dropRef _ t Holder.tracer), (noObs_dropRef _ _ _).good c⟩ (ih _ h1 (by simp))

theorem crashes_false (hf : Fixed c) : c.crashes = false := by
  unfold Cfg.crashes; rw [hf.1]; rfl

theorem step_astep (hf : Fixed c) (h : Inv c s) (hen : enabled s t = true) : StepOK c s (astep c s t).1 (astep c s t).2 := by
  unfold astep
  cases hpc : s.pc t with
  | done => exact .refl h
  | cRun is =>
      cases is with
      | nil => simp only; exact .after (step_distribute h hpc) (step_runProg _ _ (step_distribute h hpc).inv (by simp))
      | cons i is => simp only [crashes_false hf, Bool.false_eq_true, if_false]; exact step_cstep h hpc
  | hStart =>
      simp only
      split
      · rename_i hc; exact step_gate h (Or.inl hpc) hc
      · exact .quiet (h.setPc hpc (show Own c s t Pc.hStart from h.own_at hpc))
  | hGate =>
      have hc : s.crashed = false ∧ s.constructed = true := by simpa [enabled, hpc] using hen
      exact step_gate h (Or.inr hpc) hc.2
  | hRun p => exact step_runProg p s h hpc
  | hCas k e p => exact step_casStep h hpc
  | hWait p =>
      simp only
      split
      · rename_i hfl; exact step_wait h (Or.inl hpc) hfl
      · exact .quiet (h.setPc hpc (show Own c s t (Pc.hWait p) from h.own_at hpc))
  | hBlocked p =>
      have hfl : s.crashed = false ∧ s.flag t = true := by simpa [enabled, hpc] using hen
      exact step_wait h (Or.inr hpc) hfl.2
  | hRead k p => exact step_readStep h hpc
  | hRead2 k sn p => exact step_readStep2 h hpc
  | rStart =>
      simp only
      split
      · rename_i hp; exact step_claimStep h (Or.inl hpc) hp
      · exact .quiet (h.setPc hpc trivial)
  | rGate =>
      have hp : s.crashed = false ∧ s.published = true := by simpa [enabled, hpc] using hen
      exact step_claimStep h (Or.inr hpc) hp.2
  | rResolve => exact step_resolveStep h hpc
  | rRun acts => exact step_runActs acts s h hpc

end Cocls.SharedFuture
