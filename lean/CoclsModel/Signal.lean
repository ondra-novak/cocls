/-
Model of `cocls::signal<T>` (signal.h) on top of the awaiter chain (awaiter.h:65-107).

Real state (signal.h:38-52 and the `shared_ptr` that owns it):
* `handles`  — strong references (`signal` / `collector` objects); the shared state exists iff `handles ≠ 0`
* `chain`    — `_chain`, the awaiter chain of the waiting listeners; head = last subscriber (`awaiter::subscribe`
               pushes at the head, `resume_chain` detaches the whole chain with one exchange and walks it)
* `cur`      — `_cur_val`: null, pointing at the owned copy `_value_storage`, or at the caller's lvalue
* `stored`   — `_value_storage` (`none` = disengaged: initially, and after a by-value call whose value construction threw —
               `optional::emplace` destroys the old value before it constructs the new one, `stepEmitFail`; `cur` may then
               still be `owned`: a stale pointer, `readNow` = `Out.dead`)
* `rel`      — coroutine listeners whose handle sits in a `suspend_point` returned by a collector call (or by the
               state destructor) and that have not been resumed yet.  *Flushing* the suspend point = `resume l` for
               each of them.  A callback listener (`connect`) is never here: its `resume()` runs inside the walk.
* listeners  — ids `0 .. next-1`; `isCb l` (connected callback, heap `Awt`) or coroutine with a `script`: what it
               does after the 1st, 2nd … value (`re` = re-await the emitter at once, `gate` = do something else, i.e.
               suspend elsewhere until `wake l`, then re-await; `exit` = leave); an exhausted script means "re-await
               for ever".  `left c` = how many more times callback `c` answers `true`.

One `Op` = one call of the public API (or one resumption of one released coroutine), so an operation list is an
arbitrary history of arrivals, departures, collector calls of each flavour — including by-value calls whose value
construction throws (`emitFail`: validating constructor in the in-place overload, throwing copy of a const lvalue through
the same overload, throwing move in the rvalue overload) —, flushes in any order / at any later time, and handle creation /
destruction.

The chain walk of a collector call / of the state destructor is written twice: in closed form (`stepEmit`, `stepDrop`:
filters over the detached chain — what the proofs use) and awaiter by awaiter as the code does it (`stepEmitLoop`,
`stepDropLoop` — what the driver executes); `stepEmit_eq_loop` / `stepDrop_eq_loop` (SignalProofs.lean) prove them equal on
duplicate-free chains, which every reachable state has.  Threads: a subscription takes effect at its publishing CAS and a collector call at its exchange, so a
multi-threaded run is the operation list ordered by those points; what the subscribing thread does *after* its CAS is the
subject of the small `Pub` model at the end of this file.

Every listener's emitter / callback awaiter holds a *weak* pointer: `conn l` says whether it denotes the shared state or
nothing (default constructed emitter, emitter taken from / `connect` called on a moved-from `signal`, emitter assigned from
such an emitter).  `emitter::operator=` (`assign`) copies only that weak pointer; it is modelled for an emitter nobody is
suspended on (the listener is busy elsewhere) — assigning to an emitter a coroutine is suspended on is outside the model
(`Res.bad`).  A second live signal is not modelled: "another state" is observably the same as "no state" for this signal.

Ghost state (never consulted by the control flow): `got l` (what listener `l` observed, in order), `emitted`,
`expect l` (for a coroutine: the values emitted / cancellations issued while it was waiting — the specification
of what it has to observe), `subAt l`, `budget c`, `pure l` (has only ever re-awaited).
-/
namespace Cocls.Signal

inductive Act where
  | re | gate | exit
  deriving DecidableEq, Repr, Inhabited

/-- what a listener observes: a value, `await_canceled_exception`, or (callbacks) its own release -/
inductive Out where
  | val (v : Nat)
  | canceled
  | free
  | dead             -- a reference to the owned copy after a failed `emplace` destroyed it (only outside the `Flushed` contract)
  deriving DecidableEq, Repr, Inhabited

/-- `_cur_val` when it is not null -/
inductive Ptr where
  | owned            -- `&*_value_storage`
  | ext (v : Nat)    -- address of the caller's lvalue (holding `v`)
  deriving DecidableEq, Repr, Inhabited

def upd {α : Type} (f : Nat → α) (i : Nat) (a : α) : Nat → α := fun j => if j = i then a else f j

@[simp] theorem upd_same {α : Type} (f : Nat → α) (i : Nat) (a : α) : upd f i a i = a := by simp [upd]
theorem upd_other {α : Type} (f : Nat → α) {i j : Nat} (a : α) (h : j ≠ i) : upd f i a j = f j := by simp [upd, h]

structure State where
  handles : Nat := 1
  chain : List Nat := []
  cur : Option Ptr := none
  stored : Option Nat := none
  rel : List Nat := []
  gated : List Nat := []
  next : Nat := 0
  isCb : Nat → Bool := fun _ => false
  script : Nat → List Act := fun _ => []
  left : Nat → Nat := fun _ => 0
  conn : Nat → Bool := fun _ => false   -- the weak pointer held by listener `l`'s emitter / callback awaiter: the shared state, or nothing
  -- ghost
  got : Nat → List Out := fun _ => []
  emitted : List Nat := []
  expect : Nat → List Out := fun _ => []
  subAt : Nat → Nat := fun _ => 0
  budget : Nat → Nat := fun _ => 0
  pure : Nat → Bool := fun _ => false

inductive Op where
  | listen (sc : List Act)            -- start a coroutine listener: `co_await emitter`
  | listen0 (sc : List Act)           -- the same on a default-constructed (never connected) emitter
  | connect (n : Nat)                 -- `signal::connect(fn)`, fn answers `true` n times, then `false`
  | connectL (n : Nat)                -- `connect(fn)` with `fn` an *lvalue* callable which the caller destroys (or reuses) as soon as
                                      -- `connect` has returned: the connection owns a copy (`std::decay_t<Fn> _fn`), same step as `connect`
  | connect0 (n : Nat)                -- `connect(fn)` on a moved-from `signal` object (no state): `initial_reg` finds nothing to lock
  | assign (l : Nat) (b : Bool)       -- `emitter::operator=` on the emitter of listener `l` while `l` is busy elsewhere: it now
                                      -- denotes the shared state (`true`: copy of a connected emitter) or nothing (`false`)
  | emit (byRef : Bool) (v : Nat)     -- collector call: by value / rvalue / emplace (`false`) or lvalue reference (`true`)
  | emitFail                          -- collector call by value (in-place arguments, rvalue, const lvalue) whose value construction
                                      -- throws inside `_value_storage.emplace(...)`: the exception propagates to the caller
  | resume (l : Nat)                  -- the suspend point holding `l` is flushed as far as `l`: `l` is resumed
  | wake (l : Nat)                    -- the gated listener `l` finishes its other business and re-awaits
  | addHandle                         -- copy a `signal` / `collector`
  | dropHandle                        -- destroy one
  deriving DecidableEq, Repr

inductive Res where
  | id (l : Nat)
  | num (n : Nat)       -- number of coroutine handles in the returned suspend point
  | last (b : Bool)     -- dropHandle: was it the last one
  | unit
  | threw               -- emitFail: the exception of the value's constructor reached the caller
  | bad                 -- outside the precondition
  deriving DecidableEq, Repr

def init : State := {}

/-- the value `_cur_val` points at -/
def deref (s : State) : Option Nat :=
  match s.cur with
  | none => none
  | some Ptr.owned => s.stored
  | some (Ptr.ext v) => some v

/-- `emitter::await_resume` (signal.h:204-217): lock the weak pointer, read through `_cur_val`, else throw.
`_cur_val` still pointing at `_value_storage` after a failed `emplace` has reset it (`stepEmitFail`) yields a reference to a
destroyed object: `Out.dead`. -/
def readNow (s : State) : Out :=
  if s.handles = 0 then Out.canceled
  else match deref s with
    | none => if s.cur = some Ptr.owned then Out.dead else Out.canceled
    | some v => Out.val v

/-- `co_await emitter` by coroutine `l` (signal.h:192-201): subscribe if the state is alive, otherwise
`await_suspend` returns false and `await_resume` throws at once -/
def reawait (s : State) (l : Nat) : State :=
  if s.handles = 0 then
    { s with got := upd s.got l (s.got l ++ [Out.canceled]), expect := upd s.expect l (s.expect l ++ [Out.canceled]) }
  else { s with chain := l :: s.chain }

/-- `await_suspend` returns false, `await_resume` throws `await_canceled_exception` at once -/
def cancelNow (s : State) (l : Nat) : State :=
  { s with got := upd s.got l (s.got l ++ [Out.canceled]), expect := upd s.expect l (s.expect l ++ [Out.canceled]) }

/-- `co_await emitter` in general: `_wk_state.lock()` fails when the emitter denotes no state (default constructed,
assigned from such an emitter, obtained from a moved-from signal) or when the state is gone -/
def await (s : State) (l : Nat) : State :=
  if s.conn l = true then reawait s l else cancelNow s l

def fresh (s : State) (cb : Bool) (sc : List Act) (n : Nat) (pr : Bool) (cn : Bool) : State :=
  { s with next := s.next + 1,
           isCb := upd s.isCb s.next cb, script := upd s.script s.next sc, left := upd s.left s.next n,
           conn := upd s.conn s.next cn,
           got := upd s.got s.next [], expect := upd s.expect s.next [],
           subAt := upd s.subAt s.next s.emitted.length, budget := upd s.budget s.next n,
           pure := upd s.pure s.next pr }

def stepListen (s : State) (sc : List Act) : State × Res :=
  (reawait (fresh s false sc 0 true true) s.next, Res.id s.next)

def stepListen0 (s : State) (sc : List Act) : State × Res :=
  (cancelNow (fresh s false sc 0 false false) s.next, Res.id s.next)

/-- `connect` needs a `signal` object, hence a live state (signal.h:261-312, `initial_reg`) -/
def stepConnect (s : State) (n : Nat) : State × Res :=
  if s.handles = 0 then (s, Res.bad)
  else ({ fresh s true [] n false true with chain := s.next :: s.chain }, Res.id s.next)

/-- `connect` on a `signal` object without state (moved-from): `initial_reg` cannot lock the weak pointer and calls
`resume()`, which deletes the awaiter (signal.h:298-305, 276-280): the callback is released at once and never called -/
def stepConnect0 (s : State) (n : Nat) : State × Res :=
  ({ fresh s true [] n false false with got := upd (fresh s true [] n false false).got s.next [Out.free] }, Res.id s.next)

/-- `emitter::operator=` (signal.h:179-184): only the weak pointer is copied; the awaiter part (`_next`, the handle) is
not.  Precondition: no coroutine is suspended on the assigned-to emitter (`l` is busy elsewhere); the emitter holds no
strong reference, so neither the state it denoted before nor the one it denotes now is affected. -/
def stepAssign (s : State) (l : Nat) (b : Bool) : State × Res :=
  if l ∈ s.gated then ({ s with conn := upd s.conn l b }, Res.unit) else (s, Res.bad)

def cbsOf (s : State) : List Nat := s.chain.filter (fun l => s.isCb l)
def corosOf (s : State) : List Nat := s.chain.filter (fun l => !s.isCb l)

/-- what callback `c` observes when it is called with `v`: the value, and its release if it answers false -/
def cbOuts (s : State) (c : Nat) (v : Nat) : List Out :=
  if 0 < s.left c then [Out.val v] else [Out.val v, Out.free]

/-- `collector::operator()` (signal.h:96-139): store / point to the value, detach the chain and walk it
(awaiter.h:78-107).  Walking: a coroutine's handle goes into the returned suspend point; a callback's `resume()`
(signal.h:275-296) runs at once: it reads the value, calls `fn`, and re-subscribes to the (new) chain or deletes itself. -/
def stepEmit (s : State) (byRef : Bool) (v : Nat) : State × Res :=
  if s.handles = 0 then (s, Res.bad)
  else
    ({ s with cur := some (if byRef then Ptr.ext v else Ptr.owned),
              stored := if byRef then s.stored else some v,
              chain := ((cbsOf s).filter (fun c => 0 < s.left c)).reverse,
              rel := s.rel ++ corosOf s,
              left := fun c => if c ∈ cbsOf s then s.left c - 1 else s.left c,
              got := fun c => if c ∈ cbsOf s then s.got c ++ cbOuts s c v else s.got c,
              emitted := s.emitted ++ [v],
              expect := fun l => if l ∈ s.chain then s.expect l ++ [Out.val v] else s.expect l },
     Res.num (corosOf s).length)

/-- A by-value collector call whose value cannot be constructed (signal.h:96-100 in-place arguments — also the route of a
const lvalue —, 114-118 rvalue): the only statement that runs is `_value_storage.emplace(...)`.  `std::optional::emplace`
destroys the held value FIRST and then constructs; the constructor throws, so the optional is left disengaged, and the
exception leaves `operator()` before `_cur_val` is assigned and before `notify_awaiters()` detaches the chain.  Hence:
nobody is released, nobody is called, nobody leaves the chain, nothing is emitted — and `_cur_val` keeps its old value: null,
the address of the caller's lvalue of the previous by-reference call, or the address of `_value_storage`, which now holds no
object (`readNow` = `Out.dead`; nobody reads it under `Flushed`: `c15_failed_emit_stale_pointer_unread`).
The lvalue-reference overload (signal.h:136-139) constructs nothing and cannot fail. -/
def stepEmitFail (s : State) : State × Res :=
  if s.handles = 0 then (s, Res.bad)
  else ({ s with stored := none }, Res.threw)

/-- what a resumed coroutine does with a value, according to its script -/
def afterValue (s : State) (l : Nat) : State :=
  match s.script l with
  | [] => await s l
  | Act.re :: rest => await { s with script := upd s.script l rest } l
  | Act.gate :: rest => { s with script := upd s.script l rest, gated := l :: s.gated, pure := upd s.pure l false }
  | Act.exit :: rest => { s with script := upd s.script l rest, pure := upd s.pure l false }

/-- resumption of a released coroutine: `await_resume`, then its script -/
def stepResume (s : State) (l : Nat) : State × Res :=
  if l ∈ s.rel then
    match readNow s with
    | Out.val v => (afterValue { s with rel := s.rel.erase l, got := upd s.got l (s.got l ++ [Out.val v]) } l, Res.unit)
    -- `await_resume` returns the (dangling) reference like any other: the coroutine goes on with its script
    | Out.dead => (afterValue { s with rel := s.rel.erase l, got := upd s.got l (s.got l ++ [Out.dead]) } l, Res.unit)
    | o => ({ s with rel := s.rel.erase l, got := upd s.got l (s.got l ++ [o]) }, Res.unit)
  else (s, Res.bad)

def stepWake (s : State) (l : Nat) : State × Res :=
  if l ∈ s.gated then (await { s with gated := s.gated.erase l } l, Res.unit)
  else (s, Res.bad)

def stepAdd (s : State) : State × Res :=
  if s.handles = 0 then (s, Res.bad) else ({ s with handles := s.handles + 1 }, Res.unit)

/-- destroying a handle; the last one runs `~state` (signal.h:47-50): `_cur_val = nullptr`, then the chain is
released: coroutines go into a suspend point (discarded at once by the destructor), a callback finds the weak
pointer expired and deletes itself -/
def stepDrop (s : State) : State × Res :=
  if s.handles = 0 then (s, Res.bad)
  else if s.handles = 1 then
    ({ s with handles := 0, cur := none, stored := none, chain := [],
              rel := s.rel ++ corosOf s,
              got := fun c => if c ∈ cbsOf s then s.got c ++ [Out.free] else s.got c,
              expect := fun l => if l ∈ s.chain then s.expect l ++ [Out.canceled] else s.expect l },
     Res.last true)
  else ({ s with handles := s.handles - 1 }, Res.last false)

def step (s : State) (op : Op) : State × Res :=
  match op with
  | Op.listen sc => stepListen s sc
  | Op.listen0 sc => stepListen0 s sc
  | Op.connect n => stepConnect s n
  | Op.connectL n => stepConnect s n
  | Op.connect0 n => stepConnect0 s n
  | Op.assign l b => stepAssign s l b
  | Op.emit r v => stepEmit s r v
  | Op.emitFail => stepEmitFail s
  | Op.resume l => stepResume s l
  | Op.wake l => stepWake s l
  | Op.addHandle => stepAdd s
  | Op.dropHandle => stepDrop s

def run (s : State) (ops : List Op) : State := ops.foldl (fun s op => (step s op).1) s

/-! ### The unrepaired `signal::connect` (pinned commit, before `/repo` commit d8a7c3e)

`connect(Fn &&fn)` stored the callable in a member declared `Fn _fn`.  For an lvalue argument `Fn` is deduced as a reference
type: the heap-allocated awaiter only referred to the caller's object.  `connect` returns nothing the caller could use to learn
when the connection ends, so the caller's object goes away sooner or later — in `Op.connectL` right after `connect` returned. -/

/-- The awaiter is subscribed like any callback, but the only instance of the callable is
the caller's, and its destruction — the release of the callback, `Out.free` — has happened while the awaiter is still waiting
in the chain.  Whatever a later collector call does with it is a call on a destroyed object; the model lets the walk go on as
for a live callback (only what is needed to exhibit the consequence is modelled). -/
def stepConnectLAsIs (s : State) (n : Nat) : State × Res :=
  if s.handles = 0 then (s, Res.bad)
  else ({ (stepConnect s n).1 with got := upd (stepConnect s n).1.got s.next [Out.free] }, Res.id s.next)

def stepAsIs (s : State) (op : Op) : State × Res :=
  match op with
  | Op.connectL n => stepConnectLAsIs s n
  | _ => step s op

def runAsIs (s : State) (ops : List Op) : State := ops.foldl (fun s op => (stepAsIs s op).1) s

/-- The documented contract (signal.h:86-93, 131-133, 156-160): the suspend point returned by a collector call is
flushed — discarded in a normal thread or `co_await`ed in a coroutine — before the next collector call (and before
the state is destroyed): no released listener is still un-resumed when the value changes. -/
def needsFlush (s : State) : Op → Bool
  | Op.emit _ _ => true
  | Op.emitFail => true
  | Op.dropHandle => s.handles == 1
  | _ => false

def Flushed (s : State) : List Op → Prop
  | [] => True
  | op :: ops => (needsFlush s op = true → s.rel = []) ∧ Flushed (step s op).1 ops

/-! ### The walks as the code performs them (awaiter by awaiter)

The loop is `resume_chain_lk` (awaiter.h:98-107). -/

/-- one iteration over awaiter `y` during a collector call with value `v`: a coroutine's handle is appended to the
suspend point; a callback's `resume()` runs at once (signal.h:275-296): it reads the value, calls `fn`, and pushes itself
onto the (new) chain or deletes itself -/
def walkOne (v : Nat) (s : State) (y : Nat) : State :=
  if s.isCb y then
    if 0 < s.left y then
      { s with got := upd s.got y (s.got y ++ [Out.val v]), left := upd s.left y (s.left y - 1), chain := y :: s.chain }
    else
      { s with got := upd s.got y (s.got y ++ [Out.val v, Out.free]), left := upd s.left y (s.left y - 1) }
  else { s with rel := s.rel ++ [y] }

def stepEmitLoop (s : State) (byRef : Bool) (v : Nat) : State × Res :=
  if s.handles = 0 then (s, Res.bad)
  else
    (s.chain.foldl (walkOne v)
      { s with cur := some (if byRef then Ptr.ext v else Ptr.owned),
               stored := if byRef then s.stored else some v,
               chain := [],
               emitted := s.emitted ++ [v],
               expect := fun l => if l ∈ s.chain then s.expect l ++ [Out.val v] else s.expect l },
     Res.num (corosOf s).length)

/-- one iteration of the walk run by `~state` (signal.h:47-50): the weak pointer is expired, so a callback deletes
itself; a coroutine's handle goes into the destructor's suspend point -/
def walkDead (s : State) (y : Nat) : State :=
  if s.isCb y then { s with got := upd s.got y (s.got y ++ [Out.free]) }
  else { s with rel := s.rel ++ [y] }

def stepDropLoop (s : State) : State × Res :=
  if s.handles = 0 then (s, Res.bad)
  else if s.handles = 1 then
    (s.chain.foldl walkDead
      { s with handles := 0, cur := none, stored := none, chain := [],
               expect := fun l => if l ∈ s.chain then s.expect l ++ [Out.canceled] else s.expect l },
     Res.last true)
  else ({ s with handles := s.handles - 1 }, Res.last false)

end Cocls.Signal

/-!
### Publication discipline of `awaiter::subscribe` (awaiter.h:65-72)

Micro-step view for one question only: does the subscribing thread touch the awaiter after the CAS that publishes it?
Listeners here are the worst case for that question: one-shot (a `connect`ed callback that answers false, a coroutine
that finishes after the value), i.e. the awaiter is destroyed by the thread that releases the chain.  The pinned code
evaluated `assert(_next != this)` *after* the CAS (`Op.post`); the repaired code checks on the failed-CAS path only, where
the awaiter is still private, so its schedules contain no `post`.
-/
namespace Cocls.Signal.Pub

inductive Op where
  | cas (l : Nat)       -- the publishing compare-exchange of listener `l` (its thread may be pre-empted right after it)
  | post (l : Nat)      -- pinned code only: the trailing `assert(_next != this)` of the same call, evaluated later
  | release             -- another thread: collector call / state destructor: exchange, walk, every awaiter's owner goes away
  deriving DecidableEq, Repr

structure State where
  chain : List Nat := []
  freed : List Nat := []
  uaf : Bool := false        -- a destroyed awaiter was read

def step (s : State) : Op → State
  | Op.cas l => { s with chain := l :: s.chain }
  | Op.post l => { s with uaf := s.uaf || s.freed.contains l }
  | Op.release => { s with chain := [], freed := s.freed ++ s.chain }

def run (ops : List Op) : State := ops.foldl step {}

end Cocls.Signal.Pub
