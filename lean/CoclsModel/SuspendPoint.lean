/-
Model of `cocls::suspend_point<void>` / `suspend_point<X>` (suspend_point.h) at the level of the real
representation, plus the part of `coro_queue` (coro_queue.h) it talks to.

* one object = `_count_flag` (`cf`: bit 0 = heap storage in use, the other bits = number of handles), the
  inline array `_local._handles[3]` (`inl`), the heap variant `_ext = {_handles, _capacity}` (`ext`, `cap`)
  and, for `suspend_point<X>`, the attached `value`.  `_local` and `_ext` share storage in the code (a union);
  the model keeps two fields and only ever reads the one selected by the flag, exactly like the code.
* a pool of any number of such objects (`objs`, a slot is `none` before construction / after destruction),
* a heap: `mem` maps the address of a live `new Ptr[n]` block to its cells, `nextAddr` is the next fresh
  address; ghost: `live` (addresses of live blocks), and the event `trace` (`alloc`/`free`/`badfree`/`oob`
  events and every coroutine resumption, in order),
* the thread's ready queue (`queue`) and whether the code performing the operations runs under an installed
  `coro_queue` (`active`: "coroutine mode") or not ("normal mode").

Handles are coroutine identities (`Ptr = Nat`).  Resumed coroutines are *trivial*: they count and suspend
again, they do not touch suspend points or the queue (assumption of the whole check).

Ghost fields (`live`, `trace`, `given`, `popped`) are never consulted by the control flow.
-/
namespace Cocls.SP

abbrev Ptr := Nat

/-- content of a cell that was never written (`new Ptr[n]` does not initialise) -/
def junk : Ptr := 0

/-- `suspend_point<void>::inline_count` -/
def inlineCount : Nat := 3

inductive Ev where
  | res (h : Ptr)        -- coroutine `h` resumed
  | alloc (cap : Nat)    -- `new Ptr[cap]`
  | free (cap : Nat)     -- `delete[]` of a live block of `cap` cells
  | badfree              -- `delete[]` of an address that is not a live block (double / invalid free)
  | oob                  -- write outside a live block
  deriving DecidableEq, Repr, Inhabited

/-! ### heap memory: association list address ↦ cells -/

abbrev Mem := List (Nat × List Ptr)

def Mem.get : Mem → Nat → Option (List Ptr)
  | [], _ => none
  | (k, v) :: m, a => if a = k then some v else Mem.get m a

def Mem.del : Mem → Nat → Mem
  | [], _ => []
  | (k, v) :: m, a => if a = k then Mem.del m a else (k, v) :: Mem.del m a

def Mem.set (m : Mem) (a : Nat) (v : List Ptr) : Mem := (a, v) :: Mem.del m a

/-! ### one suspend point object -/

structure Obj where
  cf : Nat := 0                       -- `_count_flag`
  inl : List Ptr := [junk, junk, junk] -- `_local._handles`
  ext : Nat := 0                      -- `_ext._handles`
  cap : Nat := 0                      -- `_ext._capacity`
  typed : Bool := false               -- `suspend_point<X>` (true) or `suspend_point<void>`
  value : Option Nat := none          -- `value` of `suspend_point<X>`; `none` = moved from (content unspecified) / no value
  deriving DecidableEq, Repr, Inhabited

/-- `_count_flag >> 1` -/
def Obj.count (o : Obj) : Nat := o.cf / 2
/-- `_count_flag & 1` -/
def Obj.flag (o : Obj) : Bool := o.cf % 2 == 1

structure State where
  objs : List (Option Obj)
  mem : Mem := []
  nextAddr : Nat := 1
  active : Bool := false
  queue : List Ptr := []
  -- ghost
  live : List Nat := []
  trace : List Ev := []
  given : List Ptr := []     -- every handle handed in by the environment (constructors, `<< h`, awaiting coroutine)
  popped : List Ptr := []    -- handles handed back to the caller by `pop()`
  deriving Repr

/-- `n` empty slots; `active` = the operations are performed from inside a coroutine running under a `coro_queue` -/
def init (n : Nat) (active : Bool) : State := { objs := List.replicate n none, active := active }

def State.obj (s : State) (i : Nat) : Option Obj := (s.objs[i]?).getD none

def setObj (s : State) (i : Nat) (o : Option Obj) : State := { s with objs := s.objs.set i o }

def cellsOf (s : State) (a : Nat) : List Ptr := (s.mem.get a).getD []

/-- `new Ptr[cap]`; the address of the new block is `s.nextAddr` -/
def allocBlk (s : State) (cap : Nat) : State :=
  { s with mem := s.mem.set s.nextAddr (List.replicate cap junk), nextAddr := s.nextAddr + 1,
           live := s.live ++ [s.nextAddr], trace := s.trace ++ [Ev.alloc cap] }

/-- `delete[] a` -/
def freeBlk (s : State) (a : Nat) : State :=
  match s.mem.get a with
  | some cells => { s with mem := s.mem.del a, live := s.live.erase a, trace := s.trace ++ [Ev.free cells.length] }
  | none => { s with trace := s.trace ++ [Ev.badfree] }

/-- `a[k] = h` -/
def writeCell (s : State) (a k : Nat) (h : Ptr) : State :=
  match s.mem.get a with
  | some cells =>
      if k < cells.length then { s with mem := s.mem.set a (cells.set k h) }
      else { s with trace := s.trace ++ [Ev.oob] }
  | none => { s with trace := s.trace ++ [Ev.oob] }

/-- `std::copy(src.begin(), src.end(), a)` -/
def copyInto (s : State) (a : Nat) (src : List Ptr) : State :=
  match s.mem.get a with
  | some cells =>
      if src.length ≤ cells.length then { s with mem := s.mem.set a (src ++ cells.drop src.length) }
      else { s with trace := s.trace ++ [Ev.oob] }
  | none => { s with trace := s.trace ++ [Ev.oob] }

/-- `[begin(), end())`: the handles an object holds, in order.  This is both what the code iterates over
and the abstraction function of the representation. -/
def handlesOf (s : State) (o : Obj) : List Ptr :=
  if o.cf % 2 = 1 then (cellsOf s o.ext).take (o.cf / 2) else o.inl.take (o.cf / 2)

def handles (s : State) (i : Nat) : List Ptr :=
  match s.obj i with
  | none => []
  | some o => handlesOf s o

/-- coroutine resumptions recorded so far, in order -/
def Ev.res? : Ev → Option Ptr
  | Ev.res h => some h
  | _ => none
def resumed (s : State) : List Ptr := s.trace.filterMap Ev.res?
def Ev.isAlloc : Ev → Bool
  | Ev.alloc _ => true
  | _ => false
def Ev.isFree : Ev → Bool
  | Ev.free _ => true
  | _ => false
def news (s : State) : Nat := (s.trace.filter Ev.isAlloc).length
def deletes (s : State) : Nat := (s.trace.filter Ev.isFree).length

/-! ### `add` (suspend_point.h, `add(Ptr h)`) -/

/-- heap storage, capacity reached: allocate twice the size, copy, free the old block -/
def addGrow (s : State) (i : Nat) (o : Obj) (h : Ptr) : State :=
  setObj
    (writeCell
      (freeBlk (copyInto (allocBlk s (o.cf / 2 * 2)) s.nextAddr ((cellsOf s o.ext).take (o.cf / 2))) o.ext)
      s.nextAddr (o.cf / 2) h)
    i (some { o with ext := s.nextAddr, cap := o.cf / 2 * 2, cf := o.cf + 2 })

/-- heap storage, room left -/
def addExt (s : State) (i : Nat) (o : Obj) (h : Ptr) : State :=
  setObj (writeCell s o.ext (o.cf / 2) h) i (some { o with cf := o.cf + 2 })

/-- inline storage, room left -/
def addInl (s : State) (i : Nat) (o : Obj) (h : Ptr) : State :=
  setObj s i (some { o with inl := o.inl.set (o.cf / 2) h, cf := o.cf + 2 })

/-- inline storage full: move to the heap (`new Ptr[count*2]`, copy the whole inline array) -/
def addSpill (s : State) (i : Nat) (o : Obj) (h : Ptr) : State :=
  setObj
    (writeCell (copyInto (allocBlk s (o.cf / 2 * 2)) s.nextAddr o.inl) s.nextAddr (o.cf / 2) h)
    i (some { o with ext := s.nextAddr, cap := o.cf / 2 * 2, cf := o.cf + 3, inl := [junk, junk, junk] })

def addObj (s : State) (i : Nat) (o : Obj) (h : Ptr) : State :=
  if o.cf % 2 = 1 then
    if o.cf / 2 = o.cap then addGrow s i o h else addExt s i o h
  else
    if o.cf / 2 < inlineCount then addInl s i o h else addSpill s i o h

def add (s : State) (i : Nat) (h : Ptr) : State :=
  match s.obj i with
  | none => s
  | some o => addObj s i o h

def addAll (s : State) (i : Nat) (hs : List Ptr) : State := hs.foldl (fun s h => add s i h) s

/-! ### consumers -/

def resumeAll (s : State) (hs : List Ptr) : State := { s with trace := s.trace ++ hs.map Ev.res }

def enqueue (s : State) (hs : List Ptr) : State := { s with queue := s.queue ++ hs }

/-- `clear_internal()` -/
def clearInternal (s : State) (i : Nat) (o : Obj) : State :=
  setObj (if o.cf % 2 = 1 then freeBlk s o.ext else s) i (some { o with cf := 0 })

/-- `suspend_now()`: under a queue the handles are enqueued in order, otherwise they are resumed in order
(inside a temporarily installed queue, which stays empty because the coroutines are trivial) -/
def suspendNow (s : State) (i : Nat) (o : Obj) : State :=
  clearInternal
    (if o.cf / 2 = 0 then s
     else if s.active then enqueue s (handlesOf s o) else resumeAll s (handlesOf s o))
    i o

/-- the value `pop()` reads: `from[idx-1]` with `from` chosen by the flag *after* the decrement -/
def popValue (s : State) (o : Obj) : Ptr :=
  if (o.cf - 2) % 2 = 1 then (cellsOf s o.ext).getD (o.cf / 2 - 1) junk else o.inl.getD (o.cf / 2 - 1) junk

/-- `flush_queue()` -/
def flushAll (s : State) : State := { s with trace := s.trace ++ s.queue.map Ev.res, queue := [] }

/-- the scheduler runs the ready queue from the front until coroutine `me` gets control again -/
def flushUntil (s : State) (me : Ptr) : State :=
  { s with trace := s.trace ++ (s.queue.take (s.queue.idxOf me + 1)).map Ev.res,
           queue := s.queue.drop (s.queue.idxOf me + 1) }

/-- what `await_suspend(me)` pushes behind the remaining handles: the awaiting coroutine, unless it is one of them -/
def awaitExtra (s : State) (o : Obj) (me : Ptr) : List Ptr :=
  -- `me_included = out.address() == me_addr` (the popped handle), then `|=` over the remaining handles
  if popValue s o = me ∨ me ∈ handlesOf s { o with cf := o.cf - 2 } then [] else [me]

/-- `await_suspend(me)` with an active queue, up to the point where it returns `out` (the popped handle):
pop, push the remaining handles and `me`, `clear_internal()`.  (ghost: `me` was handed to the queue) -/
def awaitQueue (s : State) (i : Nat) (o : Obj) (me : Ptr) : State :=
  clearInternal
    (enqueue { setObj s i (some { o with cf := o.cf - 2 }) with given := s.given ++ awaitExtra s o me }
      (handlesOf s { o with cf := o.cf - 2 } ++ awaitExtra s o me))
    i { o with cf := o.cf - 2 }

/-- `co_await sp` by coroutine `me` -/
def awaitObj (s : State) (i : Nat) (o : Obj) (me : Ptr) : State :=
  if o.cf / 2 = 0 then s                         -- await_ready(): no suspension
  else if s.active then
    -- symmetric transfer to the popped handle, then the scheduler runs the queue up to (the first entry of) `me`.
    -- If the popped handle is `me` itself (own handle last) the transfer resumes `me` at once and the scheduler
    -- does not run.
    if popValue s o = me then resumeAll (awaitQueue s i o me) [popValue s o]
    else flushUntil (resumeAll (awaitQueue s i o me) [popValue s o]) me
  else
    -- install_queue_and_call: await_suspend(h).resume(), then flush_queue() by the trailer
    { flushAll (resumeAll (awaitQueue { s with active := true } i o me) [popValue s o]) with active := false }

inductive Res where
  | unit
  | bad                       -- precondition of the operation violated: nothing done
  | handle (h : Option Ptr)   -- pop(): `none` = noop_coroutine
  | num (n : Nat)
  | flag (b : Bool)
  | gone                      -- a value that has been moved from was read
  | threw                     -- the operation was left by an exception (`std::bad_alloc` / the callable's own), caught by the caller
  deriving DecidableEq, Repr

/-! ### faults: allocation failure and exceptions out of callables

A *fault plan* makes one `new Ptr[n]` of an operation throw `std::bad_alloc` (the caller catches it and goes on using
the same objects); a *throwing callable* is a function run under a freshly installed queue
(`coro_queue::install_queue_and_call(fn)`, `coro_queue::create_suspend_point(fn)`) that ends by throwing after it has
made coroutines ready. -/

inductive FOp where
  | addF (i : Nat) (h : Ptr)                -- `sp_i << h` while the next `new[]` fails
  | mergeF (i j : Nat) (k : Nat)            -- `sp_i << std::move(sp_j)` / `sp_i = std::move(sp_j)` (base) while the
                                            -- `k`-th (0-based) `new[]` of the operation fails
  | call (hs : List Ptr) (j : Option Nat) (throws : Bool)
      -- `coro_queue::install_queue_and_call(fn)`: `fn` makes the coroutines `hs` ready (`coro_queue::resume`), then
      -- `sp_j.clear()` (if `j` is given), then returns or throws
  | createX (hs : List Ptr)                 -- `coro_queue::create_suspend_point(fn)`, `fn` makes `hs` ready and throws
  | isActive                                -- `coro_queue::is_active()`
  deriving DecidableEq, Repr

/-- `add` on this object calls `new[]`: inline storage full, or heap storage at capacity -/
def needsAlloc (o : Obj) : Bool :=
  if o.cf % 2 = 1 then o.cf / 2 == o.cap else !(decide (o.cf / 2 < inlineCount))

/-- the loop `for (i = 0; i < count; i++) add(other[i])` of `operator<<` while the `k`-th `new[]` from now fails:
the state when the loop has ended (`none`) or is left by `std::bad_alloc` (`some m`, `m` = the value of the loop
counter `i` = number of handles already added; `m0` = its value at entry) -/
def addAllF (s : State) (i : Nat) : List Ptr → Nat → Nat → State × Option Nat
  | [], _, _ => (s, none)
  | h :: t, k, m0 =>
      match s.obj i with
      | none => (s, none)
      | some o =>
          if needsAlloc o then
            if k = 0 then (s, some m0) else addAllF (add s i h) i t (k - 1) (m0 + 1)
          else addAllF (add s i h) i t k (m0 + 1)

/-- the handler of `operator<<` (/repo fix "merging … under bad_alloc"): `_count_flag -= 2*i` — the handles taken
over so far are dropped from the target again (they still belong to the source); storage that was acquired on the way
(spill to the heap, doublings) is kept -/
def undoAdds (s : State) (i : Nat) (m : Nat) : State :=
  match s.obj i with
  | none => s
  | some o => setObj s i (some { o with cf := o.cf - 2 * m })

/-- `sp_i << std::move(sp_j)` (two distinct objects) under the fault plan `k` -/
def stepMergeF (s : State) (i j : Nat) (oj : Obj) (k : Nat) : State × Res :=
  match addAllF s i (handlesOf s oj) k 0 with
  | (s1, none) => (clearInternal s1 j oj, Res.unit)
  | (s1, some m) => (undoAdds s1 i m, Res.threw)

/-- the unrepaired `operator<<` had no handler: the exception left the handles added so far in the target *and* in
the source -/
def stepMergeFAsIs (s : State) (i j : Nat) (oj : Obj) (k : Nat) : State × Res :=
  match addAllF s i (handlesOf s oj) k 0 with
  | (s1, none) => (clearInternal s1 j oj, Res.unit)
  | (s1, some _) => (s1, Res.threw)

/-- the coroutines `hs` are made ready by `coro_queue::resume` under an installed queue: handed in (ghost), queued -/
def ready (s : State) (hs : List Ptr) : State := enqueue { s with given := s.given ++ hs } hs

/-- body of the callable of `FOp.call`, run with the queue installed -/
def callBody (s : State) (hs : List Ptr) (j : Option Nat) : State :=
  match j with
  | none => ready s hs
  | some j =>
      match s.obj j with
      | none => ready s hs
      | some o => suspendNow (ready s hs) j o

/-- `install_queue_and_call(fn)`: `instance` is pointed at the thread's queue, `fn` runs; whether it returns or throws, the
`trailer` object's destructor flushes the queue and restores `instance` (`prev`) -/
def stepCall (s : State) (hs : List Ptr) (j : Option Nat) : State :=
  { flushAll (callBody { s with active := true } hs j) with active := s.active }

/-- `FOp.call` names a slot that holds no object -/
def callRefused (s : State) (j : Option Nat) : Bool :=
  match j with
  | some j => (s.obj j).isNone
  | none => false

def stepF (s : State) (f : FOp) : State × Res :=
  match f with
  | FOp.addF i h =>
      match s.obj i with
      | some o =>
          -- `new Ptr[count*2]` is the first statement of both growth paths that touches anything: nothing has changed
          if needsAlloc o then (s, Res.threw) else (add { s with given := s.given ++ [h] } i h, Res.unit)
      | none => (s, Res.bad)
  | FOp.mergeF i j k =>
      match s.obj i, s.obj j with
      | some _, some oj => if i = j then (s, Res.unit) else stepMergeF s i j oj k
      | _, _ => (s, Res.bad)
  | FOp.call hs j throws =>
      if callRefused s j then (s, Res.bad)
      else (stepCall s hs j, if throws then Res.threw else Res.unit)
  | FOp.createX hs =>
      -- under a queue: `fn()` throws inside `create_suspend_point`, the (empty) local `ss` is destroyed, what `fn` queued
      -- stays queued; in normal mode the whole thing runs inside `install_queue_and_call`
      (if s.active then ready s hs else stepCall s hs none, Res.threw)
  | FOp.isActive => (s, Res.flag s.active)

/-! ### operations -/

inductive Op where
  | ctor (i : Nat)                         -- suspend_point<void>()
  | ctorH (i : Nat) (h : Ptr)              -- suspend_point<void>(h)
  | ctorV (i : Nat) (v : Nat)              -- suspend_point<X>(v)
  | ctorHV (i : Nat) (h : Ptr) (v : Nat)   -- suspend_point<X>(h, v)
  | ctorSV (i j : Nat) (v : Nat)           -- suspend_point<X>(std::move(sp_j), v)
  | mov (i j : Nat)                        -- T sp_i(std::move(sp_j)), T the type of sp_j
  | movBase (i j : Nat)                    -- suspend_point<void> sp_i(std::move(sp_j))
  | merge (i j : Nat)                      -- sp_i << std::move(sp_j)
  | assign (i j : Nat)                     -- sp_i = std::move(sp_j)
  | addH (i : Nat) (h : Ptr)               -- sp_i << h
  | pop (i : Nat)
  | clear (i : Nat)
  | dtor (i : Nat)
  | await (i : Nat) (me : Ptr)             -- co_await sp_i  in coroutine `me`
  | yield (me : Ptr)                       -- co_await pause()  in coroutine `me`
  | size (i : Nat)
  | empty (i : Nat)
  | value (i : Nat)                        -- all three reads in a row: operator X(), operator const X() const, await_resume()
  | conv (i : Nat)                         -- X(sp)   on a non-const lvalue: `operator X()`
  | cconv (i : Nat)                        -- X(sp)   on a const lvalue: `operator const X() const`
  | ares (i : Nat)                         -- sp.await_resume()
  | finish                                 -- the running coroutine ends: the queue is flushed
  | create (i : Nat) (hs : List Ptr) (v : Option Nat)
      -- sp_i = coro_queue::create_suspend_point(fn), `fn` makes the coroutines `hs` ready (coro_queue::resume, in
      -- that order) and returns nothing (`v = none`: suspend_point<void>) or the value `v` (suspend_point<X>)
  | fault (f : FOp)                        -- operations under a fault plan / with a throwing callable, see `FOp`
  deriving DecidableEq, Repr

/-- a fresh object can be constructed in slot `i` -/
def vacant (s : State) (i : Nat) : Bool := i < s.objs.length && (s.obj i).isNone

/-- the move constructor of the base: copies `_count_flag` and the storage variant selected by the flag,
resets the source's `_count_flag` -/
def moveFrom (oj : Obj) (typed : Bool) (value : Option Nat) : Obj :=
  if oj.cf % 2 = 1 then { cf := oj.cf, ext := oj.ext, cap := oj.cap, typed := typed, value := value }
  else { cf := oj.cf, inl := oj.inl, typed := typed, value := value }

def stepMove (s : State) (i j : Nat) (typed : Bool) (value : Option Nat) (oj : Obj) : State :=
  setObj (setObj s i (some (moveFrom oj typed value))) j (some { oj with cf := 0 })

/-- `operator<<(suspend_point &&)` for two distinct objects (`&other == this` returns at once, see `step`): every
handle of the source is `add`ed, the source's block is freed, its `_count_flag` reset.  (The loop reads the source
while adding to the target; for two distinct objects this is the same as reading the source first, because `add`
never writes another object's storage — `AddSpec.mem_other` in the proofs.) -/
def stepMerge (s : State) (i j : Nat) (oj : Obj) : State :=
  -- `delete[] other._ext._handles` if flagged, `other._count_flag = 0`: the same statements as `clear_internal()`
  clearInternal (addAll s i (handlesOf s oj)) j oj

/-- `ss << h` for every handle of the list, each one handed in by the environment (ghost `given`) -/
def createAll (s : State) (i : Nat) (hs : List Ptr) : State :=
  hs.foldl (fun s h => add { s with given := s.given ++ [h] } i h) s

/-- the `value` member of object `i` is assigned / moved from (no other member changes) -/
def setVal (s : State) (i : Nat) (v : Option Nat) : State :=
  match s.obj i with
  | none => s
  | some o => setObj s i (some { o with value := v })

/-- what reading the value of a typed suspend point yields; reading never changes the object -/
def readVal (o : Obj) : Res :=
  match o.value with
  | some v => Res.num v
  | none => Res.gone

def step (s : State) (op : Op) : State × Res :=
  match op with
  | Op.ctor i => if vacant s i then (setObj s i (some {}), Res.unit) else (s, Res.bad)
  | Op.ctorH i h =>
      if vacant s i then
        (setObj { s with given := s.given ++ [h] } i (some { cf := 2, inl := [h, junk, junk] }), Res.unit)
      else (s, Res.bad)
  | Op.ctorV i v => if vacant s i then (setObj s i (some { typed := true, value := some v }), Res.unit) else (s, Res.bad)
  | Op.ctorHV i h v =>
      if vacant s i then
        (setObj { s with given := s.given ++ [h] } i
          (some { cf := 2, inl := [h, junk, junk], typed := true, value := some v }), Res.unit)
      else (s, Res.bad)
  | Op.ctorSV i j v =>
      match s.obj j with
      | some oj => if vacant s i then (stepMove s i j true (some v) oj, Res.unit) else (s, Res.bad)
      | none => (s, Res.bad)
  | Op.mov i j =>
      match s.obj j with
      | some oj =>
          if vacant s i then
            -- implicit move constructor of suspend_point<X>: base moved, `value(std::move(other.value))`
            (if oj.typed then setVal (stepMove s i j oj.typed oj.value oj) j none
             else stepMove s i j oj.typed oj.value oj, Res.unit)
          else (s, Res.bad)
      | none => (s, Res.bad)
  | Op.movBase i j =>
      match s.obj j with
      | some oj => if vacant s i then (stepMove s i j false none oj, Res.unit) else (s, Res.bad)
      | none => (s, Res.bad)
  | Op.merge i j =>
      match s.obj i, s.obj j with
      | some _, some oj => if i = j then (s, Res.unit) else (stepMerge s i j oj, Res.unit)   -- `&other == this`: no-op
      | _, _ => (s, Res.bad)
  | Op.assign i j =>
      match s.obj i, s.obj j with
      | some oi, some oj =>
          if i = j then (s, Res.unit)                              -- `&other == this`: no-op
          else if oi.typed && !oj.typed then (s, Res.bad)          -- does not compile
          else if oi.typed then
            -- implicit move assignment of suspend_point<X>: base `operator=` (merge), `value = std::move(other.value)`
            (setVal (setVal (stepMerge s i j oj) i oj.value) j none, Res.unit)
          else (stepMerge s i j oj, Res.unit)
      | _, _ => (s, Res.bad)
  | Op.addH i h =>
      match s.obj i with
      | some _ => (add { s with given := s.given ++ [h] } i h, Res.unit)
      | none => (s, Res.bad)
  | Op.pop i =>
      match s.obj i with
      | some o =>
          if o.cf / 2 = 0 then (s, Res.handle none)
          else ({ setObj s i (some { o with cf := o.cf - 2 }) with popped := s.popped ++ [popValue s o] },
                Res.handle (some (popValue s o)))
      | none => (s, Res.bad)
  | Op.clear i =>
      match s.obj i with
      | some o => (suspendNow s i o, Res.unit)
      | none => (s, Res.bad)
  | Op.dtor i =>
      match s.obj i with
      | some o => (setObj (if o.cf = 0 then s else suspendNow s i o) i none, Res.unit)
      | none => (s, Res.bad)
  | Op.await i me =>
      match s.obj i with
      | some o => (awaitObj s i o me, if o.typed then readVal o else Res.unit)   -- co_await yields await_resume()
      | none => (s, Res.bad)
  | Op.yield me =>
      if s.active then (flushUntil (enqueue { s with given := s.given ++ [me] } [me]) me, Res.unit)
      else (s, Res.bad)                                              -- pause() needs an installed queue
  | Op.size i =>
      match s.obj i with
      | some o => (s, Res.num (o.cf / 2))
      | none => (s, Res.bad)
  | Op.empty i =>
      match s.obj i with
      | some o => (s, Res.flag (o.cf / 2 == 0))
      | none => (s, Res.bad)
  | Op.value i =>
      match s.obj i with
      | some o => if o.typed then (s, readVal o) else (s, Res.bad)
      | none => (s, Res.bad)
  | Op.conv i =>
      match s.obj i with
      | some o => if o.typed then (s, readVal o) else (s, Res.bad)
      | none => (s, Res.bad)
  | Op.cconv i =>
      match s.obj i with
      | some o => if o.typed then (s, readVal o) else (s, Res.bad)
      | none => (s, Res.bad)
  | Op.ares i =>
      match s.obj i with
      | some o => if o.typed then (s, readVal o) else (s, Res.bad)
      | none => (s, Res.bad)
  | Op.finish => if s.active then (flushAll s, Res.unit) else (s, Res.unit)
  | Op.fault f => stepF s f
  | Op.create i hs v =>
      -- `create_suspend_point`: under a queue (installed temporarily in normal mode) `fn` runs, the handles it made ready
      -- went to the back of the ready queue; they are taken off again front to back from the position where the queue ended
      -- before (`ss << queue[sz]; erase(begin()+sz)`, /repo fix 34c6158 — the pinned code took them off the back, which reversed
      -- them: `createAsIs`), so the queue is as before and the new suspend point holds them in the order they were made ready;
      -- a non-void result is attached by `suspend_point<X>(std::move(ss), std::move(v))` (same storage, the temporary `ss` is
      -- left empty and destroyed)
      if vacant s i then
        (createAll (setObj s i (some { typed := v.isSome, value := v })) i hs, Res.unit)
      else (s, Res.bad)

def run (s : State) (ops : List Op) : State := ops.foldl (fun s op => (step s op).1) s

/-- `create_suspend_point` as the pinned commit had it (before `/repo` commit 34c6158): the readied handles were taken off the
*back* of the ready queue (`ss << queue.back(); pop_back()`), i.e. collected in reverse order.  Every handle is still held exactly
once: the order is the business of C05 (FIFO), not of C06 -/
def createAsIs (s : State) (i : Nat) (hs : List Ptr) (v : Option Nat) : State :=
  if vacant s i then createAll (setObj s i (some { typed := v.isSome, value := v })) i hs.reverse else s

/-! ### the unrepaired code (pinned commit, before `/repo` commit a20835f): merging a suspend point into itself -/

/-- the loop of the unrepaired `operator<<` when `other` is the object itself: `count` and the flag were read once
before the loop (`flag0`), every iteration re-reads the object's own, changing, storage and `add`s to it -/
def selfMergeLoopAsIs (flag0 : Bool) (i : Nat) : Nat → Nat → State → State
  | 0, _, s => s
  | fuel + 1, k, s =>
      match s.obj i with
      | none => s
      | some o =>
          selfMergeLoopAsIs flag0 i fuel (k + 1)
            (add s i (if flag0 then (cellsOf s o.ext).getD k junk else o.inl.getD k junk))

/-- after the loop: `delete[]` of the *current* block if the flag was set at entry, then `_count_flag = 0` -/
def stepMergeSelfAsIs (s : State) (i : Nat) (o : Obj) : State :=
  match (selfMergeLoopAsIs (o.cf % 2 == 1) i (o.cf / 2) 0 s).obj i with
  | none => selfMergeLoopAsIs (o.cf % 2 == 1) i (o.cf / 2) 0 s
  | some o1 =>
      setObj (if o.cf % 2 = 1 then freeBlk (selfMergeLoopAsIs (o.cf % 2 == 1) i (o.cf / 2) 0 s) o1.ext
              else selfMergeLoopAsIs (o.cf % 2 == 1) i (o.cf / 2) 0 s)
        i (some { o1 with cf := 0 })

/-- the unrepaired `await_suspend` (before `/repo` commit e49d44d): the guard against a double insert looked only at the
handles that remain after `pop()`, not at the popped handle itself -/
def awaitExtraAsIs (s : State) (o : Obj) (me : Ptr) : List Ptr :=
  if me ∈ handlesOf s { o with cf := o.cf - 2 } then [] else [me]

def awaitQueueAsIs (s : State) (i : Nat) (o : Obj) (me : Ptr) : State :=
  clearInternal
    (enqueue (setObj s i (some { o with cf := o.cf - 2 }))
      (handlesOf s { o with cf := o.cf - 2 } ++ awaitExtraAsIs s o me))
    i { o with cf := o.cf - 2 }

/-- `co_await sp` as the pinned commit had it (before `/repo` commit e49d44d "fix: co_await on a suspend point whose last handle
is the awaiting coroutine resumed it twice"): `awaitObj` with the incomplete guard `awaitExtraAsIs` -/
def awaitObjAsIs (s : State) (i : Nat) (o : Obj) (me : Ptr) : State :=
  if o.cf / 2 = 0 then s
  else if s.active then
    if popValue s o = me then resumeAll (awaitQueueAsIs s i o me) [popValue s o]
    else flushUntil (resumeAll (awaitQueueAsIs s i o me) [popValue s o]) me
  else
    { flushAll (resumeAll (awaitQueueAsIs { s with active := true } i o me) [popValue s o]) with active := false }

/-- the step function of the pinned commit: `co_await` before `/repo` commit e49d44d, self-merge / self move-assignment before
`/repo` commit a20835f; everything else as `step` -/
def stepAsIs (s : State) (op : Op) : State × Res :=
  match op with
  | Op.await i me =>
      match s.obj i with
      | some o => (awaitObjAsIs s i o me, Res.unit)
      | none => (s, Res.bad)
  | Op.merge i j | Op.assign i j =>
      if i = j then
        match s.obj i with
        | some o => (stepMergeSelfAsIs s i o, Res.unit)
        | none => (s, Res.bad)
      else step s op
  | _ => step s op

def runAsIs (s : State) (ops : List Op) : State := ops.foldl (fun s op => (stepAsIs s op).1) s

/-- end of life: every object of the pool is destroyed (in slot order), then the running coroutine ends -/
def endOps (n : Nat) : List Op := (List.range n).map Op.dtor ++ [Op.finish]

end Cocls.SP
