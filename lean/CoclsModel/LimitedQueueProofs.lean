import CoclsModel.LimitedQueue
/-!
Invariant of the `limited_queue` model and its preservation by every step (helper lemmas for
`Props/C10.lean`).
-/
namespace Cocls.LQ

def Ev.popId? : Ev → Option Nat
  | Ev.pop id _ => some id
  | Ev.push _ _ => none

def Ev.pushId? : Ev → Option Nat
  | Ev.pop _ _ => none
  | Ev.push id _ => some id

def popIds (l : List Ev) : List Nat := l.filterMap Ev.popId?
def pushIds (l : List Ev) : List Nat := l.filterMap Ev.pushId?

@[simp] theorem popIds_nil : popIds [] = [] := rfl
@[simp] theorem pushIds_nil : pushIds [] = [] := rfl
@[simp] theorem popIds_append (a b : List Ev) : popIds (a ++ b) = popIds a ++ popIds b := by
  simp [popIds]
@[simp] theorem pushIds_append (a b : List Ev) : pushIds (a ++ b) = pushIds a ++ pushIds b := by
  simp [pushIds]
@[simp] theorem popIds_cons_pop (id o l) : popIds (Ev.pop id o :: l) = id :: popIds l := by
  simp [popIds, Ev.popId?]
@[simp] theorem popIds_cons_push (id o l) : popIds (Ev.push id o :: l) = popIds l := by
  simp [popIds, List.filterMap_cons, Ev.popId?]
@[simp] theorem pushIds_cons_pop (id o l) : pushIds (Ev.pop id o :: l) = pushIds l := by
  simp [pushIds, List.filterMap_cons, Ev.pushId?]
@[simp] theorem pushIds_cons_push (id o l) : pushIds (Ev.push id o :: l) = id :: pushIds l := by
  simp [pushIds, Ev.pushId?]

def Ev.failedPush? : Ev → Option Nat
  | Ev.push id o => if o = Out.ok then none else some id
  | Ev.pop _ _ => none

def Ev.okPush? : Ev → Option Nat
  | Ev.push id o => if o = Out.ok then some id else none
  | Ev.pop _ _ => none

def failedPushes (l : List Ev) : List Nat := l.filterMap Ev.failedPush?
def okPushes (l : List Ev) : List Nat := l.filterMap Ev.okPush?

@[simp] theorem failedPushes_nil : failedPushes [] = [] := rfl
@[simp] theorem failedPushes_append (a b : List Ev) : failedPushes (a ++ b) = failedPushes a ++ failedPushes b := by
  simp [failedPushes]
@[simp] theorem failedPushes_cons_pop (id o l) : failedPushes (Ev.pop id o :: l) = failedPushes l := by
  simp [failedPushes, List.filterMap_cons, Ev.failedPush?]
@[simp] theorem failedPushes_cons_ok (id l) : failedPushes (Ev.push id Out.ok :: l) = failedPushes l := by
  simp [failedPushes, Ev.failedPush?]

theorem failedPushes_cons_fail (id o l) (h : o ≠ Out.ok) : failedPushes (Ev.push id o :: l) = id :: failedPushes l := by
  simp [failedPushes, Ev.failedPush?, h]

@[simp] theorem failedPushes_cons_exc (id c l) : failedPushes (Ev.push id (Out.exc c) :: l) = id :: failedPushes l :=
  failedPushes_cons_fail id _ l (by simp)
@[simp] theorem failedPushes_cons_itemerr (id l) : failedPushes (Ev.push id Out.itemerr :: l) = id :: failedPushes l :=
  failedPushes_cons_fail id _ l (by simp)
@[simp] theorem failedPushes_cons_canceled (id l) : failedPushes (Ev.push id Out.canceled :: l) = id :: failedPushes l :=
  failedPushes_cons_fail id _ l (by simp)

theorem popIds_map_push (l : List (Nat × Nat)) (o : Out) : popIds (l.map (fun b => Ev.push b.1 o)) = [] := by
  simp [popIds, List.filterMap_map, Function.comp_def, Ev.popId?]

theorem pushIds_map_push (l : List (Nat × Nat)) (o : Out) : pushIds (l.map (fun b => Ev.push b.1 o)) = l.map (·.1) := by
  simp [pushIds, List.filterMap_map, Function.comp_def, Ev.pushId?]

theorem failedPushes_map_push (l : List (Nat × Nat)) (o : Out) (h : o ≠ Out.ok) :
    failedPushes (l.map (fun b => Ev.push b.1 o)) = l.map (·.1) := by
  simp [failedPushes, List.filterMap_map, Function.comp_def, Ev.failedPush?, h]

theorem failedPushes_map_ok (l : List (Nat × Nat)) : failedPushes (l.map (fun b => Ev.push b.1 Out.ok)) = [] := by
  simp [failedPushes, List.filterMap_map, Function.comp_def, Ev.failedPush?]

theorem popIds_map_pop (l : List Nat) (o : Out) : popIds (l.map (fun w => Ev.pop w o)) = l := by
  simp [popIds, List.filterMap_map, Function.comp_def, Ev.popId?]

theorem pushIds_map_pop (l : List Nat) (o : Out) : pushIds (l.map (fun w => Ev.pop w o)) = [] := by
  simp [pushIds, List.filterMap_map, Function.comp_def, Ev.pushId?]

theorem failedPushes_map_pop (l : List Nat) (o : Out) : failedPushes (l.map (fun w => Ev.pop w o)) = [] := by
  simp [failedPushes, List.filterMap_map, Function.comp_def, Ev.failedPush?]

/-- ids of the pushes whose items are or were held by the queue, in hand-over/queue order -/
def heldIds (s : State) : List Nat :=
  s.assigned.map (·.2.1) ++ s.items.map (·.1) ++ s.blocked.map (·.1)

theorem ite_lt_succ (i n : Nat) : (if i < n + 1 then 1 else 0) = (if i < n then 1 else 0) + if n = i then 1 else 0 := by
  by_cases h : n = i
  · subst h; simp
  · have : i < n + 1 ↔ i < n := by omega
    simp [h, this]

theorem perm_eraseIdx_snoc {α} {l : List α} {k : Nat} {e : α} (h : l[k]? = some e) : l.Perm (l.eraseIdx k ++ [e]) := by
  induction l generalizing k with
  | nil => simp at h
  | cons x xs ih =>
    cases k with
    | zero => simp at h; subst h; exact List.perm_append_comm (l₁ := [x])
    | succ k => exact (ih (by simpa using h)).cons x

/-- serial numbers in the order they were given out, all of them below the counter `n` -/
def Below (n : Nat) (l : List Nat) : Prop := l.Pairwise (· < ·) ∧ ∀ x ∈ l, x < n

theorem Below.snoc {n : Nat} {l : List Nat} (h : Below n l) : Below (n + 1) (l ++ [n]) :=
  ⟨List.pairwise_append.mpr ⟨h.1, List.pairwise_singleton _ _, fun a ha _ hb => List.mem_singleton.mp hb ▸ h.2 a ha⟩,
   fun x hx => (List.mem_append.mp hx).elim (fun hx => Nat.lt_succ_of_lt (h.2 x hx))
     fun hx => List.mem_singleton.mp hx ▸ Nat.lt_succ_self n⟩

theorem Below.sublist {n : Nat} {l l' : List Nat} (h : Below n l) (sub : l'.Sublist l) : Below n l' :=
  ⟨h.1.sublist sub, fun x hx => h.2 x (sub.subset hx)⟩

theorem admitLoop_spec (g n : Nat) : ∀ (bl : List (Nat × Nat)) (k : Nat),
    bl = (admitLoop g n k bl).1 ++ (admitLoop g n k bl).2.1.toList ++ (admitLoop g n k bl).2.2
    ∧ ((admitLoop g n k bl).2.1 = none → (admitLoop g n k bl).2.2 = [])
    ∧ (∀ j, j < (admitLoop g n k bl).1.length → throwsAt g n (k + j) = true)
    ∧ ((admitLoop g n k bl).2.1 ≠ none → throwsAt g n (k + (admitLoop g n k bl).1.length) = false) := by
  intro bl
  induction bl with
  | nil => intro k; simp [admitLoop]
  | cons b bs ih =>
    intro k
    unfold admitLoop
    split
    next ht =>
      obtain ⟨e1, e2, e3, e4⟩ := ih (k + 1)
      refine ⟨congrArg (b :: ·) e1, e2, fun j hj => ?_, fun hne => ?_⟩
      · cases j with
        | zero => exact ht
        | succ j => rw [← Nat.add_assoc, Nat.add_right_comm]; exact e3 j (by simpa using hj)
      · rw [List.length_cons, ← Nat.add_assoc, Nat.add_right_comm]; exact e4 hne
    next ht => simpa using ht

/-- the state after a `pop` that delivered `x` and whose admission loop failed `f`, admitted `a`, left `r` -/
def popState (s : State) (x : Nat × Nat) (xs f : List (Nat × Nat)) (a : Option (Nat × Nat)) (r : List (Nat × Nat)) : State :=
  { s with items := xs ++ a.toList, blocked := r, nextPop := s.nextPop + 1,
           withdrawn := s.withdrawn ++ f.map (·.1),
           inflight := s.inflight ++ f.map (fun b => Ev.push b.1 Out.itemerr) ++ a.toList.map (fun b => Ev.push b.1 Out.ok),
           assigned := s.assigned ++ [(s.nextPop, x)],
           completed := s.completed ++ [Ev.pop s.nextPop (Out.val x.1 x.2)] }

theorem stepPopF_eq (s : State) (g n : Nat) (x : Nat × Nat) (xs : List (Nat × Nat)) (hi : s.items = x :: xs)
    (ht : throwsAt g n 1 = false) :
    stepPopF s g n = (popState s x xs (admitLoop g n 2 s.blocked).1 (admitLoop g n 2 s.blocked).2.1 (admitLoop g n 2 s.blocked).2.2,
                      Res.pop s.nextPop (some (Out.val x.1 x.2))) := by
  unfold stepPopF popState
  simp [hi, ht]

theorem run_eq_self {s : State} {ops : List Op} (h : ∀ op ∈ ops, (step s op).1 = s) : run s ops = s :=
  List.foldlRecOn ops _ (motive := (· = s)) rfl fun _ hb op hop => hb ▸ h op hop

structure Inv (s : State) : Prop where
  -- with limit 0 every push would block, and a pop would park although producers are blocked
  limit_pos : 0 < s.limit
  len_le : s.items.length ≤ s.limit
  blocked_full : s.blocked ≠ [] → s.items.length = s.limit
  waiters_empty : s.waiters ≠ [] → s.items = [] ∧ s.blocked = []
  item_once : ∀ i, (heldIds s).count i + s.withdrawn.count i = if i < s.nextPush then 1 else 0
  held : Below s.nextPush (heldIds s)
  pops : Below s.nextPop (s.assigned.map (·.1) ++ s.waiters)
  pop_once : ∀ i, s.waiters.count i + (popIds s.inflight).count i + (popIds s.completed).count i
      = if i < s.nextPop then 1 else 0
  push_once : ∀ i, (s.blocked.map (·.1)).count i + (pushIds s.inflight).count i
      + (pushIds s.completed).count i = if i < s.nextPush then 1 else 0
  -- failed: by `unblock_push`, the item's own exception on admission, destruction
  failed_withdrawn : ∀ i, (failedPushes s.inflight).count i + (failedPushes s.completed).count i = s.withdrawn.count i

theorem inv_init {limit : Nat} (hl : 0 < limit) : Inv (init limit) := by
  refine ⟨hl, ?_, ?_, ?_, ?_, ?_, ?_, ?_, ?_, ?_⟩ <;> simp [init, heldIds, Below]

/-- A counting clause after a step from the same clause `h` before it: `List.count` is pushed through the step's appends
and conses, which leaves both clauses linear over the same atoms. -/
macro "count_from " h:term : tactic => `(tactic| (
  intro i
  have hh := $h i
  simp only [heldIds, List.map_append, List.map_cons, List.map_nil, List.count_append, List.count_cons, List.count_nil,
    pushIds_append, popIds_append, pushIds_cons_push, popIds_cons_push, pushIds_cons_pop, popIds_cons_pop, pushIds_nil,
    popIds_nil, failedPushes_append, failedPushes_cons_pop, failedPushes_cons_ok, failedPushes_cons_exc,
    failedPushes_cons_itemerr, failedPushes_cons_canceled, failedPushes_nil, popIds_map_push, pushIds_map_pop,
    popIds_map_pop, pushIds_map_push, failedPushes_map_pop, failedPushes_map_ok,
    failedPushes_map_push _ Out.itemerr nofun, failedPushes_map_push _ Out.canceled nofun, List.append_nil, List.nil_append,
    beq_iff_eq, ite_lt_succ] at hh ⊢
  omega))

theorem inv_push (s : State) (v : Nat) (h : Inv s) : Inv (stepPush s v).1 := by
  unfold stepPush
  split
  next w ws hw =>
    obtain ⟨hi, hb⟩ := h.waiters_empty (by simp [hw])
    exact { h with
      waiters_empty := fun _ => ⟨hi, hb⟩
      item_once := by count_from h.item_once
      held := by simpa [heldIds, hi, hb] using h.held.snoc
      pops := by simpa [hw] using h.pops
      pop_once := by count_from hw ▸ h.pop_once
      push_once := by count_from h.push_once
      failed_withdrawn := by count_from h.failed_withdrawn }
  next hw =>
    split
    next hfull =>
      exact { h with
        blocked_full := fun _ => Nat.le_antisymm h.len_le hfull
        waiters_empty := fun hne => absurd hw hne
        item_once := by count_from h.item_once
        held := by simpa [heldIds] using h.held.snoc
        push_once := by count_from h.push_once }
    next hfull =>
      have hb : s.blocked = [] := Decidable.byContradiction fun hb => hfull (h.blocked_full hb ▸ Nat.le_refl _)
      exact { h with
        len_le := by simp; omega
        blocked_full := fun hne => absurd hb hne
        waiters_empty := fun hne => absurd hw hne
        item_once := by count_from h.item_once
        held := by simpa [heldIds, hb] using h.held.snoc
        pop_once := by count_from h.pop_once
        push_once := by count_from h.push_once
        failed_withdrawn := by count_from h.failed_withdrawn }

theorem inv_pushMv (s : State) (v g n : Nat) (h : Inv s) : Inv (stepPushMv s v g n).1 := by
  unfold stepPushMv
  split
  · exact h
  · exact inv_push s v h

/-- for `unblock_pop` and a `push` whose item refuses to be constructed -/
theorem inv_fail_waiter {s : State} (h : Inv s) {w : Nat} {ws : List Nat} (hw : s.waiters = w :: ws) (o : Out) :
    Inv { s with waiters := ws, inflight := s.inflight ++ [Ev.pop w o] } :=
  have sub : (s.assigned.map (·.1) ++ ws).Sublist (s.assigned.map (·.1) ++ s.waiters) := by simp [hw]
  { h with
    waiters_empty := fun _ => h.waiters_empty (by simp [hw])
    pops := h.pops.sublist sub
    pop_once := by count_from hw ▸ h.pop_once
    push_once := by count_from h.push_once
    failed_withdrawn := by count_from h.failed_withdrawn }

theorem inv_pushThrow (s : State) (h : Inv s) : Inv (stepPushThrow s).1 := by
  unfold stepPushThrow
  split
  next => exact h
  next w ws hw => exact inv_fail_waiter h hw _

theorem inv_upop (s : State) (c : Nat) (h : Inv s) : Inv (stepUpop s c).1 := by
  unfold stepUpop
  split
  next => exact h
  next w ws hw => exact inv_fail_waiter h hw _

theorem inv_popState (s : State) (x : Nat × Nat) (xs f : List (Nat × Nat)) (a : Option (Nat × Nat)) (r : List (Nat × Nat))
    (h : Inv s) (hi : s.items = x :: xs) (hb : s.blocked = f ++ a.toList ++ r)
    (ha : a = none → r = []) : Inv (popState s x xs f a r) := by
  have hw : s.waiters = [] := Decidable.byContradiction fun hw => by simpa [hi] using (h.waiters_empty hw).1
  -- all that matters of the admitted producer: at most one, and nobody is left behind an empty slot
  have hr : r ≠ [] → a.toList.length = 1 := fun hr => by cases a <;> simp_all
  have hlen : a.toList.length ≤ 1 := by cases a <;> simp
  unfold popState
  generalize a.toList = al at hb hr hlen
  have h1 := hi ▸ h.len_le
  have h2 := hi ▸ hb ▸ h.blocked_full
  have h4 := h.item_once
  have h5 := h.held
  simp only [heldIds, hi, hb] at h4 h5
  exact { h with
    len_le := by simp at h1 ⊢; omega
    blocked_full := fun hne => by
      have hl := h2 (by simp [hne])
      have := hr hne
      simp at hl ⊢; omega
    waiters_empty := fun hne => absurd hw hne
    item_once := by count_from h4
    held := h5.sublist (by simp [heldIds])
    pops := by simpa [hw] using h.pops.snoc
    pop_once := by count_from h.pop_once
    push_once := by count_from hb ▸ h.push_once
    failed_withdrawn := by count_from h.failed_withdrawn }

theorem inv_popF (s : State) (g n : Nat) (h : Inv s) : Inv (stepPopF s g n).1 := by
  cases hi : s.items with
  | nil =>
    have hb : s.blocked = [] := Decidable.byContradiction fun hb => by
      have := h.blocked_full hb; rw [hi] at this; exact absurd this (Nat.ne_of_lt h.limit_pos)
    simp only [stepPopF, hi]
    exact { h with
      len_le := hi ▸ h.len_le
      blocked_full := fun hne => absurd hb hne
      waiters_empty := fun _ => ⟨rfl, hb⟩
      item_once := by simpa [heldIds, hi] using h.item_once
      held := by simpa [heldIds, hi] using h.held
      pops := by simpa using h.pops.snoc
      pop_once := by count_from h.pop_once }
  | cons x xs =>
    cases ht : throwsAt g n 1 with
    | true => simpa [stepPopF, hi, ht] using h
    | false =>
      rw [stepPopF_eq s g n x xs hi ht]
      obtain ⟨e1, e2, _⟩ := admitLoop_spec g n s.blocked 2
      exact inv_popState s x xs _ _ _ h hi e1 e2

theorem inv_upush (s : State) (c : Nat) (h : Inv s) : Inv (stepUpush s c).1 := by
  unfold stepUpush
  split
  next => exact h
  next b bs hb =>
    have h4 := h.item_once
    have h5 := h.held
    simp only [heldIds, hb] at h4 h5
    exact { h with
      blocked_full := fun _ => h.blocked_full (by simp [hb])
      waiters_empty := fun hw => by simpa [hb] using (h.waiters_empty hw).2
      item_once := by count_from h4
      held := h5.sublist (by simp [heldIds])
      pop_once := by count_from h.pop_once
      push_once := by count_from hb ▸ h.push_once
      failed_withdrawn := by count_from h.failed_withdrawn }

theorem inv_upushF (s : State) (c g n : Nat) (h : Inv s) : Inv (stepUpushF s c g n).1 := by
  unfold stepUpushF
  split
  · exact h
  · exact inv_upush s c h

theorem inv_destroy (s : State) (h : Inv s) : Inv (stepDestroy s).1 := by
  unfold stepDestroy
  exact { h with
    blocked_full := fun hne => absurd rfl hne
    waiters_empty := fun hne => absurd rfl hne
    item_once := by count_from h.item_once
    held := h.held.sublist (by simp [heldIds])
    pops := h.pops.sublist (by simp)
    pop_once := by count_from h.pop_once
    push_once := by count_from h.push_once
    failed_withdrawn := by count_from h.failed_withdrawn }

theorem inv_deliver (s : State) (k : Nat) (h : Inv s) : Inv (stepDeliver s k).1 := by
  unfold stepDeliver
  split
  next => exact h
  next e hk =>
    have move : ∀ (f : Ev → Option Nat) (i : Nat), ((s.inflight.eraseIdx k).filterMap f).count i
        + ((s.completed ++ [e]).filterMap f).count i = (s.inflight.filterMap f).count i + (s.completed.filterMap f).count i :=
      fun f i => by
        have := ((perm_eraseIdx_snoc hk).filterMap f).count_eq i
        simp only [List.filterMap_append, List.count_append] at this ⊢
        omega
    exact { h with
      pop_once := fun i => by have := h.pop_once i; have := move Ev.popId? i; simp only [popIds] at *; omega
      push_once := fun i => by have := h.push_once i; have := move Ev.pushId? i; simp only [pushIds] at *; omega
      failed_withdrawn := fun i => by
        have := h.failed_withdrawn i; have := move Ev.failedPush? i; simp only [failedPushes] at *; omega }

theorem inv_step (s : State) (op : Op) (h : Inv s) : Inv (step s op).1 := by
  have live : Inv (stepLive s op).1 := by
    cases op with
    | push v => exact inv_push s v h
    | pop => exact inv_popF s 0 0 h
    | upop c => exact inv_upop s c h
    | upush c => exact inv_upush s c h
    | size => exact h
    | empty => exact h
    | destroy => exact inv_destroy s h
    | deliver k => exact inv_deliver s k h
    | pushthrow => exact inv_pushThrow s h
    | pushmv v g n => exact inv_pushMv s v g n h
    | popthrow g n => exact inv_popF s g n h
    | upushthrow c g n => exact inv_upushF s c g n h
  cases op with
  | deliver k => exact live
  | _ =>
    simp only [step]
    split
    · exact live
    · exact h

theorem inv_run (s : State) (ops : List Op) (h : Inv s) : Inv (run s ops) :=
  List.foldlRecOn ops _ h fun s hs op _ => inv_step s op hs

end Cocls.LQ
