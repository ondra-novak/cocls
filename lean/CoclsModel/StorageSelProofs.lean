import CoclsModel.StorageSel
import CoclsModel.StorageProofs
/-!
Invariant of the storage-selection machine (`StorageSel.lean`) and its preservation by every step (for `Props/C19.lean`):
who owns which block (`Owns`, touched by `alloc` and the destructor only) and where the live frames sit.
-/
namespace Cocls.StorageSel
open Cocls.Storage (Heap Blk HeapOnce mem_ids_of_mem_live mem_ids_delOpt mem_live_delOpt mem_live_new mem_live_new_self
  forall_mem_snoc nodup_map_snoc)

theorem ptrBlk_eq_heap {o : Option Nat} {b : Nat} (h : ptrBlk o = Blk.heap b) : o = some b := by
  cases o with
  | none => cases h
  | some p => injection h with h; rw [h]

structure Owns (s : State) : Prop where
  once : HeapOnce s.heap
  ptr_live : ∀ k b, s.ptr k = some b → (b, s.cap k) ∈ s.heap.live
  ptr_inj : ∀ j k b, s.ptr j = some b → s.ptr k = some b → j = k
  ptr_none : ∀ k, s.ptr k = none → s.cap k = 0
  owned : ∀ b, b ∈ s.heap.ids → ∃ k, s.ptr k = some b

structure Inv (s : State) : Prop extends Owns s where
  sel : ∀ f ∈ s.frames, select f.args = some f.obj
  home : s.ok = true → ∀ f ∈ s.frames, f.blk = ptrBlk (s.ptr f.obj) ∧ f.sz ≤ s.cap f.obj
  one : s.ok = true → (s.frames.map (·.obj)).Nodup

theorem inv_init : Inv init := by
  refine ⟨⟨?_, ?_, ?_, ?_, ?_⟩, ?_, ?_, ?_⟩ <;> simp [init, HeapOnce, Heap.ids]

theorem owns_destroy {s : State} (h : Owns s) (k : Nat) : Owns (stepDestroy s k).1 := by
  refine ⟨h.once.delOpt (fun p hp => mem_ids_of_mem_live (h.ptr_live k p hp)), fun j b hj => ?_, fun i j b hi hj => ?_,
    fun j hj => ?_, fun b hb => ?_⟩
  · by_cases hjk : j = k
    · simp [stepDestroy, hjk] at hj
    · simp only [stepDestroy, hjk, if_false] at hj ⊢
      exact mem_live_delOpt (h.ptr_live j b hj) (fun e => hjk (h.ptr_inj j k b hj e))
  · by_cases hik : i = k
    · simp [stepDestroy, hik] at hi
    · by_cases hjk : j = k
      · simp [stepDestroy, hjk] at hj
      · simp only [stepDestroy, hik, hjk, if_false] at hi hj
        exact h.ptr_inj i j b hi hj
  · by_cases hjk : j = k
    · simp [stepDestroy, hjk]
    · simp only [stepDestroy, hjk, if_false] at hj ⊢
      exact h.ptr_none j hj
  · obtain ⟨hb1, hb2⟩ := mem_ids_delOpt hb
    obtain ⟨j, hj⟩ := h.owned b hb1
    have hjk : j ≠ k := fun e => hb2 (e ▸ hj)
    exact ⟨j, by simp only [stepDestroy, hjk, if_false]; exact hj⟩

theorem owns_rsAlloc {s : State} (h : Owns s) (k n : Nat) : Owns (rsAlloc s k n) := by
  unfold rsAlloc
  split
  · have hone : HeapOnce (s.heap.delOpt (s.ptr k)) := h.once.delOpt (fun p hp => mem_ids_of_mem_live (h.ptr_live k p hp))
    refine ⟨hone.new n, fun j b hj => ?_, fun i j b hi hj => ?_, fun j hj => ?_, fun b hb => ?_⟩
    · by_cases hjk : j = k
      · subst hjk
        simp only [if_true] at hj ⊢
        injection hj with hj
        subst hj
        rw [← Heap.delOpt_next s.heap (s.ptr j)]
        exact mem_live_new_self _ n
      · simp only [hjk, if_false] at hj ⊢
        exact mem_live_new (mem_live_delOpt (h.ptr_live j b hj) (fun e => hjk (h.ptr_inj j k b hj e)))
    · have hfresh : ∀ m, s.ptr m = some b → b < s.heap.next := fun m hm =>
        h.once.lt (mem_ids_of_mem_live (h.ptr_live m b hm))
      by_cases hik : i = k <;> by_cases hjk : j = k
      · rw [hik, hjk]
      · simp only [hik, hjk, if_true, if_false] at hi hj
        injection hi with hi
        have := hfresh j hj
        omega
      · simp only [hik, hjk, if_true, if_false] at hi hj
        injection hj with hj
        have := hfresh i hi
        omega
      · simp only [hik, hjk, if_false] at hi hj
        exact h.ptr_inj i j b hi hj
    · by_cases hjk : j = k
      · simp [hjk] at hj
      · simp only [hjk, if_false] at hj ⊢
        exact h.ptr_none j hj
    · simp only [Heap.ids_new, List.mem_append, List.mem_singleton, Heap.delOpt_next] at hb
      rcases hb with hb | hb
      · obtain ⟨hb1, hb2⟩ := mem_ids_delOpt hb
        obtain ⟨j, hj⟩ := h.owned b hb1
        have hjk : j ≠ k := fun e => hb2 (e ▸ hj)
        exact ⟨j, by simp only [hjk, if_false]; exact hj⟩
      · exact ⟨k, by simp [hb]⟩
  · exact h

theorem rsAlloc_fields (s : State) (k n : Nat) :
    n ≤ (rsAlloc s k n).cap k ∧ ∀ j, j ≠ k → (rsAlloc s k n).ptr j = s.ptr j ∧ (rsAlloc s k n).cap j = s.cap j := by
  unfold rsAlloc
  split
  · exact ⟨Nat.le_of_eq (if_pos rfl).symm, fun _ hj => ⟨if_neg hj, if_neg hj⟩⟩
  · exact ⟨by omega, fun _ _ => ⟨rfl, rfl⟩⟩

theorem obj_free {o : Bool} {fr : List Frame} {k : Nat} (h : (o && fr.all (fun f => f.obj != k)) = true) :
    ∀ f ∈ fr, f.obj ≠ k :=
  fun f hf => bne_iff_ne.mp (List.all_eq_true.mp (Bool.and_eq_true_iff.mp h).2 f hf)

theorem inv_coro {s : State} (h : Inv s) (args : List Arg) (sz : Nat) : Inv (stepCoro s args sz).1 := by
  unfold stepCoro
  cases hs : select args with
  | none => exact h
  | some k =>
    obtain ⟨hcap, hoth⟩ := rsAlloc_fields s k sz
    refine {
      toOwns := { owns_rsAlloc h.toOwns k sz with }
      sel := forall_mem_snoc h.sel hs
      home := fun hok => forall_mem_snoc (fun f hf => ?_) ⟨rfl, hcap⟩
      one := fun hok => nodup_map_snoc (h.one (Storage.and_ok hok)) (fun ha => ?_) }
    · obtain ⟨e1, e2⟩ := hoth f.obj (obj_free hok f hf)
      show f.blk = ptrBlk ((rsAlloc s k sz).ptr f.obj) ∧ f.sz ≤ (rsAlloc s k sz).cap f.obj
      rw [e1, e2]
      exact h.home (Storage.and_ok hok) f hf
    · obtain ⟨f, hf, e⟩ := List.mem_map.mp ha
      exact obj_free hok f hf e

theorem inv_free {s : State} (h : Inv s) (id : Nat) : Inv (stepFree s id).1 := by
  unfold stepFree
  split
  · exact h
  · have hsub : ∀ f, f ∈ s.frames.filter (fun f => f.id != id) → f ∈ s.frames := fun f hf => (List.mem_filter.mp hf).1
    exact { h with
      sel := fun f hf => h.sel f (hsub f hf)
      home := fun hok f hf => h.home hok f (hsub f hf)
      one := fun hok => (h.one hok).sublist (List.filter_sublist.map _) }

theorem inv_destroy {s : State} (h : Inv s) (k : Nat) : Inv (stepDestroy s k).1 := by
  refine { toOwns := owns_destroy h.toOwns k, sel := h.sel, home := fun hok f hf => ?_, one := fun hok => h.one (Storage.and_ok hok) }
  show f.blk = ptrBlk (if f.obj = k then none else s.ptr f.obj) ∧ f.sz ≤ (if f.obj = k then 0 else s.cap f.obj)
  rw [if_neg (obj_free hok f hf), if_neg (obj_free hok f hf)]
  exact h.home (Storage.and_ok hok) f hf

theorem inv_step {s : State} (h : Inv s) (op : Op) : Inv (step s op).1 := by
  cases op with
  | coro args sz => exact inv_coro h args sz
  | free id => exact inv_free h id
  | destroy k => exact inv_destroy h k

theorem inv_run {s : State} (h : Inv s) (ops : List Op) : Inv (run s ops) := by
  induction ops generalizing s with
  | nil => exact h
  | cons op ops ih => exact ih (inv_step h op)

end Cocls.StorageSel
