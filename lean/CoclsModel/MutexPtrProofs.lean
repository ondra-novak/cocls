import CoclsModel.MutexProofs
import CoclsModel.MutexPtr
/-!
# The pointer-level mutex model refines the list-level model (`MutexPtr.lean` ⊑ `Mutex.lean`) — C07 / C08

`ChainIs`/`StackIs` read `_next` chains as lists; `walk_chain`: the loop of `build_queue` is list reversal.
`Repr c ps ls`: `ls` has the control part of `ps`, `_requests` represents `ls.req`, `_queue` — after the pending loop of
the owner, if any (`PendIs`), has run — represents `ls.queue`, every linked node is alive and carries the key of its
owner's current request, no access violation and no failed assertion so far.
Simulation: `agentStep_sim` (same events and outcome, related states; for every pc, no restriction to `canRun`) from
`repr_flush` (the pending loop does not change what the pointers represent) and `stepCore_sim` (by pc; the steps that
write no link go through the frame lemma `reprL_frame`; `SimStep` also says which node accesses the step makes: `coreAcc`;
the three ways into the hand-over of `unlock` are taken apart once, in `sim_unlock`); then along guarded runs (`arun_sim`;
`c.n ≤ wf`: no chain is longer than the number of contenders, `Mutex.queue_length_le`), for the abstraction function
(`abs_of_repr`) and for schedules of OS threads (`trun_sim`).
Node safety, from `agentStep_spec` (the accesses of an activity are those of the pending loop, then `coreAcc`):
`agentStep_acc`, `step_no_conflict`, `linked_live`, `handover_step`.
A property of the pointers along a run starts from `run_facts` and `repr_links` (whatever lists `Links` holds of: which
list-level lists they are; `links_of_repr`: there are such lists), as `links_arrival_order` and `links_listed` do.
-/
namespace Cocls.MutexPtr
open Cocls.Mutex (Elem Seen Flavour Rel Cfg Pc TMain Ev Outcome upd nodesL nodesOf seenOf Inv Listed Owner canRun TInv LInv
  WakeOk)

/-! ## what the functions of the model do to each field -/

@[simp] theorem touch_requests (s : State) (a : Nat) (p : Ptr) (f : Field) (w : Bool) : (touch s a p f w).requests = s.requests := rfl
@[simp] theorem touch_next (s : State) (a : Nat) (p : Ptr) (f : Field) (w : Bool) : (touch s a p f w).next = s.next := rfl
@[simp] theorem touch_doorNext (s : State) (a : Nat) (p : Ptr) (f : Field) (w : Bool) : (touch s a p f w).doorNext = s.doorNext := rfl
@[simp] theorem touch_queue (s : State) (a : Nat) (p : Ptr) (f : Field) (w : Bool) : (touch s a p f w).queue = s.queue := rfl
@[simp] theorem touch_pend (s : State) (a : Nat) (p : Ptr) (f : Field) (w : Bool) : (touch s a p f w).pend = s.pend := rfl
@[simp] theorem touch_flag (s : State) (a : Nat) (p : Ptr) (f : Field) (w : Bool) : (touch s a p f w).flag = s.flag := rfl
@[simp] theorem touch_flagNo (s : State) (a : Nat) (p : Ptr) (f : Field) (w : Bool) : (touch s a p f w).flagNo = s.flagNo := rfl
@[simp] theorem touch_flagTh (s : State) (a : Nat) (p : Ptr) (f : Field) (w : Bool) : (touch s a p f w).flagTh = s.flagTh := rfl
@[simp] theorem touch_flagIx (s : State) (a : Nat) (p : Ptr) (f : Field) (w : Bool) : (touch s a p f w).flagIx = s.flagIx := rfl
@[simp] theorem touch_held (s : State) (a : Nat) (p : Ptr) (f : Field) (w : Bool) : (touch s a p f w).held = s.held := rfl
@[simp] theorem touch_aux (s : State) (a : Nat) (p : Ptr) (f : Field) (w : Bool) : (touch s a p f w).aux = s.aux := rfl
@[simp] theorem touch_pc (s : State) (a : Nat) (p : Ptr) (f : Field) (w : Bool) : (touch s a p f w).pc = s.pc := rfl
@[simp] theorem touch_round (s : State) (a : Nat) (p : Ptr) (f : Field) (w : Bool) : (touch s a p f w).round = s.round := rfl
@[simp] theorem touch_incs (s : State) (a : Nat) (p : Ptr) (f : Field) (w : Bool) : (touch s a p f w).incs = s.incs := rfl
@[simp] theorem touch_cur (s : State) (a : Nat) (p : Ptr) (f : Field) (w : Bool) : (touch s a p f w).cur = s.cur := rfl
@[simp] theorem touch_rq (s : State) (a : Nat) (p : Ptr) (f : Field) (w : Bool) : (touch s a p f w).rq = s.rq := rfl
@[simp] theorem touch_tmain (s : State) (a : Nat) (p : Ptr) (f : Field) (w : Bool) : (touch s a p f w).tmain = s.tmain := rfl
@[simp] theorem touch_grants (s : State) (a : Nat) (p : Ptr) (f : Field) (w : Bool) : (touch s a p f w).grants = s.grants := rfl
@[simp] theorem touch_stamp (s : State) (a : Nat) (p : Ptr) (f : Field) (w : Bool) : (touch s a p f w).stamp = s.stamp := rfl
@[simp] theorem touch_clock (s : State) (a : Nat) (p : Ptr) (f : Field) (w : Bool) : (touch s a p f w).clock = s.clock := rfl
@[simp] theorem touch_grantLog (s : State) (a : Nat) (p : Ptr) (f : Field) (w : Bool) : (touch s a p f w).grantLog = s.grantLog := rfl
@[simp] theorem touch_fails (s : State) (a : Nat) (p : Ptr) (f : Field) (w : Bool) : (touch s a p f w).fails = s.fails := rfl
@[simp] theorem touch_grantReqs (s : State) (a : Nat) (p : Ptr) (f : Field) (w : Bool) : (touch s a p f w).grantReqs = s.grantReqs := rfl
@[simp] theorem touch_failReqs (s : State) (a : Nat) (p : Ptr) (f : Field) (w : Bool) : (touch s a p f w).failReqs = s.failReqs := rfl
@[simp] theorem touch_bad (s : State) (a : Nat) (p : Ptr) (f : Field) (w : Bool) : (touch s a p f w).bad = s.bad := rfl
@[simp] theorem touch_live (s : State) (a : Nat) (p : Ptr) (f : Field) (w : Bool) : (touch s a p f w).live = s.live := rfl
@[simp] theorem touch_asrt (s : State) (a : Nat) (p : Ptr) (f : Field) (w : Bool) : (touch s a p f w).asrt = s.asrt := rfl
@[simp] theorem touch_acc (s : State) (a : Nat) (p : Ptr) (f : Field) (w : Bool) : (touch s a p f w).acc = s.acc ++ [⟨a, p, f, w⟩] := rfl
@[simp] theorem touch_viol (s : State) (a : Nat) (p : Ptr) (f : Field) (w : Bool) : (touch s a p f w).viol = (s.viol || !isLive s p) := rfl
@[simp] theorem isLive_touch (s : State) (a : Nat) (p q : Ptr) (f : Field) (w : Bool) : isLive (touch s a p f w) q = isLive s q := by cases q <;> rfl
theorem isLive_congr {s1 s2 : State} (h : s1.live = s2.live) (p : Ptr) : isLive s1 p = isLive s2 p := by cases p <;> simp [isLive, h]
@[simp] theorem isLive_node (s : State) (a k : Nat) : isLive s (Seen.node a k) = s.live (a, k) := rfl
@[simp] theorem absWith_touch (s : State) (a : Nat) (p : Ptr) (f : Field) (w : Bool) (r : List Elem) (q : List Nat) : absWith (touch s a p f w) r q = absWith s r q := rfl
@[simp] theorem setPc_requests (s : State) (a : Nat) (p : Pc) : (setPc s a p).requests = s.requests := rfl
@[simp] theorem setPc_next (s : State) (a : Nat) (p : Pc) : (setPc s a p).next = s.next := rfl
@[simp] theorem setPc_doorNext (s : State) (a : Nat) (p : Pc) : (setPc s a p).doorNext = s.doorNext := rfl
@[simp] theorem setPc_queue (s : State) (a : Nat) (p : Pc) : (setPc s a p).queue = s.queue := rfl
@[simp] theorem setPc_pend (s : State) (a : Nat) (p : Pc) : (setPc s a p).pend = s.pend := rfl
@[simp] theorem setPc_flag (s : State) (a : Nat) (p : Pc) : (setPc s a p).flag = s.flag := rfl
@[simp] theorem setPc_flagNo (s : State) (a : Nat) (p : Pc) : (setPc s a p).flagNo = s.flagNo := rfl
@[simp] theorem setPc_flagTh (s : State) (a : Nat) (p : Pc) : (setPc s a p).flagTh = s.flagTh := rfl
@[simp] theorem setPc_flagIx (s : State) (a : Nat) (p : Pc) : (setPc s a p).flagIx = s.flagIx := rfl
@[simp] theorem setPc_held (s : State) (a : Nat) (p : Pc) : (setPc s a p).held = s.held := rfl
@[simp] theorem setPc_aux (s : State) (a : Nat) (p : Pc) : (setPc s a p).aux = s.aux := rfl
@[simp] theorem setPc_round (s : State) (a : Nat) (p : Pc) : (setPc s a p).round = s.round := rfl
@[simp] theorem setPc_incs (s : State) (a : Nat) (p : Pc) : (setPc s a p).incs = s.incs := rfl
@[simp] theorem setPc_cur (s : State) (a : Nat) (p : Pc) : (setPc s a p).cur = s.cur := rfl
@[simp] theorem setPc_rq (s : State) (a : Nat) (p : Pc) : (setPc s a p).rq = s.rq := rfl
@[simp] theorem setPc_tmain (s : State) (a : Nat) (p : Pc) : (setPc s a p).tmain = s.tmain := rfl
@[simp] theorem setPc_grants (s : State) (a : Nat) (p : Pc) : (setPc s a p).grants = s.grants := rfl
@[simp] theorem setPc_stamp (s : State) (a : Nat) (p : Pc) : (setPc s a p).stamp = s.stamp := rfl
@[simp] theorem setPc_clock (s : State) (a : Nat) (p : Pc) : (setPc s a p).clock = s.clock := rfl
@[simp] theorem setPc_grantLog (s : State) (a : Nat) (p : Pc) : (setPc s a p).grantLog = s.grantLog := rfl
@[simp] theorem setPc_fails (s : State) (a : Nat) (p : Pc) : (setPc s a p).fails = s.fails := rfl
@[simp] theorem setPc_grantReqs (s : State) (a : Nat) (p : Pc) : (setPc s a p).grantReqs = s.grantReqs := rfl
@[simp] theorem setPc_failReqs (s : State) (a : Nat) (p : Pc) : (setPc s a p).failReqs = s.failReqs := rfl
@[simp] theorem setPc_bad (s : State) (a : Nat) (p : Pc) : (setPc s a p).bad = s.bad := rfl
@[simp] theorem setPc_live (s : State) (a : Nat) (p : Pc) : (setPc s a p).live = s.live := rfl
@[simp] theorem setPc_acc (s : State) (a : Nat) (p : Pc) : (setPc s a p).acc = s.acc := rfl
@[simp] theorem setPc_viol (s : State) (a : Nat) (p : Pc) : (setPc s a p).viol = s.viol := rfl
@[simp] theorem setPc_asrt (s : State) (a : Nat) (p : Pc) : (setPc s a p).asrt = s.asrt := rfl
@[simp] theorem setPc_pc (s : State) (a : Nat) (p : Pc) : (setPc s a p).pc = upd s.pc a p := rfl
@[simp] theorem absWith_req (s : State) (r : List Elem) (q : List Nat) : (absWith s r q).req = r := rfl
@[simp] theorem absWith_queue (s : State) (r : List Elem) (q : List Nat) : (absWith s r q).queue = q := rfl
@[simp] theorem absWith_flag (s : State) (r : List Elem) (q : List Nat) : (absWith s r q).flag = s.flag := rfl
@[simp] theorem absWith_flagNo (s : State) (r : List Elem) (q : List Nat) : (absWith s r q).flagNo = s.flagNo := rfl
@[simp] theorem absWith_flagTh (s : State) (r : List Elem) (q : List Nat) : (absWith s r q).flagTh = s.flagTh := rfl
@[simp] theorem absWith_flagIx (s : State) (r : List Elem) (q : List Nat) : (absWith s r q).flagIx = s.flagIx := rfl
@[simp] theorem absWith_held (s : State) (r : List Elem) (q : List Nat) : (absWith s r q).held = s.held := rfl
@[simp] theorem absWith_aux (s : State) (r : List Elem) (q : List Nat) : (absWith s r q).aux = s.aux := rfl
@[simp] theorem absWith_pc (s : State) (r : List Elem) (q : List Nat) : (absWith s r q).pc = s.pc := rfl
@[simp] theorem absWith_round (s : State) (r : List Elem) (q : List Nat) : (absWith s r q).round = s.round := rfl
@[simp] theorem absWith_incs (s : State) (r : List Elem) (q : List Nat) : (absWith s r q).incs = s.incs := rfl
@[simp] theorem absWith_cur (s : State) (r : List Elem) (q : List Nat) : (absWith s r q).cur = s.cur := rfl
@[simp] theorem absWith_rq (s : State) (r : List Elem) (q : List Nat) : (absWith s r q).rq = s.rq := rfl
@[simp] theorem absWith_tmain (s : State) (r : List Elem) (q : List Nat) : (absWith s r q).tmain = s.tmain := rfl
@[simp] theorem absWith_grants (s : State) (r : List Elem) (q : List Nat) : (absWith s r q).grants = s.grants := rfl
@[simp] theorem absWith_stamp (s : State) (r : List Elem) (q : List Nat) : (absWith s r q).stamp = s.stamp := rfl
@[simp] theorem absWith_clock (s : State) (r : List Elem) (q : List Nat) : (absWith s r q).clock = s.clock := rfl
@[simp] theorem absWith_grantLog (s : State) (r : List Elem) (q : List Nat) : (absWith s r q).grantLog = s.grantLog := rfl
@[simp] theorem absWith_fails (s : State) (r : List Elem) (q : List Nat) : (absWith s r q).fails = s.fails := rfl
@[simp] theorem absWith_grantReqs (s : State) (r : List Elem) (q : List Nat) : (absWith s r q).grantReqs = s.grantReqs := rfl
@[simp] theorem absWith_failReqs (s : State) (r : List Elem) (q : List Nat) : (absWith s r q).failReqs = s.failReqs := rfl
@[simp] theorem absWith_bad (s : State) (r : List Elem) (q : List Nat) : (absWith s r q).bad = s.bad := rfl

theorem keyOf_abs (c : Cfg) (s : State) (r : List Elem) (q : List Nat) (a : Nat) :
    Mutex.keyOf c (absWith s r q) a = keyOf c s a := rfl
theorem flOf_abs (c : Cfg) (s : State) (r : List Elem) (q : List Nat) (a : Nat) :
    Mutex.flOf c (absWith s r q) a = flOf c s a := rfl
theorem relOf_abs (c : Cfg) (s : State) (r : List Elem) (q : List Nat) (a : Nat) :
    Mutex.relOf c (absWith s r q) a = relOf c s a := rfl
theorem objOf_abs (c : Cfg) (s : State) (r : List Elem) (q : List Nat) (a : Nat) :
    Mutex.objOf c (absWith s r q) a = objOf c s a := rfl
theorem curRound_abs (c : Cfg) (s : State) (r : List Elem) (q : List Nat) (a : Nat) :
    Mutex.curRound c (absWith s r q) a = curRound c s a := rfl

theorem keyOf_round {c : Cfg} {s s' : State} {o : Nat} (h : s'.round o = s.round o) : keyOf c s' o = keyOf c s o := by
  simp [keyOf, flOf, curRound, h]

theorem keyOf_congr {c : Cfg} {s s' : State} (h : s'.round = s.round) (a : Nat) : keyOf c s' a = keyOf c s a :=
  keyOf_round (congrFun h a)

@[simp] theorem popHead_requests (s : State) (a b k : Nat) : (popHead s a b k).requests = s.requests := rfl
@[simp] theorem popHead_doorNext (s : State) (a b k : Nat) : (popHead s a b k).doorNext = s.doorNext := rfl
@[simp] theorem popHead_pend (s : State) (a b k : Nat) : (popHead s a b k).pend = s.pend := rfl
@[simp] theorem popHead_flag (s : State) (a b k : Nat) : (popHead s a b k).flag = s.flag := rfl
@[simp] theorem popHead_flagNo (s : State) (a b k : Nat) : (popHead s a b k).flagNo = s.flagNo := rfl
@[simp] theorem popHead_flagTh (s : State) (a b k : Nat) : (popHead s a b k).flagTh = s.flagTh := rfl
@[simp] theorem popHead_flagIx (s : State) (a b k : Nat) : (popHead s a b k).flagIx = s.flagIx := rfl
@[simp] theorem popHead_held (s : State) (a b k : Nat) : (popHead s a b k).held = s.held := rfl
@[simp] theorem popHead_aux (s : State) (a b k : Nat) : (popHead s a b k).aux = s.aux := rfl
@[simp] theorem popHead_pc (s : State) (a b k : Nat) : (popHead s a b k).pc = s.pc := rfl
@[simp] theorem popHead_round (s : State) (a b k : Nat) : (popHead s a b k).round = s.round := rfl
@[simp] theorem popHead_incs (s : State) (a b k : Nat) : (popHead s a b k).incs = s.incs := rfl
@[simp] theorem popHead_cur (s : State) (a b k : Nat) : (popHead s a b k).cur = s.cur := rfl
@[simp] theorem popHead_rq (s : State) (a b k : Nat) : (popHead s a b k).rq = s.rq := rfl
@[simp] theorem popHead_tmain (s : State) (a b k : Nat) : (popHead s a b k).tmain = s.tmain := rfl
@[simp] theorem popHead_stamp (s : State) (a b k : Nat) : (popHead s a b k).stamp = s.stamp := rfl
@[simp] theorem popHead_clock (s : State) (a b k : Nat) : (popHead s a b k).clock = s.clock := rfl
@[simp] theorem popHead_grantLog (s : State) (a b k : Nat) : (popHead s a b k).grantLog = s.grantLog := rfl
@[simp] theorem popHead_fails (s : State) (a b k : Nat) : (popHead s a b k).fails = s.fails := rfl
@[simp] theorem popHead_failReqs (s : State) (a b k : Nat) : (popHead s a b k).failReqs = s.failReqs := rfl
@[simp] theorem popHead_bad (s : State) (a b k : Nat) : (popHead s a b k).bad = s.bad := rfl
@[simp] theorem popHead_asrt (s : State) (a b k : Nat) : (popHead s a b k).asrt = s.asrt := rfl
@[simp] theorem popHead_live (s : State) (a b k : Nat) : (popHead s a b k).live = s.live := rfl
@[simp] theorem popHead_queue (s : State) (a b k : Nat) : (popHead s a b k).queue = s.next (b, k) := rfl
@[simp] theorem popHead_next (s : State) (a b k : Nat) : (popHead s a b k).next = updN s.next (b, k) Seen.null := rfl
@[simp] theorem popHead_grants (s : State) (a b k : Nat) : (popHead s a b k).grants = upd s.grants b (s.grants b + 1) := rfl
@[simp] theorem popHead_grantReqs (s : State) (a b k : Nat) : (popHead s a b k).grantReqs = s.grantReqs ++ [(b, s.round b)] := rfl
theorem popHead_viol (s : State) (a b k : Nat) (h : s.live (b, k) = true) : (popHead s a b k).viol = s.viol := by
  show (s.viol || !isLive s (Seen.node b k)) = s.viol
  simp [h]
theorem popHead_acc (s : State) (a b k : Nat) : (popHead s a b k).acc = s.acc ++
    [⟨a, Seen.node b k, Field.next, false⟩, ⟨a, Seen.node b k, Field.next, true⟩, ⟨a, Seen.node b k, Field.body, false⟩] := rfl
theorem keyOf_popHead (c : Cfg) (s : State) (a b k : Nat) (o : Nat) : keyOf c (popHead s a b k) o = keyOf c s o :=
  keyOf_round rfl

theorem updN_ne {α} (f : Node → α) {n m : Node} (v : α) (h : m ≠ n) : updN f n v m = f m := by rw [updN_apply, if_neg h]

/-! ## chains of `_next` links -/

/-- following `_next` from `h` visits exactly the nodes `l`, none of which is `stop`, and then reaches `stop` -/
inductive ChainIs (next : Node → Ptr) : Ptr → List Node → Ptr → Prop
  | nil (stop : Ptr) : ChainIs next stop [] stop
  | cons {a k : Nat} {l : List Node} {stop : Ptr} : Seen.node a k ≠ stop → ChainIs next (next (a, k)) l stop →
      ChainIs next (Seen.node a k) ((a, k) :: l) stop

theorem chain_nil_iff {next : Node → Ptr} {h stop : Ptr} : ChainIs next h [] stop ↔ h = stop := by
  constructor
  · intro hc; cases hc; rfl
  · rintro rfl; exact ChainIs.nil _

theorem chain_cons_iff {next : Node → Ptr} {h stop : Ptr} {n : Node} {l : List Node} :
    ChainIs next h (n :: l) stop ↔ h = Seen.node n.1 n.2 ∧ h ≠ stop ∧ ChainIs next (next n) l stop := by
  constructor
  · intro hc; cases hc with
    | cons h1 h2 => exact ⟨rfl, h1, h2⟩
  · rintro ⟨rfl, h1, h2⟩; exact ChainIs.cons h1 h2

theorem chain_self_nil {next : Node → Ptr} {p : Ptr} {l : List Node} (h : ChainIs next p l p) : l = [] := by
  cases h with
  | nil => rfl
  | cons hne _ => exact absurd rfl hne

theorem chain_cases {next : Node → Ptr} {p stop : Ptr} {l : List Node} (h : ChainIs next p l stop) :
    (p = stop ∧ l = []) ∨ (∃ b k l', p = Seen.node b k ∧ l = (b, k) :: l' ∧ ChainIs next (next (b, k)) l' stop) := by
  cases h with
  | nil => exact Or.inl ⟨rfl, rfl⟩
  | cons _ h' => exact Or.inr ⟨_, _, _, rfl, rfl, h'⟩

theorem chain_frame' {next next' : Node → Ptr} {h stop : Ptr} {l : List Node} (hc : ChainIs next h l stop)
    (hf : ∀ m ∈ l, next' m = next m) : ChainIs next' h l stop := by
  induction hc with
  | nil => exact ChainIs.nil _
  | cons h1 _ ih =>
    refine ChainIs.cons h1 ?_
    rw [hf _ (List.mem_cons_self ..)]
    exact ih (fun m hm => hf m (List.mem_cons_of_mem _ hm))

theorem chain_frame {next : Node → Ptr} {h stop : Ptr} {l : List Node} (n : Node) (v : Ptr) (hc : ChainIs next h l stop)
    (hn : n ∉ l) : ChainIs (updN next n v) h l stop :=
  chain_frame' hc (fun _ hm => updN_ne _ _ (fun e => hn (e ▸ hm)))

/-- the publishing CAS; one iteration of `build_queue`'s loop on `_queue` -/
theorem chain_push {next : Node → Ptr} {h stop : Ptr} {l : List Node} (n : Node) (hc : ChainIs next h l stop)
    (hn : n ∉ l) (hs : Seen.node n.1 n.2 ≠ stop) : ChainIs (updN next n h) (Seen.node n.1 n.2) (n :: l) stop := by
  refine ChainIs.cons hs ?_
  rw [updN_same]
  exact chain_frame n h hc hn

theorem chain_unique {next : Node → Ptr} {h stop : Ptr} {l1 l2 : List Node} (h1 : ChainIs next h l1 stop)
    (h2 : ChainIs next h l2 stop) : l1 = l2 := by
  induction h1 generalizing l2 with
  | nil => cases h2 with
    | nil => rfl
    | cons hne _ => exact absurd rfl hne
  | cons hne _ ih => cases h2 with
    | nil => exact absurd rfl hne
    | cons _ h2' => rw [ih h2']

/-- the walk from `h` over nodes down to null or the doorman is determined by the pointers -/
theorem chain_unique_end {next : Node → Ptr} {h s1 s2 : Ptr} {l1 l2 : List Node} (h1 : ChainIs next h l1 s1)
    (h2 : ChainIs next h l2 s2) (e1 : s1 = Seen.null ∨ s1 = Seen.door) (e2 : s2 = Seen.null ∨ s2 = Seen.door) :
    l1 = l2 ∧ s1 = s2 := by
  induction h1 generalizing l2 with
  | nil => cases h2 with
    | nil => exact ⟨rfl, rfl⟩
    | cons _ _ => rcases e1 with e | e <;> cases e
  | cons _ _ ih => cases h2 with
    | nil => rcases e2 with e | e <;> cases e
    | cons _ h2' =>
      obtain ⟨r1, r2⟩ := ih h2' e1
      exact ⟨by rw [r1], r2⟩

theorem chain_suffix {next : Node → Ptr} {h stop : Ptr} {l : List Node} (hc : ChainIs next h l stop) {n : Node} (hn : n ∈ l) :
    ∃ l1 l2, l = l1 ++ n :: l2 ∧ ChainIs next (Seen.node n.1 n.2) (n :: l2) stop := by
  induction hc with
  | nil => cases hn
  | @cons a k l stop hne hc' ih =>
    rcases List.mem_cons.1 hn with e | e
    · subst e; exact ⟨[], l, rfl, ChainIs.cons hne hc'⟩
    · obtain ⟨l1, l2, e1, e2⟩ := ih e
      exact ⟨(a, k) :: l1, l2, by rw [e1]; rfl, e2⟩

theorem chain_nodup {next : Node → Ptr} {h stop : Ptr} {l : List Node} (hc : ChainIs next h l stop) : l.Nodup := by
  induction hc with
  | nil => exact List.nodup_nil
  | @cons a k l stop hne hc' ih =>
    rw [List.nodup_cons]
    refine ⟨?_, ih⟩
    intro hm
    obtain ⟨l1, l2, e1, e2⟩ := chain_suffix hc' hm
    have := chain_unique (ChainIs.cons hne hc') e2
    have hl := congrArg List.length this
    rw [e1] at hl
    simp at hl
    omega

theorem chain_stop_not_mem {next : Node → Ptr} {h stop : Ptr} {l : List Node} (hc : ChainIs next h l stop) (n : Node)
    (hs : Seen.node n.1 n.2 = stop) : n ∉ l := by
  induction hc with
  | nil => simp
  | @cons a k l stop hne _ ih =>
    intro hm
    rcases List.mem_cons.1 hm with e | e
    · subst e; exact hne hs
    · exact ih hs e

theorem chain_append {next : Node → Ptr} {h mid stop : Ptr} {l1 l2 : List Node} (h1 : ChainIs next h l1 mid)
    (h2 : ChainIs next mid l2 stop) (hne : ∀ n ∈ l1, Seen.node n.1 n.2 ≠ stop) : ChainIs next h (l1 ++ l2) stop := by
  induction h1 with
  | nil => exact h2
  | cons _ _ ih =>
    refine ChainIs.cons (hne _ (List.mem_cons_self ..)) (ih h2 (fun n hn => hne n (List.mem_cons_of_mem _ hn)))

/-! ## the loop of `build_queue` -/

/-- the accesses of the loop: each node's `_next` is read, then written -/
def walkAcc (a : Nat) (l : List Node) : List Access :=
  l.flatMap (fun n => [⟨a, Seen.node n.1 n.2, Field.next, false⟩, ⟨a, Seen.node n.1 n.2, Field.next, true⟩])

def walkBody (s : State) (a : Nat) (n : Node) : State :=
  { touch (touch s a (Seen.node n.1 n.2) Field.next false) a (Seen.node n.1 n.2) Field.next true with
      next := updN s.next (n.1, n.2) s.queue, queue := Seen.node n.1 n.2 }

theorem walk_node (a : Nat) (stop : Ptr) (fuel : Nat) (s : State) (n : Node) (hne : Seen.node n.1 n.2 ≠ stop) :
    walk a stop (fuel + 1) s (Seen.node n.1 n.2) = walk a stop fuel (walkBody s a n) (s.next n) := by
  conv => lhs; unfold walk
  rw [if_neg (by simp [hne])]
  rfl

theorem walk_stop (a : Nat) (stop : Ptr) (fuel : Nat) (s : State) : walk a stop fuel s stop = s := by
  cases fuel with
  | zero => rfl
  | succ f => unfold walk; rw [if_pos (Or.inr rfl)]

/-- one iteration of the loop on a live node, as one record update -/
theorem walkBody_eq (s : State) (a : Nat) (n : Node) (h : s.live n = true) : walkBody s a n =
    { s with next := updN s.next n s.queue, queue := Seen.node n.1 n.2, acc := s.acc ++ walkAcc a [n] } := by
  simp [walkBody, touch, isLive, h, walkAcc]

/-- `build_queue`'s loop is list reversal, and that is all it does (the result is one record update of `s`); any fuel
    `≥ l.length` gives it -/
theorem walk_chain (a : Nat) (stop : Ptr) : ∀ (l : List Node) (fuel : Nat) (s : State) (req : Ptr) (q : List Node),
    ChainIs s.next req l stop → ChainIs s.next s.queue q Seen.null → (∀ n ∈ l, n ∉ q) → (∀ n ∈ l, s.live n = true) →
    l.length ≤ fuel → ∃ nx qu, walk a stop fuel s req = { s with next := nx, queue := qu, acc := s.acc ++ walkAcc a l } ∧
      ChainIs nx qu (l.reverse ++ q) Seen.null ∧ ∀ m, m ∉ l → nx m = s.next m := by
  intro l
  induction l with
  | nil =>
    intro fuel s req q hc hq _ _ _
    rw [chain_nil_iff.1 hc, walk_stop]
    exact ⟨s.next, s.queue, by simp [walkAcc], hq, fun _ _ => rfl⟩
  | cons n l ih =>
    intro fuel s req q hc hq hd hl hf
    obtain ⟨e, hne, hc'⟩ := chain_cons_iff.1 hc
    have hnd := chain_nodup hc
    rw [List.nodup_cons] at hnd
    cases fuel with
    | zero => simp at hf
    | succ fuel =>
      subst e
      rw [walk_node a stop fuel s n hne, walkBody_eq s a n (hl n (List.mem_cons_self ..))]
      obtain ⟨nx, qu, i1, i2, i3⟩ := ih fuel
        { s with next := updN s.next n s.queue, queue := Seen.node n.1 n.2, acc := s.acc ++ walkAcc a [n] } (s.next n) (n :: q)
        (chain_frame _ _ hc' hnd.1)
        (chain_push n hq (hd n (List.mem_cons_self ..)) (by intro h; cases h))
        (fun m hm hmq => (List.mem_cons.1 hmq).elim (fun e => hnd.1 (e ▸ hm)) (hd m (List.mem_cons_of_mem _ hm)))
        (fun m hm => hl m (List.mem_cons_of_mem _ hm))
        (by simp at hf; omega)
      refine ⟨nx, qu, i1.trans (by simp [walkAcc]), by simpa using i2, fun m hm => ?_⟩
      rw [i3 m (fun h => hm (List.mem_cons_of_mem _ h))]
      exact updN_ne _ _ (fun e => hm (e ▸ List.mem_cons_self ..))

/-- the pointer statement of `walk_chain` alone -/
theorem walk_reverse (a : Nat) (stop : Ptr) (l : List Node) (fuel : Nat) (s : State) (req : Ptr) (q : List Node)
    (hl : ChainIs s.next req l stop) (hq : ChainIs s.next s.queue q Seen.null) (hd : ∀ n ∈ l, n ∉ q)
    (hlive : ∀ n ∈ l, s.live n = true) (hf : l.length ≤ fuel) :
    ChainIs (walk a stop fuel s req).next (walk a stop fuel s req).queue (l.reverse ++ q) Seen.null := by
  obtain ⟨nx, qu, e, h, _⟩ := walk_chain a stop l fuel s req q hl hq hd hlive hf
  rw [e]; exact h

/-! ## stacks; what the executable readers return -/

/-- `_requests = p` represents the list-level stack `req`: `[]` = null, `[door]` = the doorman, a node is followed by
    what its `_next` represents (so the bottom node of a stack without doorman has `_next = null`) -/
def StackIs (next : Node → Ptr) : Ptr → List Elem → Prop
  | p, [] => p = Seen.null
  | p, Elem.door :: r => p = Seen.door ∧ r = []
  | p, Elem.node a k :: r => p = Seen.node a k ∧ StackIs next (next (a, k)) r

def nodesN : List Elem → List Node
  | [] => []
  | Elem.door :: _ => []
  | Elem.node a k :: r => (a, k) :: nodesN r

@[simp] theorem nodesN_nil : nodesN [] = [] := rfl
@[simp] theorem nodesN_door (r) : nodesN (Elem.door :: r) = [] := rfl
@[simp] theorem nodesN_node (a k r) : nodesN (Elem.node a k :: r) = (a, k) :: nodesN r := rfl

theorem nodesOf_eq_map (r : List Elem) : nodesOf r = (nodesN r).map (·.1) := by
  induction r with
  | nil => rfl
  | cons e r ih => cases e <;> simp [nodesOf, ih]

theorem nodesN_nodesL (xs : List Node) (tl : List Elem) : nodesN (nodesL xs ++ tl) = xs ++ nodesN tl := by
  induction xs with
  | nil => rfl
  | cons x xs ih => simp [nodesL]; exact ih

theorem stackIs_seen {next : Node → Ptr} {p : Ptr} {r : List Elem} (h : StackIs next p r) : seenOf r = p := by
  cases r with
  | nil => exact h.symm
  | cons e r => cases e with
    | door => exact h.1.symm
    | node a k => exact h.1.symm

theorem stackIs_nil_iff {next : Node → Ptr} {p : Ptr} {r : List Elem} (h : StackIs next p r) : p = Seen.null ↔ r = [] := by
  rw [← stackIs_seen h]; exact Mutex.seenOf_eq_null

theorem stackIs_door_iff {next : Node → Ptr} {p : Ptr} {r : List Elem} (h : StackIs next p r) :
    p = Seen.door ↔ r = [Elem.door] := by
  cases r with
  | nil => have : p = Seen.null := h; simp [this]
  | cons e r => cases e with
    | door => simp [h.1, h.2]
    | node a k => simp [h.1]

theorem stackIs_frame' {next next' : Node → Ptr} {p : Ptr} {r : List Elem} (h : StackIs next p r)
    (hf : ∀ m ∈ nodesN r, next' m = next m) : StackIs next' p r := by
  induction r generalizing p with
  | nil => exact h
  | cons e r ih => cases e with
    | door => exact h
    | node a k =>
      refine ⟨h.1, ?_⟩
      rw [hf (a, k) (by simp)]
      exact ih h.2 (fun m hm => hf m (by simp [hm]))

theorem stackIs_frame {next : Node → Ptr} {p : Ptr} {r : List Elem} (n : Node) (v : Ptr) (h : StackIs next p r)
    (hn : n ∉ nodesN r) : StackIs (updN next n v) p r :=
  stackIs_frame' h (fun _ hm => updN_ne _ _ (fun e => hn (e ▸ hm)))

/-- the upper part of a stack is a chain to what the lower part starts with (for the two shapes the invariant knows:
    `tl = [door]`, and `tl = [node o k]` for the acquirer `o` that found the mutex free) -/
theorem stackIs_split {next : Node → Ptr} {p : Ptr} {tl : List Elem} (xs : List Node)
    (hne : ∀ x ∈ xs, Seen.node x.1 x.2 ≠ seenOf tl) :
    StackIs next p (nodesL xs ++ tl) ↔ ChainIs next p xs (seenOf tl) ∧ StackIs next (seenOf tl) tl := by
  induction xs generalizing p with
  | nil =>
    rw [chain_nil_iff]
    exact ⟨fun h => ⟨(stackIs_seen h).symm, stackIs_seen h ▸ h⟩, fun ⟨e, h⟩ => e ▸ h⟩
  | cons x xs ih =>
    have ih' := @ih (next x) (fun y hy => hne y (List.mem_cons_of_mem _ hy))
    rw [chain_cons_iff]
    constructor
    · rintro ⟨e, h⟩
      exact ⟨⟨e, e ▸ hne x (List.mem_cons_self ..), (ih'.1 h).1⟩, (ih'.1 h).2⟩
    · rintro ⟨⟨e, _, hc⟩, h⟩
      exact ⟨e, ih'.2 ⟨hc, h⟩⟩

/-- a stack is a chain of nodes down to null or the doorman; the list is read off the chain and its end -/
theorem stackIs_chain {next : Node → Ptr} : ∀ (r : List Elem) (p : Ptr), StackIs next p r →
    ∃ bottom, (bottom = Seen.null ∨ bottom = Seen.door) ∧ ChainIs next p (nodesN r) bottom ∧
      r = nodesL (nodesN r) ++ if bottom = Seen.door then [Elem.door] else [] := by
  intro r
  induction r with
  | nil => intro p h; exact ⟨Seen.null, Or.inl rfl, by rw [show p = Seen.null from h]; exact ChainIs.nil _, rfl⟩
  | cons e r ih =>
    intro p h
    cases e with
    | door => exact ⟨Seen.door, Or.inr rfl, by rw [h.1]; exact ChainIs.nil _, by rw [h.2]; rfl⟩
    | node x k =>
      obtain ⟨b, hb, hc, e⟩ := ih _ h.2
      refine ⟨b, hb, ?_, congrArg (Elem.node x k :: ·) e⟩
      rw [h.1]
      exact ChainIs.cons (by rcases hb with e | e <;> rw [e] <;> intro h' <;> cases h') hc

theorem follow_chain {next : Node → Ptr} {p stop : Ptr} {l : List Node} (h : ChainIs next p l stop)
    (hs : ∀ a k, stop ≠ Seen.node a k) : ∀ fuel, l.length ≤ fuel → follow next fuel p = (l, stop) := by
  induction h with
  | nil stop =>
    intro fuel _
    cases fuel with
    | zero => rfl
    | succ f => cases stop <;> first | rfl | exact absurd rfl (hs _ _)
  | cons _ _ ih =>
    intro fuel hf
    cases fuel with
    | zero => simp at hf
    | succ f => simp only [follow]; rw [ih hs f (by simp at hf; omega)]

theorem followTo_chain {next : Node → Ptr} {p stop : Ptr} {l : List Node} (h : ChainIs next p l stop) :
    ∀ fuel, l.length ≤ fuel → followTo next stop fuel p = l := by
  induction h with
  | nil => intro fuel _; cases fuel <;> simp [followTo]
  | cons hne _ ih =>
    intro fuel hf
    cases fuel with
    | zero => simp at hf
    | succ f => simp only [followTo, if_neg hne]; rw [ih f (by simp at hf; omega)]

/-! ## the representation relation -/

/-- the loop a `build_queue` still has to run (between its exchange and the caller's next segment) moves exactly `det` -/
def PendIs (ps : State) (det : List Node) : Prop :=
  (∀ o h st, ps.pend o = some (h, st) → ChainIs ps.next h det st) ∧ ((∀ o, ps.pend o = none) → det = [])

theorem pendIs_unique {ps : State} {d1 d2 : List Node} (h1 : PendIs ps d1) (h2 : PendIs ps d2) : d1 = d2 := by
  by_cases hn : ∀ o, ps.pend o = none
  · rw [h1.2 hn, h2.2 hn]
  · obtain ⟨o, ho⟩ := Classical.not_forall.1 hn
    cases hp : ps.pend o with
    | none => exact absurd hp ho
    | some x => exact chain_unique (h1.1 o x.1 x.2 hp) (h2.1 o x.1 x.2 hp)

structure ReprL (c : Cfg) (ps : State) (req : List Elem) (q : List Nat) : Prop where
  stack : StackIs ps.next ps.requests req
  /-- the detached chain `det` of a pending loop (reversed) followed by the chain `q0` of `_queue` is the list-level queue;
      all these nodes are alive and carry the key of their owner's current request -/
  que : ∃ det q0, PendIs ps det ∧ ChainIs ps.next ps.queue q0 Seen.null ∧ q = (det.reverse ++ q0).map (·.1) ∧
          (∀ n ∈ det ++ q0, ps.live n = true ∧ n.2 = keyOf c ps n.1)
  /-- so are the nodes of the stack -/
  stk : ∀ n ∈ nodesN req, ps.live n = true ∧ n.2 = keyOf c ps n.1
  /-- a loop is pending only for the owner right after its exchange; `_queue` is null then (the assertion of `build_queue`) -/
  pendOwn : ∀ o h st, ps.pend o = some (h, st) → ps.queue = Seen.null ∧
      ((ps.pc o = Pc.crit ∧ st = Seen.node o (keyOf c ps o)) ∨ (ps.pc o = Pc.relHand ∧ st = Seen.door))
  /-- no access so far touched a node that was not alive, dereferenced null or the doorman -/
  noViol : ps.viol = false
  /-- no assertion of `unlock` or `build_queue` failed so far (those of the destructor are not modelled) -/
  noAsrt : ps.asrt = false
  /-- the doorman's `_next` was never written -/
  doorN : ps.doorNext = Seen.null

def Repr (c : Cfg) (ps : State) (ls : Mutex.State) : Prop :=
  ls = absWith ps ls.req ls.queue ∧ ReprL c ps ls.req ls.queue

variable {c : Cfg} {ps : State} {req : List Elem} {q : List Nat} {t a : Nat}

theorem Repr.pc {ls : Mutex.State} (hR : Repr c ps ls) : ps.pc = ls.pc := by rw [hR.1]; rfl
theorem Repr.stamp {ls : Mutex.State} (hR : Repr c ps ls) : ps.stamp = ls.stamp := by rw [hR.1]; rfl
theorem Repr.keyOf {ls : Mutex.State} (hR : Repr c ps ls) (a : Nat) : keyOf c ps a = Mutex.keyOf c ls a := by rw [hR.1]; rfl

/-- the lists determined by the pointer fields: `det` — what a pending `build_queue` loop still has to move, `q0` — the
    chain of `_queue`, `stk` — the chain of `_requests` down to `bottom` (null or the doorman) -/
structure Links (ps : State) (det q0 stk : List Node) (bottom : Ptr) : Prop where
  pend : PendIs ps det
  que : ChainIs ps.next ps.queue q0 Seen.null
  stack : ChainIs ps.next ps.requests stk bottom
  bot : bottom = Seen.null ∨ bottom = Seen.door

theorem links_unique {d1 q1 s1 d2 q2 s2 : List Node} {b1 b2 : Ptr} (h1 : Links ps d1 q1 s1 b1) (h2 : Links ps d2 q2 s2 b2) :
    d1 = d2 ∧ q1 = q2 ∧ s1 = s2 ∧ b1 = b2 := by
  obtain ⟨e3, e4⟩ := chain_unique_end h1.stack h2.stack h1.bot h2.bot
  exact ⟨pendIs_unique h1.pend h2.pend, chain_unique h1.que h2.que, e3, e4⟩

theorem links_of_repr {ls : Mutex.State} (hR : Repr c ps ls) :
    ∃ det q0 bottom, Links ps det q0 (nodesN ls.req) bottom ∧ ls.queue = (det.reverse ++ q0).map (·.1) ∧
      ∀ n ∈ det ++ q0 ++ nodesN ls.req, ps.live n = true ∧ n.2 = keyOf c ps n.1 := by
  obtain ⟨_, hL⟩ := hR
  obtain ⟨det, q0, hP, hQ, hq, hlv⟩ := hL.que
  obtain ⟨b, hb, hc, _⟩ := stackIs_chain _ _ hL.stack
  refine ⟨det, q0, b, ⟨hP, hQ, hc, hb⟩, hq, ?_⟩
  intro n hn
  rcases List.mem_append.1 hn with h | h
  · exact hlv n h
  · exact hL.stk n h

/-- whatever lists the pointers denote: which list-level lists they are; their nodes are alive and carry the current keys -/
theorem repr_links {ls : Mutex.State} (hR : Repr c ps ls) {det q0 stk : List Node} {bottom : Ptr}
    (hk : Links ps det q0 stk bottom) :
    stk = nodesN ls.req ∧ ls.queue = (det.reverse ++ q0).map (·.1) ∧
      ∀ n ∈ det ++ q0 ++ stk, ps.live n = true ∧ n.2 = keyOf c ps n.1 := by
  obtain ⟨_, _, _, hk', hq, hlv⟩ := links_of_repr hR
  obtain ⟨rfl, rfl, rfl, -⟩ := links_unique hk hk'
  exact ⟨rfl, hq, hlv⟩

theorem links_arrival_order {ls : Mutex.State} (hR : Repr c ps ls) (hI : Inv c ls) {det q0 stk : List Node} {bottom : Ptr}
    (hk : Links ps det q0 stk bottom) :
    ((det.reverse ++ q0 ++ stk.reverse).map (·.1)).Pairwise (fun x y => ps.stamp x < ps.stamp y) ∧
    (det ++ q0 ++ stk).Nodup ∧ (∀ n ∈ det ++ q0 ++ stk, ps.live n = true) ∧
    ls.queue = (det.reverse ++ q0).map (·.1) ∧ nodesOf ls.req = stk.map (·.1) := by
  obtain ⟨rfl, hq, hlv⟩ := repr_links hR hk
  have hS := hI.stampQ
  have hnd := hI.nodup
  rw [hq, nodesOf_eq_map] at hS hnd
  refine ⟨?_, ?_, fun n hn => (hlv n hn).1, hq, nodesOf_eq_map _⟩
  · rw [hR.stamp]
    simpa [List.map_append, List.map_reverse] using hS
  · have : ((det ++ q0 ++ nodesN ls.req).map (·.1)).Nodup := by
      have h2 : (List.map (fun x : Node => x.1) (det.reverse ++ q0) ++ List.map (fun x : Node => x.1) (nodesN ls.req)).Perm
          ((det ++ q0 ++ nodesN ls.req).map (·.1)) := by
        simp only [List.map_append, List.map_reverse]
        exact List.Perm.append_right _ (List.Perm.append_right _ (List.reverse_perm _))
      exact h2.nodup_iff.1 hnd
    exact List.Pairwise.of_map (fun x : Node => x.1) (fun a b h e => h (by rw [e])) this

/-- exactly the listed agents own a linked node, and exactly one -/
theorem links_listed {ls : Mutex.State} (hR : Repr c ps ls) (hI : Inv c ls) {det q0 stk : List Node} {bottom : Ptr}
    (hk : Links ps det q0 stk bottom) (a : Nat) :
    ((det ++ q0 ++ stk).map (·.1)).count a = (if Listed ls a then 1 else 0) ∧
    (Mutex.Waiting ls a → ∃ n ∈ det ++ q0 ++ stk, n.1 = a) := by
  obtain ⟨rfl, hq, _⟩ := repr_links hR hk
  have hc := hI.cnt a
  rw [hq, nodesOf_eq_map] at hc
  have hcount : ((det ++ q0 ++ nodesN ls.req).map (·.1)).count a = (if Listed ls a then 1 else 0) := by
    rw [← hc]
    simp only [List.map_append, List.count_append, List.map_reverse, List.count_reverse]
  refine ⟨hcount, fun hw => ?_⟩
  rw [if_pos (show Listed ls a from Or.inl hw)] at hcount
  have : a ∈ (det ++ q0 ++ nodesN ls.req).map (·.1) := List.count_pos_iff.1 (by omega)
  obtain ⟨n, hn, e⟩ := List.mem_map.1 this
  exact ⟨n, hn, e⟩

/-! ## what is used of the list level -/

/-- queue nodes and stack nodes differ: their owners are different agents -/
theorem disj_of_nodup (hnd : (q ++ nodesOf req).Nodup) {n : Node} (h1 : n.1 ∈ q)
    (h2 : n ∈ nodesN req) : False :=
  (List.nodup_append.1 hnd).2.2 _ h1 _ (by rw [nodesOf_eq_map]; exact List.mem_map_of_mem h2) rfl

theorem filter_ne_of_not_mem (l : List Nat) (a : Nat) (h : a ∉ l) :
    (l ++ [a]).filter (fun x => decide (x ≠ a)) = l := by
  rw [List.filter_append]
  have : l.filter (fun x => decide (x ≠ a)) = l := List.filter_eq_self.2 (fun x hx => by
    simp only [decide_eq_true_eq]; rintro rfl; exact h hx)
  rw [this]; simp

theorem filterMap_range_single {α} (f : Nat → Option α) (o : Nat) (v : α) (ho : f o = some v)
    (hu : ∀ o', o' ≠ o → f o' = none) : ∀ n, (List.range n).filterMap f = if o < n then [v] else [] := by
  intro n
  induction n with
  | zero => simp
  | succ n ih =>
    rw [List.range_succ, List.filterMap_append, ih]
    by_cases h1 : o < n
    · have : f n = none := hu n (by omega)
      simp [h1, this, show o < n + 1 by omega]
    · by_cases h2 : o = n
      · subst h2; simp [ho]
      · have : f n = none := hu n (fun e => h2 e.symm)
        simp [h1, this, show ¬ o < n + 1 by omega]

/-- agents outside the configuration never run (`Mutex.done_arun`, `Mutex.reachable_done`) -/
def PcDone (c : Cfg) (s : Mutex.State) : Prop := ∀ x, c.n ≤ x → s.pc x = Pc.done

/-! ## the node accesses of a step -/

/-- the three accesses of the hand-over on the head node: read `_next`, clear `_next`, read the node to resume it -/
def popAcc (a b k : Nat) : List Access :=
  [⟨a, Seen.node b k, Field.next, false⟩, ⟨a, Seen.node b k, Field.next, true⟩, ⟨a, Seen.node b k, Field.body, false⟩]

/-- the accesses of the hand-over, by the value of `_queue` -/
def headAcc (a : Nat) : Ptr → List Access
  | Seen.node b k => popAcc a b k
  | _ => []

/-- the accesses of one iteration of `subscribe`: the set-up write of a new awaiter, then `_next` -/
def subAcc (c : Cfg) (s : State) (a : Nat) : List Access :=
  (if s.live (a, keyOf c s a) then [] else [⟨a, Seen.node a (keyOf c s a), Field.body, true⟩]) ++
    [⟨a, Seen.node a (keyOf c s a), Field.next, true⟩]

theorem create_eq (s : State) (a : Nat) (n : Node) : create s a n =
    { s with live := updN s.live n true,
             acc := s.acc ++ if s.live n then [] else [⟨a, Seen.node n.1 n.2, Field.body, true⟩] } := by
  unfold create
  split
  · rename_i h
    have e : updN s.live n true = s.live := funext fun m => by
      rw [updN_apply]; split
      · rename_i hm; rw [hm, h]
      · rfl
    rw [e, List.append_nil]
  · simp [touch, isLive]

theorem create_next (s : State) (a : Nat) (n : Node) : (create s a n).next = s.next := by unfold create; split <;> rfl
theorem create_live_other (s : State) (a : Nat) (n m : Node) (h : m ≠ n) : (create s a n).live m = s.live m := by
  unfold create; split
  · rfl
  · exact updN_ne _ _ h
theorem keyOf_create (c : Cfg) (s : State) (a : Nat) (n : Node) (o : Nat) : keyOf c (create s a n) o = keyOf c s o :=
  keyOf_round (by rw [create_eq])

theorem subWrite_eq (c : Cfg) (s : State) (a : Nat) (p : Seen) : subWrite c s a p =
    { s with live := updN s.live (a, keyOf c s a) true, next := updN s.next (a, keyOf c s a) p,
             acc := s.acc ++ subAcc c s a } := by
  unfold subWrite
  rw [create_eq]
  simp [touch, isLive, subAcc]

/-- the node accesses of an activity of `a` after its pending loop (inside `unlock` the ownership object is armed: `Inv`) -/
def coreAcc (c : Cfg) (s : State) (a : Nat) : List Access :=
  match s.pc a with
  | Pc.sub _ => subAcc c s a
  | Pc.afterCs => if relOf c s a = some Rel.g then [] else headAcc a s.queue
  | Pc.asg => headAcc a s.queue
  | Pc.relHand => headAcc a s.queue
  | _ => []

/-- same events and outcome, related states, and the step of the pointer machine (from `ps`) makes the accesses `ex` -/
def SimStep (c : Cfg) (ps : State) (ex : List Access) (pr : State × List Ev × Outcome)
    (lr : Mutex.State × List Ev × Outcome) : Prop :=
  pr.2 = lr.2 ∧ Repr c pr.1 lr.1 ∧ pr.1.acc = ps.acc ++ ex

theorem SimStep.quiet {pr : State × List Ev × Outcome} {lr : Mutex.State × List Ev × Outcome} (h1 : pr.2 = lr.2)
    (h2 : lr.1 = absWith pr.1 lr.1.req lr.1.queue) (h3 : pr.1.acc = ps.acc) (h4 : ReprL c pr.1 lr.1.req lr.1.queue) :
    SimStep c ps [] pr lr :=
  ⟨h1, ⟨h2, h4⟩, h3.trans (List.append_nil _).symm⟩

theorem SimStep.since {ps₀ : State} {ex ex' : List Access} {pr : State × List Ev × Outcome}
    {lr : Mutex.State × List Ev × Outcome} (h : SimStep c ps ex' pr lr) (h0 : ps.acc ++ ex' = ps₀.acc ++ ex) :
    SimStep c ps₀ ex pr lr :=
  ⟨h.1, h.2.1, h.2.2.trans h0⟩

/-! ## frames -/

theorem pend_owner {ls : Mutex.State} (hR : Repr c ps ls) {o : Nat} (ho : ps.pend o ≠ none) : Owner ls o := by
  obtain ⟨e, hL⟩ := hR
  cases hp : ps.pend o with
  | none => exact absurd hp ho
  | some x =>
    rw [e]
    rcases (hL.pendOwn o x.1 x.2 hp).2 with ⟨e, _⟩ | ⟨e, _⟩ <;> exact .of_pc e

/-- only the owner has a pending loop (`pend_owner`), and there is one owner -/
theorem pend_only {ls : Mutex.State} (hR : Repr c ps ls) (hI : Inv c ls) (ha : Owner ls a) (o : Nat) (ho : o ≠ a) :
    ps.pend o = none :=
  Classical.byContradiction fun h => ho (hI.excl o a (pend_owner hR h) ha)

theorem repr_no_pend {ls : Mutex.State} (hR : Repr c ps ls) (hI : Inv c ls) (ha : Owner ls a) (hpa : ps.pend a = none) :
    ∀ o, ps.pend o = none := fun o =>
  if h : o = a then h ▸ hpa else pend_only hR hI ha o h

/-- without a pending loop, `_queue` alone represents the queue -/
theorem reprL_of_no_pend {q0 : List Node} (hn : ∀ o, ps.pend o = none) (hstack : StackIs ps.next ps.requests req)
    (hQ : ChainIs ps.next ps.queue q0 Seen.null) (hlv : ∀ n ∈ q0 ++ nodesN req, ps.live n = true ∧ n.2 = keyOf c ps n.1)
    (hv : ps.viol = false) (ha : ps.asrt = false) (hd : ps.doorNext = Seen.null) : ReprL c ps req (q0.map (·.1)) :=
  have hnp : ∀ {α : Prop} o h st, ps.pend o = some (h, st) → α := fun o _ _ ho => by rw [hn o] at ho; cases ho
  ⟨hstack, ⟨[], q0, ⟨fun o h st => hnp o h st, fun _ => rfl⟩, hQ, rfl, fun n hm => hlv n (List.mem_append_left _ hm)⟩,
    fun n hm => hlv n (List.mem_append_right _ hm), fun o h st => hnp o h st, hv, ha, hd⟩

/-- … and conversely -/
theorem que_of_no_pend (hR : ReprL c ps req q) (hn : ∀ o, ps.pend o = none) :
    ∃ q0, ChainIs ps.next ps.queue q0 Seen.null ∧ q = q0.map (·.1) ∧ ∀ n ∈ q0, ps.live n = true ∧ n.2 = keyOf c ps n.1 := by
  obtain ⟨det, q0, hP, hQ, hq, hL⟩ := hR.que
  have := hP.2 hn
  subst this
  exact ⟨q0, hQ, by simpa using hq, fun n hn => hL n (by simpa using hn)⟩

theorem queue_cases (hR : ReprL c ps req q) (hn : ∀ o, ps.pend o = none) :
    (ps.queue = Seen.null ∧ q = []) ∨ ∃ b k rest, ps.queue = Seen.node b k ∧ q = b :: rest := by
  obtain ⟨q0, hQ, hq, _⟩ := que_of_no_pend hR hn
  rcases chain_cases hQ with ⟨e1, e2⟩ | ⟨b, k, l', e1, e2, _⟩
  · exact Or.inl ⟨e1, by rw [hq, e2]; rfl⟩
  · exact Or.inr ⟨b, k, l'.map (·.1), e1, by rw [hq, e2]; rfl⟩

theorem pc_of_pend (hpa : ps.pend a = none) (p : Pc) (o : Nat) (ho : ps.pend o ≠ none) : upd ps.pc a p o = ps.pc o :=
  Mutex.upd_other _ _ _ _ (fun e => ho (e ▸ hpa))

/-- frame: the stack may change (`req'`); the queue part is kept when its `_next` links, its nodes' `live` flags and
    keys and the pcs of the agents with a pending loop are -/
theorem reprL_frame {ps' : State} {req' : List Elem} (hR : ReprL c ps req q)
    (hstack : StackIs ps'.next ps'.requests req')
    (hstk : ∀ n ∈ nodesN req', ps'.live n = true ∧ n.2 = keyOf c ps' n.1)
    (hnext : ∀ n : Node, n.1 ∈ q → ps'.next n = ps.next n)
    (h3 : ps'.queue = ps.queue) (h4 : ps'.pend = ps.pend)
    (h5 : ps'.viol = ps.viol) (h6 : ps'.asrt = ps.asrt) (h7 : ps'.doorNext = ps.doorNext)
    (hlive : ∀ n : Node, ps.live n = true → n.1 ∈ q → ps'.live n = true)
    (hpc : ∀ o, ps.pend o ≠ none → ps'.pc o = ps.pc o)
    (hkey : ∀ o, (ps.pend o ≠ none ∨ o ∈ q) → keyOf c ps' o = keyOf c ps o) : ReprL c ps' req' q := by
  obtain ⟨det, q0, hP, hQ, hq, hL⟩ := hR.que
  have hmem : ∀ n ∈ det ++ q0, n.1 ∈ q := by
    intro n hn
    rw [hq]; apply List.mem_map_of_mem
    simp only [List.mem_append, List.mem_reverse] at hn ⊢; exact hn
  refine ⟨hstack, ⟨det, q0, ?_, ?_, hq, ?_⟩, hstk, ?_, by rw [h5]; exact hR.noViol,
    by rw [h6]; exact hR.noAsrt, by rw [h7]; exact hR.doorN⟩
  · refine ⟨?_, fun hn => hP.2 (by rw [← h4]; exact hn)⟩
    intro o h st ho
    rw [h4] at ho
    exact chain_frame' (hP.1 o h st ho) (fun m hm => hnext m (hmem m (by simp [hm])))
  · rw [h3]
    exact chain_frame' hQ (fun m hm => hnext m (hmem m (by simp [hm])))
  · intro n hn
    exact ⟨hlive n (hL n hn).1 (hmem n hn), by rw [hkey _ (Or.inr (hmem n hn))]; exact (hL n hn).2⟩
  · intro o h st ho
    rw [h4] at ho
    have hne : ps.pend o ≠ none := by rw [ho]; simp
    rw [h3, hpc o hne, hkey o (Or.inl hne)]
    exact hR.pendOwn o h st ho

/-- the fields of a pointer state, besides `live`, `round` and `pc`, that the representation reads -/
def links (s : State) := (s.requests, s.next, s.queue, s.pend, s.viol, s.asrt, s.doorNext)

/-- a step that writes no link, retires no node and advances no round preserves the representation -/
theorem reprL_same {ps' : State} (hR : ReprL c ps req q) (hl : links ps' = links ps) (hlive : ps'.live = ps.live)
    (hround : ps'.round = ps.round) (hpc : ∀ o, ps.pend o ≠ none → ps'.pc o = ps.pc o) : ReprL c ps' req q := by
  simp only [links, Prod.mk.injEq] at hl
  obtain ⟨h1, h2, h3, h4, h5, h6, h7⟩ := hl
  exact reprL_frame hR (by rw [h1, h2]; exact hR.stack)
    (fun n hn => by rw [hlive, keyOf_congr hround]; exact hR.stk n hn) (fun _ _ => by rw [h2]) h3 h4 h5 h6 h7
    (fun n h _ => by rw [hlive]; exact h) hpc (fun o _ => keyOf_congr hround o)

/-- a step of `a` (nothing pending) that writes no link may retire nodes of `a` and advance its round when `a` has no
    linked node -/
theorem reprL_unlinked {ps' : State} (a : Nat) (hR : ReprL c ps req q) (hpa : ps.pend a = none)
    (hnm : a ∉ q ∧ a ∉ nodesOf req) (hl : links ps' = links ps)
    (hlive : ∀ n : Node, n.1 ≠ a → ps'.live n = ps.live n) (hround : ∀ o, o ≠ a → ps'.round o = ps.round o)
    (hpc : ∀ o, o ≠ a → ps'.pc o = ps.pc o) : ReprL c ps' req q := by
  simp only [links, Prod.mk.injEq] at hl
  obtain ⟨h1, h2, h3, h4, h5, h6, h7⟩ := hl
  have hoa : ∀ o, ps.pend o ≠ none → o ≠ a := fun o h e => h (e ▸ hpa)
  have hqa : ∀ o, o ∈ q → o ≠ a := fun o h e => hnm.1 (e ▸ h)
  refine reprL_frame hR (by rw [h1, h2]; exact hR.stack) (fun n hn => ?_) (fun _ _ => by rw [h2]) h3 h4 h5 h6 h7
    (fun n h hn => by rw [hlive n (hqa _ hn)]; exact h) (fun o ho => hpc o (hoa o ho))
    (fun o ho => keyOf_round (hround o (ho.elim (hoa o) (hqa o))))
  have hna : n.1 ≠ a := fun e => hnm.2 (by rw [nodesOf_eq_map, ← e]; exact List.mem_map_of_mem hn)
  rw [hlive n hna, keyOf_round (hround _ hna)]
  exact hR.stk n hn

/-! ## the simulation, pc by pc -/

theorem stepCore_afterCs_g (c : Cfg) (s : State) (t x : Nat) (hA : s.pc x = Pc.afterCs) (hg : relOf c s x = some Rel.g) :
    stepCore c s t x = ({ setPc { s with incs := s.incs - 1 } x Pc.asg with aux := upd s.aux x true },
                        [Ev.auxCas t x true], Outcome.op) := by
  unfold stepCore
  simp only [hA, hg]

theorem stepCore_afterCs_ng (c : Cfg) (s : State) (t x : Nat) (hA : s.pc x = Pc.afterCs) (hg : relOf c s x ≠ some Rel.g) :
    stepCore c s t x = unlockStart c { s with incs := s.incs - 1 } t x := by
  unfold stepCore
  simp only [hA]

theorem stepCore_asg (c : Cfg) (s : State) (t x : Nat) (hS : s.pc x = Pc.asg) :
    stepCore c s t x = unlockStart c s t x := by
  unfold stepCore; simp only [hS]

theorem stepCore_relHand (c : Cfg) (s : State) (t x : Nat) (hR : s.pc x = Pc.relHand) :
    stepCore c s t x = handOver c s t x := by
  unfold stepCore; simp only [hR]

/-- `ready()`: the CAS null → doorman succeeds exactly when the stack is `[]` -/
theorem sim_top (hR : ReprL c ps req q) (hpa : ps.pend a = none)
    (hpc : ps.pc a = Pc.top) : SimStep c ps [] (stepCore c ps t a) (Mutex.agentStep c (absWith ps req q) t a) := by
  unfold stepCore Mutex.agentStep
  simp only [absWith_pc, hpc, curRound_abs, absWith_req]
  cases curRound c ps a with
  | none => exact .quiet rfl rfl rfl (reprL_same hR rfl rfl rfl (pc_of_pend hpa _))
  | some r =>
    dsimp only
    cases hq : req with
    | nil =>
      rw [if_pos ((stackIs_nil_iff hR.stack).2 hq)]
      exact .quiet rfl rfl rfl (reprL_frame hR ⟨rfl, rfl⟩ (by simp) (fun _ _ => rfl) rfl rfl rfl rfl rfl (fun n h _ => h)
        (pc_of_pend hpa _) (fun o _ => keyOf_round rfl))
    | cons e r' =>
      have hn : ps.requests ≠ Seen.null := fun h => by
        have := (stackIs_nil_iff hR.stack).1 h; rw [hq] at this; cases this
      have hs : seenOf (e :: r') = ps.requests := by rw [← hq]; exact stackIs_seen hR.stack
      rw [if_neg hn, hs]
      subst hq
      exact .quiet rfl rfl rfl (reprL_same hR rfl rfl rfl (pc_of_pend hpa _))

/-- the plain part of a `subscribe` iteration writes only the requester's own, unlinked node -/
theorem reprL_subWrite (hR : ReprL c ps req q) (hnm : a ∉ q ∧ a ∉ nodesOf req) (prev : Seen) :
    ReprL c (subWrite c ps a prev) req q := by
  have hn : (a, keyOf c ps a) ∉ nodesN req := fun h => hnm.2 (by rw [nodesOf_eq_map]; exact List.mem_map_of_mem h)
  have hlive : ∀ n, ps.live n = true → updN ps.live (a, keyOf c ps a) true n = true := fun n h => by
    rw [updN_apply]; split <;> simp [h]
  rw [subWrite_eq]
  exact reprL_frame hR (stackIs_frame _ _ hR.stack hn) (fun n hn' => ⟨hlive n (hR.stk n hn').1, (hR.stk n hn').2⟩)
    (fun n hq => updN_ne _ _ (by rintro rfl; exact hnm.1 hq))
    rfl rfl rfl rfl rfl (fun n h _ => hlive n h) (fun _ _ => rfl) (fun _ _ => rfl)

/-- the publishing CAS: success pushes the node (whose `_next` holds the expected value), failure changes nothing -/
theorem sim_subCas {prev : Seen} (hR : ReprL c ps req q) (hpa : ps.pend a = none) (hpc : ps.pc a = Pc.sub prev)
    (hnx : ps.next (a, keyOf c ps a) = prev) (hlv : ps.live (a, keyOf c ps a) = true) :
    SimStep c ps [] (subCas c ps t a prev) (Mutex.agentStep c (absWith ps req q) t a) := by
  have hs : seenOf req = ps.requests := stackIs_seen hR.stack
  unfold subCas Mutex.agentStep
  simp only [absWith_pc, hpc, absWith_req, keyOf_abs, flOf_abs, hs, absWith_clock, absWith_stamp, absWith_cur]
  split
  · rename_i h
    refine .quiet rfl rfl rfl (reprL_frame hR ⟨rfl, ?_⟩ ?_ (fun _ _ => rfl) rfl rfl rfl rfl rfl (fun n h _ => h)
      (pc_of_pend hpa _) (fun o _ => keyOf_round rfl))
    · show StackIs ps.next (ps.next (a, keyOf c ps a)) req
      rw [hnx, ← h]; exact hR.stack
    · intro n hn
      rcases List.mem_cons.1 hn with e | e
      · rw [e]; exact ⟨hlv, rfl⟩
      · exact hR.stk n e
  · exact .quiet rfl rfl rfl (reprL_same hR rfl rfl rfl (pc_of_pend hpa _))

theorem sim_sub {prev : Seen} (hR : ReprL c ps req q) (hI : Inv c (absWith ps req q)) (hpa : ps.pend a = none)
    (hpc : ps.pc a = Pc.sub prev) :
    SimStep c ps (subAcc c ps a) (stepCore c ps t a) (Mutex.agentStep c (absWith ps req q) t a) := by
  have hR' := reprL_subWrite hR (hI.not_mem (x := a) (by simp [hpc])) prev
  have e : stepCore c ps t a = subCas c (subWrite c ps a prev) t a prev := by
    unfold stepCore; simp only [hpc]; rfl
  rw [e]
  rw [subWrite_eq] at hR' ⊢
  exact (sim_subCas hR' hpa hpc (updN_same ..) (updN_same ..)).since (List.append_nil _)

/-- the exchange detaches the whole stack: the chain `xs` from the old top to the stop marker (what the bottom `tl` of
    the stack starts with) becomes the pending loop's work, the list-level queue becomes `xs` reversed -/
theorem reprL_xchg {ps' : State} {xs : List Node} {tl : List Elem} (hR : ReprL c ps (nodesL xs ++ tl) [])
    (hnone : ∀ o, ps.pend o = none) (hne : ∀ x ∈ xs, Seen.node x.1 x.2 ≠ seenOf tl)
    (hl : links ps' =
      (Seen.door, ps.next, ps.queue, upd ps.pend a (some (ps.requests, seenOf tl)), ps.viol, ps.asrt, ps.doorNext))
    (hlive : ps'.live = ps.live) (hround : ps'.round = ps.round)
    (hst : (ps'.pc a = Pc.crit ∧ seenOf tl = Seen.node a (keyOf c ps a)) ∨ (ps'.pc a = Pc.relHand ∧ seenOf tl = Seen.door)) :
    ReprL c ps' [Elem.door] (xs.reverse.map (·.1)) := by
  simp only [links, Prod.mk.injEq] at hl
  obtain ⟨h1, h2, h3, h4, h5, h6, h7⟩ := hl
  have hch : ChainIs ps.next ps.requests xs (seenOf tl) := ((stackIs_split xs hne).1 hR.stack).1
  have hlv : ∀ n ∈ xs, ps.live n = true ∧ n.2 = keyOf c ps n.1 := fun n hn =>
    hR.stk n (by rw [nodesN_nodesL]; exact List.mem_append_left _ hn)
  have hqn : ps.queue = Seen.null := (queue_cases hR hnone).elim (·.1) (fun ⟨_, _, _, _, e⟩ => by cases e)
  have hkey : ∀ o, keyOf c ps' o = keyOf c ps o := keyOf_congr hround
  have hpend : ∀ o h st', ps'.pend o = some (h, st') → o = a ∧ h = ps.requests ∧ st' = seenOf tl := by
    intro o h st' ho
    rw [h4, Mutex.upd_apply] at ho
    split at ho
    · cases ho; exact ⟨‹_›, rfl, rfl⟩
    · rw [hnone o] at ho; cases ho
  refine ⟨⟨h1, rfl⟩, ⟨xs, [], ⟨?_, ?_⟩, ?_, by simp, ?_⟩, by simp, ?_, h5.trans hR.noViol, h6.trans hR.noAsrt,
    h7.trans hR.doorN⟩
  · intro o h st' ho
    obtain ⟨_, e1, e2⟩ := hpend o h st' ho
    rw [e1, e2, h2]; exact hch
  · intro hn
    have := hn a
    rw [h4, Mutex.upd_same] at this; cases this
  · rw [h3, hqn]; exact ChainIs.nil _
  · intro n hn
    rw [hlive, hkey]
    exact hlv n (by simpa using hn)
  · intro o h st' ho
    obtain ⟨e0, _, e2⟩ := hpend o h st' ho
    subst e0
    rw [h3, hkey, e2]
    exact ⟨hqn, hst⟩

/-- `build_queue(self)` of the requester that found the mutex free -/
theorem sim_build (hR : ReprL c ps req q) (hI : Inv c (absWith ps req q)) (hnone : ∀ o, ps.pend o = none)
    (hpc : ps.pc a = Pc.build) : SimStep c ps [] (stepCore c ps t a) (Mutex.agentStep c (absWith ps req q) t a) := by
  obtain ⟨_, hq⟩ := hI.bld a hpc
  obtain ⟨xs, k, hxs⟩ := (Mutex.nodeEnd_iff a _).1 (hI.bldEnd a hpc)
  simp only [absWith_req, absWith_queue] at hq hxs
  subst hq hxs
  have hstk : ∀ n ∈ xs ++ [(a, k)], ps.live n = true ∧ n.2 = keyOf c ps n.1 := fun n hn =>
    hR.stk n (by rw [nodesN_nodesL]; simpa using hn)
  have hk : k = keyOf c ps a := (hstk (a, k) (by simp)).2
  subst hk
  -- `a` has one node in the stack: the bottom one
  have hnd := hI.nodup
  simp only [absWith_req, absWith_queue, Mutex.nodesOf_nodesL, List.nil_append] at hnd
  have ha : a ∉ xs.map (·.1) := fun h => (List.nodup_append.1 hnd).2.2 a h a (by simp [nodesOf]) rfl
  have hs := stackIs_seen hR.stack
  unfold stepCore Mutex.agentStep
  simp only [absWith_pc, hpc, absWith_req, absWith_queue, hs]
  have e : ((nodesOf (nodesL xs ++ [Elem.node a (keyOf c ps a)])).filter (· ≠ a)).reverse ++ [] = xs.reverse.map (·.1) := by
    rw [Mutex.nodesOf_nodesL]
    simp only [nodesOf, List.append_nil]
    rw [filter_ne_of_not_mem _ _ ha, List.map_reverse]
  rw [e]
  exact .quiet rfl rfl rfl (reprL_xchg (a := a) hR hnone
    (fun x hx e => by injection e with e1 _; exact ha (e1 ▸ List.mem_map_of_mem hx)) rfl rfl rfl (Or.inl ⟨by simp [setPc], rfl⟩))

/-- `build_queue(doorman)` of the releasing owner whose fast path failed -/
theorem sim_relBuild (hR : ReprL c ps req q) (hI : Inv c (absWith ps req q)) (hnone : ∀ o, ps.pend o = none)
    (hpc : ps.pc a = Pc.relBuild) : SimStep c ps [] (stepCore c ps t a) (Mutex.agentStep c (absWith ps req q) t a) := by
  obtain ⟨hq, _⟩ := hI.relB a hpc
  obtain ⟨xs, hxs⟩ := (Mutex.doorEnd_iff _).1 (hI.door a (.of_pc hpc) (by simp [hpc]))
  simp only [absWith_req, absWith_queue] at hq hxs
  subst hq hxs
  have hs := stackIs_seen hR.stack
  unfold stepCore Mutex.agentStep
  simp only [absWith_pc, hpc, absWith_req, absWith_queue, hs]
  have e : (nodesOf (nodesL xs ++ [Elem.door])).reverse ++ [] = xs.reverse.map (·.1) := by
    rw [Mutex.nodesOf_nodesL]
    simp [nodesOf, List.map_reverse]
  rw [e]
  exact .quiet rfl rfl rfl (reprL_xchg (a := a) hR hnone (fun _ _ e => by cases e) rfl rfl rfl (Or.inr ⟨by simp [setPc], rfl⟩))

/-- taking the head off `_queue` (`_queue = first->_next; first->_next = nullptr`): the head of a non-empty list-level queue
    is the owner of the node `_queue` points to -/
theorem reprL_pop {b : Nat} {rest : List Nat} (hR : ReprL c ps req (b :: rest)) (hnone : ∀ o, ps.pend o = none)
    (hnd : (b :: rest ++ nodesOf req).Nodup) :
    ∃ k, ps.queue = Seen.node b k ∧ ReprL c (popHead ps a b k) req rest ∧ ps.live (b, k) = true ∧ k = keyOf c ps b := by
  obtain ⟨q0, hQ, hqq, hL⟩ := que_of_no_pend hR hnone
  have hnd0 := chain_nodup hQ
  rcases chain_cases hQ with ⟨_, e⟩ | ⟨b', k, l', e, hl, hc'⟩
  · rw [e] at hqq; cases hqq
  · subst hl
    rw [List.nodup_cons] at hnd0
    injection hqq with e1 e2
    subst e1 e2
    have hbk := hL (b, k) (by simp)
    have hbs : (b, k) ∉ nodesN req := fun h => disj_of_nodup hnd (by simp) h
    exact ⟨k, e, reprL_of_no_pend (ps := popHead ps a b k) hnone (stackIs_frame _ _ hR.stack hbs)
        (chain_frame _ _ hc' hnd0.1)
        (fun n hn => (List.mem_append.1 hn).elim (fun h => hL n (List.mem_cons_of_mem _ h)) (hR.stk n))
        ((popHead_viol _ _ _ _ hbk.1).trans hR.noViol) hR.noAsrt hR.doorN, hbk⟩

/-- the hand-over: the head `(b, k)` is taken off `_queue` (its `_next` read and cleared, the node read to resume it);
    `fn(first)` is control only -/
theorem sim_handOver {b : Nat} {rest : List Nat} (hR : ReprL c ps req (b :: rest)) (hnone : ∀ o, ps.pend o = none)
    (hnd : (b :: rest ++ nodesOf req).Nodup) :
    SimStep c ps (headAcc a ps.queue) (handOver c ps t a) (Mutex.handOver c (absWith ps req (b :: rest)) t a) ∧
    ∀ b k, ps.queue = Seen.node b k → (handOver c ps t a).1.next (b, k) = Seen.null ∧ (handOver c ps t a).1.live = ps.live := by
  obtain ⟨k, e, hR1, _, _⟩ := reprL_pop (a := a) hR hnone hnd
  have hctl : ∀ (pr : State × List Ev × Outcome) (lr : Mutex.State × List Ev × Outcome), pr.2 = lr.2 →
      lr.1 = absWith pr.1 req rest → (links pr.1, pr.1.acc, pr.1.live, pr.1.round) =
        (links (popHead ps a b k), (popHead ps a b k).acc, ps.live, ps.round) →
      SimStep c ps (headAcc a (Seen.node b k)) pr lr ∧
        ∀ b' k', Seen.node b k = Seen.node b' k' → pr.1.next (b', k') = Seen.null ∧ pr.1.live = ps.live := by
    intro pr lr h1 h2 h3
    simp only [Prod.mk.injEq] at h3
    obtain ⟨h3, h4, h5, h6⟩ := h3
    have hn : pr.1.next = updN ps.next (b, k) Seen.null := congrArg (·.2.1) h3
    refine ⟨⟨h1, ?_, h4⟩, fun _ _ h => by cases h; exact ⟨by rw [hn, updN_same], h5⟩⟩
    rw [h2]
    exact ⟨rfl, reprL_same hR1 h3 h5 h6 (fun o ho => absurd (hnone o) ho)⟩
  -- both levels decide on the flavour of `b`'s round, the kind of `a` and the release of `a`'s round
  have hf : ∀ (s : State) x, flOf c s x = Mutex.flR c x (s.round x) := fun _ _ => rfl
  have hr : ∀ (s : State) x, relOf c s x = Mutex.relR c x (s.round x) := fun _ _ => rfl
  unfold handOver grantTo Mutex.handOver
  -- the nested record updates are flattened: the `rfl`s below then compare field by field
  simp only [e, hf, hr, Mutex.flOf_eq, Mutex.relOf_eq, Mutex.setPc, setPc, popHead, absWith]
  rcases Mutex.flR c b (ps.round b) with _ | (_ | _ | _ | _)
  case some.co =>
    dsimp only
    cases c.kind a with
    | sync => exact hctl _ _ rfl rfl rfl
    | coro =>
      dsimp only
      rcases Mutex.relR c a (ps.round a) with _ | (_ | _ | _ | _ | _) <;> dsimp only
      all_goals exact hctl _ _ rfl rfl rfl
  all_goals exact hctl _ _ rfl rfl rfl

theorem unlockGo_node (c : Cfg) (s : State) (t a b k : Nat) (h : s.queue = Seen.node b k) :
    unlockGo c s t a = handOver c s t a := by
  unfold unlockGo; rw [h]

/-- the state after the entry of `unlock` (ownership object disarmed, entry assertion evaluated) -/
def unlockEntry (c : Cfg) (s : State) (a : Nat) : State :=
  { s with held := upd s.held (objOf c s a) false, asrt := s.asrt || decide (s.requests = Seen.null) }

theorem unlockStart_held (c : Cfg) (s : State) (t a : Nat) (h : s.held (objOf c s a) = true) :
    unlockStart c s t a = unlockGo c (unlockEntry c s a) t a := by
  unfold unlockStart; rw [if_neg (by simp [h])]; rfl

theorem unlockGo_null (c : Cfg) (s : State) (t a : Nat) (h : s.queue = Seen.null) :
    unlockGo c s t a =
      if s.requests = Seen.door then
        ({ setPc s a Pc.relDone with requests := Seen.null }, [Ev.cas t a true Seen.door Seen.null], Outcome.op)
      else (setPc s a Pc.relBuild, [Ev.cas t a false s.requests Seen.null], Outcome.op) := by
  unfold unlockGo; rw [h]

theorem sim_unlockStart (hR : ReprL c ps req q) (hheld : ps.held (objOf c ps a) = true) (hdoor : Mutex.doorEnd req)
    (hnone : ∀ o, ps.pend o = none) (hnd : (q ++ nodesOf req).Nodup) :
    SimStep c ps (headAcc a ps.queue) (unlockStart c ps t a) (Mutex.unlockStart c (absWith ps req q) t a) ∧
    ∀ b k, ps.queue = Seen.node b k → (unlockStart c ps t a).1.next (b, k) = Seen.null ∧ (unlockStart c ps t a).1.live = ps.live := by
  have hn : ps.requests ≠ Seen.null := fun h => Mutex.doorEnd_ne_nil hdoor ((stackIs_nil_iff hR.stack).1 h)
  have hs : seenOf req = ps.requests := stackIs_seen hR.stack
  have hpc : ∀ {ps' : State} (o : Nat), ps.pend o ≠ none → ps'.pc o = ps.pc o := fun o ho => absurd (hnone o) ho
  -- the entry assertion holds
  have hR1 : ReprL c (unlockEntry c ps a) req q :=
    reprL_same hR (by simp [links, unlockEntry, hn]) rfl rfl hpc
  rw [unlockStart_held c ps t a hheld]
  rcases queue_cases hR hnone with ⟨e, hq⟩ | ⟨b, k, rest, e, hq⟩
  · subst hq
    rw [unlockGo_null c (unlockEntry c ps a) t a e, e]
    refine ⟨?_, fun _ _ h => by cases h⟩
    show SimStep c ps [] (if ps.requests = Seen.door then _ else _) _
    split
    · rw [Mutex.unlockStart_free c (absWith ps req []) t a hheld rfl ((stackIs_door_iff hR.stack).1 ‹_›)]
      exact .quiet rfl rfl rfl (reprL_frame hR1 (show _ = Seen.null from rfl) (by simp) (fun _ _ => rfl) rfl rfl rfl rfl rfl
        (fun n h _ => h) hpc (fun o _ => keyOf_round rfl))
    · rw [Mutex.unlockStart_slow c (absWith ps req []) t a hheld rfl (fun h => ‹¬ _› ((stackIs_door_iff hR.stack).2 h)), absWith_req, hs]
      exact .quiet rfl rfl rfl (reprL_same hR1 rfl rfl rfl hpc)
  · subst hq
    rw [unlockGo_node c (unlockEntry c ps a) t a b k e, Mutex.unlockStart_cons c (absWith ps req _) t a b rest hheld rfl]
    exact (sim_handOver hR1 hnone hnd).imp_left (·.since rfl)

theorem retire_other (c : Cfg) (s : State) {a : Nat} {n : Node} (h : n.1 ≠ a) : retire c s a n = s.live n :=
  updN_ne _ _ (by rintro rfl; exact h rfl)

/-- inside `unlock`, whichever way it was entered: the fast path, or the hand-over, which leaves the head's `_next` null -/
theorem sim_unlock (hR : ReprL c ps req q) (hI : Inv c (absWith ps req q)) (hpa : ps.pend a = none)
    (hu : Mutex.unlocking c (absWith ps req q) a) :
    SimStep c ps (headAcc a ps.queue) (stepCore c ps t a) (Mutex.agentStep c (absWith ps req q) t a) ∧
    ∀ b k, ps.queue = Seen.node b k → (stepCore c ps t a).1.next (b, k) = Seen.null ∧ (stepCore c ps t a).1.live = ps.live := by
  have hnd := hI.nodup
  obtain ⟨hown, hnb⟩ := Mutex.owner_of_unlock_pc (hu.imp And.left (Or.imp_left And.left))
  have hnone := repr_no_pend ⟨rfl, hR⟩ hI hown hpa
  have hdoor := hI.door a hown hnb
  rcases hu with ⟨hpc, hg, hh⟩ | ⟨hpc, hh⟩ | hpc
  · rw [stepCore_afterCs_ng c ps t a hpc hg, (Mutex.Step.afterCs (s := absWith ps req q) hpc hg).eq]
    have := sim_unlockStart (t := t) (ps := { ps with incs := ps.incs - 1 }) (reprL_same hR rfl rfl rfl (fun _ _ => rfl)) hh hdoor
      hnone hnd
    exact ⟨this.1.since rfl, this.2⟩
  · rw [stepCore_asg c ps t a hpc, (Mutex.Step.asg (s := absWith ps req q) hpc).eq]
    exact sim_unlockStart hR hh hdoor hnone hnd
  · rw [stepCore_relHand c ps t a hpc, (Mutex.Step.relHand (s := absWith ps req q) hpc).eq]
    cases q with
    | nil => exact absurd rfl (hI.relH a hpc)
    | cons b rest => exact sim_handOver hR hnone hnd

/-- Where the step writes no link (`reprL_same`; `reprL_unlinked` where it retires the node of `a` or advances its
    round) both levels make the same move of the control part, and no node is accessed. -/
theorem stepCore_sim (hR : ReprL c ps req q) (hI : Inv c (absWith ps req q)) (hpa : ps.pend a = none) :
    SimStep c ps (coreAcc c ps a) (stepCore c ps t a) (Mutex.agentStep c (absWith ps req q) t a) := by
  have hnm := hI.not_mem (x := a)
  simp only [absWith_pc, absWith_queue, absWith_req] at hnm
  have hown : Mutex.isOwner (ps.pc a) (ps.flag a) = true → ∀ o, ps.pend o = none := fun h =>
    repr_no_pend ⟨rfl, hR⟩ hI h hpa
  unfold coreAcc
  cases hpc : ps.pc a
  case top => exact sim_top hR hpa hpc
  case sub prev => exact sim_sub hR hI hpa hpc
  case build => exact sim_build hR hI (hown (by simp [hpc, Mutex.isOwner])) hpc
  case relBuild => exact sim_relBuild hR hI (hown (by simp [hpc, Mutex.isOwner])) hpc
  case afterCs =>
    dsimp only
    by_cases hg : relOf c ps a = some Rel.g
    · rw [stepCore_afterCs_g c ps t a hpc hg, (Mutex.Step.afterCsG (s := absWith ps req q) hpc hg).eq, if_pos hg]
      exact .quiet rfl rfl rfl (reprL_same hR rfl rfl rfl (pc_of_pend hpa _))
    · rw [if_neg hg]
      exact (sim_unlock hR hI hpa (Or.inl ⟨hpc, hg, (hI.unlock_facts (Or.inl hpc)).1⟩)).1
  case asg => exact (sim_unlock hR hI hpa (Or.inr (Or.inl ⟨hpc, (hI.unlock_facts (Or.inr hpc)).1⟩))).1
  case relHand => exact (sim_unlock hR hI hpa (Or.inr (Or.inr hpc))).1
  -- at the other pcs no link is written: both steps are visible by unfolding (`setPc` too, so that `rfl` compares flat records)
  all_goals
    unfold stepCore Mutex.agentStep
    simp only [absWith_pc, hpc, flOf_abs, relOf_abs, absWith_flag, setPc, Mutex.setPc]
  case done => exact .quiet rfl rfl rfl hR
  case parked => exact .quiet rfl rfl rfl hR
  case subInit =>
    rcases flOf c ps a with _ | (_ | _ | _ | _)
    all_goals exact .quiet rfl rfl rfl (reprL_same hR rfl rfl rfl (pc_of_pend hpa _))
  case waitFlag =>
    by_cases h1 : flOf c ps a = some Flavour.cb <;> by_cases h2 : ps.flag a = true <;> simp only [h1, h2, if_true, if_false]
    all_goals exact .quiet rfl rfl rfl (reprL_same hR rfl rfl rfl (pc_of_pend hpa _))
  case blocked =>
    by_cases h1 : flOf c ps a = some Flavour.cb <;> simp only [h1, if_true, if_false]
    all_goals exact .quiet rfl rfl rfl (reprL_same hR rfl rfl rfl (pc_of_pend hpa _))
  -- the granted requester continues: its awaiter is retired
  case crit | critS =>
    exact .quiet rfl rfl rfl (reprL_unlinked a hR hpa (hnm (by simp [hpc])) rfl (fun n hn => retire_other c ps hn) (fun _ _ => rfl)
      (fun o ho => Mutex.upd_other _ _ _ _ ho))
  case tryFail =>
    exact .quiet rfl rfl rfl (reprL_unlinked a hR hpa (hnm (by simp [hpc])) rfl (fun _ _ => rfl) (fun o ho => Mutex.upd_other _ _ _ _ ho)
      (fun o ho => Mutex.upd_other _ _ _ _ ho))
  case relDone =>
    rcases relOf c ps a with _ | (_ | _ | _ | _ | _)
    all_goals exact .quiet rfl rfl rfl (reprL_unlinked a hR hpa (hnm (by simp [hpc])) rfl (fun _ _ => rfl) (fun o ho => Mutex.upd_other _ _ _ _ ho)
      (fun o ho => Mutex.upd_other _ _ _ _ ho))

/-- An activity starts with the loop of a `build_queue` of its agent, if one is pending: the state `agentStep` hands to
    `stepCore` is related to the same list-level state, has nothing pending for `a`, and its accesses so far are those of
    the loop. -/
theorem repr_flush {ls : Mutex.State} (wf a : Nat) (hR : Repr c ps ls) (hI : Inv c ls) (hwf : ls.queue.length ≤ wf) :
    ∃ fl, (∀ t, agentStep c wf ps t a = stepCore c fl t a) ∧ Repr c fl ls ∧ fl.pend a = none ∧
      ∃ l, fl.acc = walkAcc a l ∧ (∀ n ∈ l, n.1 ∈ ls.queue) ∧ (ps.pend a = none → l = []) := by
  refine ⟨flush wf { ps with acc := [] } a, fun _ => rfl, ?_⟩
  obtain ⟨e, hL⟩ := hR
  cases hp : ps.pend a with
  | none =>
    have : flush wf { ps with acc := [] } a = { ps with acc := [] } := by unfold flush; simp only [hp]
    rw [this]
    exact ⟨⟨e, reprL_same hL rfl rfl rfl (fun _ _ => rfl)⟩, hp, [], rfl, by simp, fun _ => rfl⟩
  | some x =>
    obtain ⟨h, st⟩ := x
    obtain ⟨det, q0, hP, hQ, hq, hLv⟩ := hL.que
    -- `_queue` is null, so the detached chain `det` is the whole queue
    have hqn := (hL.pendOwn a h st hp).1
    have hq0 : q0 = [] := by rw [hqn] at hQ; exact chain_self_nil hQ
    subst hq0
    rw [List.append_nil] at hq
    have hmemq : ∀ n ∈ det, n.1 ∈ ls.queue := fun n hn => by rw [hq]; exact List.mem_map_of_mem (List.mem_reverse.2 hn)
    have hlen : det.length ≤ wf := by
      have : ls.queue.length = det.length := by rw [hq]; simp
      omega
    -- only `a` has a pending loop
    have hothers := pend_only ⟨e, hL⟩ hI (pend_owner ⟨e, hL⟩ (by rw [hp]; simp))
    have hnone : ∀ o, upd ps.pend a none o = none := fun o => by
      by_cases hoa : o = a
      · rw [hoa, Mutex.upd_same]
      · rw [Mutex.upd_other _ _ _ _ hoa]; exact hothers o hoa
    -- the loop reverses `det` into `_queue`
    obtain ⟨nx, qu, hw, w1, w2⟩ := walk_chain a st det wf
      { ps with acc := [], pend := upd ps.pend a none, asrt := ps.asrt || decide (ps.queue ≠ Seen.null) } h []
      (hP.1 a h st hp) (by show ChainIs ps.next ps.queue [] Seen.null; rw [hqn]; exact ChainIs.nil _) (by simp)
      (fun n hn => (hLv n (by simp [hn])).1) hlen
    have hfl : flush wf { ps with acc := [] } a = _ := (show flush wf { ps with acc := [] } a = _ by
      unfold flush; simp only [hp]).trans hw
    rw [hfl]
    refine ⟨⟨e, ?_⟩, hnone a, det, List.nil_append _, hmemq, fun h => by cases h⟩
    rw [hq]
    refine reprL_of_no_pend hnone ?_ (by simpa using w1) (fun n hn => ?_) hL.noViol ?_ hL.doorN
    · -- the loop writes `_next` of queue nodes only, and these are not in the stack
      exact stackIs_frame' hL.stack (fun m hm => w2 m (fun hmd => disj_of_nodup hI.nodup (hmemq m hmd) hm))
    · exact (List.mem_append.1 hn).elim (fun h => hLv n (by simpa using h)) (hL.stk n)
    · show (ps.asrt || decide (ps.queue ≠ Seen.null)) = false
      rw [hL.noAsrt, hqn]; rfl

/-! ## one activity: simulation and node accesses -/

/-- **One activity**: after the pending loop (accesses `walkAcc a l`, `fl`) the step is simulated and makes the accesses
    `coreAcc c fl a`. -/
theorem agentStep_spec {ls : Mutex.State} (wf : Nat) (hR : Repr c ps ls) (hI : Inv c ls) (hwf : ls.queue.length ≤ wf)
    (t a : Nat) : ∃ fl l, Repr c fl ls ∧ fl.pend a = none ∧ fl.acc = walkAcc a l ∧ (∀ n ∈ l, n.1 ∈ ls.queue) ∧
      (ps.pend a = none → l = []) ∧ SimStep c fl (coreAcc c fl a) (agentStep c wf ps t a) (Mutex.agentStep c ls t a) := by
  obtain ⟨fl, hfl, ⟨e, hL⟩, hpa, l, h1, h2, h3⟩ := repr_flush wf a hR hI hwf
  have h := stepCore_sim (t := t) hL (by rw [← e]; exact hI) hpa
  rw [← e, ← hfl] at h
  exact ⟨fl, l, ⟨e, hL⟩, hpa, h1, h2, h3, h⟩

theorem agentStep_sim {ls : Mutex.State} (wf : Nat) (hR : Repr c ps ls) (hI : Inv c ls) (hwf : ls.queue.length ≤ wf)
    (t a : Nat) :
    (agentStep c wf ps t a).2 = (Mutex.agentStep c ls t a).2 ∧
    Repr c (agentStep c wf ps t a).1 (Mutex.agentStep c ls t a).1 := by
  obtain ⟨_, _, _, _, _, _, _, h⟩ := agentStep_spec wf hR hI hwf t a
  exact ⟨h.1, h.2.1⟩

theorem mem_headAcc {a : Nat} {p : Ptr} {x : Access} (h : x ∈ headAcc a p) :
    x.agent = a ∧ ∃ b k, p = Seen.node b k ∧ x.node = Seen.node b k := by
  cases p with
  | null => cases h
  | door => cases h
  | node b k =>
    simp only [headAcc, popAcc, List.mem_cons, List.not_mem_nil, or_false] at h
    rcases h with rfl | rfl | rfl <;> exact ⟨rfl, b, k, rfl, rfl⟩

/-- `subscribe` touches the requester's own node only; inside `unlock` the head of `_queue` is touched -/
theorem mem_coreAcc {s : State} {x : Access} (h : x ∈ coreAcc c s a) : x.agent = a ∧
    (((∃ p, s.pc a = Pc.sub p) ∧ x.node = Seen.node a (keyOf c s a)) ∨
     ((s.pc a = Pc.afterCs ∨ s.pc a = Pc.asg ∨ s.pc a = Pc.relHand) ∧ ∃ b k, s.queue = Seen.node b k ∧ x.node = Seen.node b k)) := by
  unfold coreAcc at h
  split at h
  · simp only [subAcc, List.mem_append, List.mem_singleton] at h
    rcases h with h | rfl
    · split at h
      · cases h
      · rw [List.mem_singleton] at h; subst h; exact ⟨rfl, Or.inl ⟨⟨_, ‹_›⟩, rfl⟩⟩
    · exact ⟨rfl, Or.inl ⟨⟨_, ‹_›⟩, rfl⟩⟩
  · split at h
    · cases h
    · exact ⟨(mem_headAcc h).1, Or.inr ⟨Or.inl ‹_›, (mem_headAcc h).2⟩⟩
  · exact ⟨(mem_headAcc h).1, Or.inr ⟨Or.inr (Or.inl ‹_›), (mem_headAcc h).2⟩⟩
  · exact ⟨(mem_headAcc h).1, Or.inr ⟨Or.inr (Or.inr ‹_›), (mem_headAcc h).2⟩⟩
  · cases h

theorem mem_walkAcc {a : Nat} {l : List Node} {x : Access} (h : x ∈ walkAcc a l) :
    x.agent = a ∧ ∃ n ∈ l, x.node = Seen.node n.1 n.2 := by
  unfold walkAcc at h
  rw [List.mem_flatMap] at h
  obtain ⟨n, hn, hx⟩ := h
  simp at hx
  rcases hx with rfl | rfl <;> exact ⟨rfl, n, hn, rfl⟩

/-- Every node-field access of the activity `(t, a)` is made by `a` and touches `a`'s own request node while `a` is
    inside `subscribe` (before its publishing CAS succeeded), or the node of an agent in the list-level queue while `a`
    owns the mutex (the loop of `build_queue` and the hand-over of `unlock`). -/
theorem agentStep_acc {ls : Mutex.State} (wf : Nat) (hR : Repr c ps ls) (hI : Inv c ls) (hwf : ls.queue.length ≤ wf)
    (t a : Nat) : ∀ x ∈ (agentStep c wf ps t a).1.acc, x.agent = a ∧
      (((∃ p, ls.pc a = Pc.sub p) ∧ x.node = Seen.node a (keyOf c ps a)) ∨
       (Owner ls a ∧ ∃ n : Node, x.node = Seen.node n.1 n.2 ∧ n.1 ∈ ls.queue)) := by
  intro x hx
  obtain ⟨fl, l, hR1, hpa, hacc, hlq, hl0, _, _, hs⟩ := agentStep_spec wf hR hI hwf t a
  have hkey1 := (hR1.keyOf a).trans (hR.keyOf a).symm
  rw [hs, hacc] at hx
  rcases List.mem_append.1 hx with h | h
  · obtain ⟨h1, n, hn, h2⟩ := mem_walkAcc h
    exact ⟨h1, Or.inr ⟨pend_owner hR (fun hnone => by rw [hl0 hnone] at hn; cases hn), n, h2, hlq n hn⟩⟩
  · obtain ⟨h1, ⟨hp, h2⟩ | ⟨hp, b, k, hq, h2⟩⟩ := mem_coreAcc h
    · exact ⟨h1, Or.inl ⟨hR1.pc ▸ hp, hkey1 ▸ h2⟩⟩
    · rw [hR1.pc] at hp
      have hown := (Mutex.owner_of_unlock_pc hp).1
      rcases queue_cases hR1.2 (repr_no_pend hR1 hI hown hpa) with ⟨e, _⟩ | ⟨_, _, _, e, hqr⟩
      · rw [hq] at e; cases e
      · rw [hq] at e; cases e
        exact ⟨h1, Or.inr ⟨hown, (b, k), h2, by rw [hqr]; simp⟩⟩

/-- an activity has node accesses only at these pcs -/
theorem agentStep_acc_pc {ls : Mutex.State} (wf : Nat) (hR : Repr c ps ls) (hI : Inv c ls) (hwf : ls.queue.length ≤ wf)
    (t a : Nat) (hne : (agentStep c wf ps t a).1.acc ≠ []) :
    (∃ p, ls.pc a = Pc.sub p) ∨ ls.pc a = Pc.afterCs ∨ ls.pc a = Pc.asg ∨ ls.pc a = Pc.relHand ∨ ls.pc a = Pc.crit := by
  obtain ⟨fl, l, hR1, _, hacc, _, hl0, _, _, hs⟩ := agentStep_spec wf hR hI hwf t a
  obtain ⟨x, hx⟩ := List.exists_mem_of_ne_nil _ hne
  rw [hs, hacc] at hx
  rcases List.mem_append.1 hx with h | h
  · -- an access of the loop: something was pending
    cases hp : ps.pend a with
    | none => rw [hl0 hp] at h; cases h
    | some y =>
      rw [← hR.pc]
      rcases (hR.2.pendOwn a y.1 y.2 hp).2 with ⟨h1, _⟩ | ⟨h1, _⟩
      · exact Or.inr (Or.inr (Or.inr (Or.inr h1)))
      · exact Or.inr (Or.inr (Or.inr (Or.inl h1)))
  · rw [← hR1.pc]
    exact (mem_coreAcc h).2.imp (·.1) (fun h => h.1.imp_right (Or.imp_right Or.inl))

/-- The node accesses of the next activities of two different agents are on different nodes: no plain field of a
    request node is accessed by two enabled segments, which is what makes treating a segment as atomic a reduction. -/
theorem step_no_conflict {ls : Mutex.State} (wf : Nat) (hR : Repr c ps ls) (hI : Inv c ls) (hwf : ls.queue.length ≤ wf)
    {a b : Nat} (hab : a ≠ b) (t t' : Nat) :
    ∀ x ∈ (agentStep c wf ps t a).1.acc, ∀ y ∈ (agentStep c wf ps t' b).1.acc, x.node ≠ y.node := by
  intro x hx y hy hxy
  obtain ⟨_, hxa⟩ := agentStep_acc wf hR hI hwf t a x hx
  obtain ⟨_, hyb⟩ := agentStep_acc wf hR hI hwf t' b y hy
  have hsub : ∀ (u v : Nat) (p : Seen) (n : Node), ls.pc u = Pc.sub p → Seen.node u v = Seen.node n.1 n.2 → n.1 ∈ ls.queue → False := by
    intro u v p n hp he hn
    injection he with e1 _
    exact (hI.not_mem (x := u) (by simp [hp])).1 (e1 ▸ hn)
  rcases hxa with ⟨⟨p, hp⟩, ex⟩ | ⟨hoa, n, ex, hn⟩ <;> rcases hyb with ⟨⟨p', hp'⟩, ey⟩ | ⟨hob, m, ey, hm⟩
  · rw [ex, ey] at hxy; injection hxy with e1 _; exact hab e1
  · rw [ex, ey] at hxy; exact hsub _ _ p m hp hxy hm
  · rw [ex, ey] at hxy; exact hsub _ _ p' n hp' hxy.symm hn
  · exact hab (hI.excl a b hoa hob)

/-- the accesses of the activity of `x` that hands the lock to `b`: those of a pending `build_queue` loop, then `popAcc`
    on the node `(b, k)` of `b`'s request, which is left with `_next` null and still alive (it dies when `b` continues) -/
theorem handover_step {ls : Mutex.State} (wf : Nat) (hR : Repr c ps ls) (hI : Inv c ls) (hwf : ls.queue.length ≤ wf)
    (t x b : Nat) (hg : Mutex.grantee c ls x = some b) :
    ∃ (k : Nat) (l : List Node), (agentStep c wf ps t x).1.acc = walkAcc x l ++ popAcc x b k ∧
      (agentStep c wf ps t x).1.next (b, k) = Seen.null ∧ (agentStep c wf ps t x).1.live (b, k) = true ∧
      k = keyOf c ps b ∧ (agentStep c wf ps t x).1.pc x = Pc.relDone := by
  obtain ⟨ps1, hfl, hR1, hpa, l, hacc, _⟩ := repr_flush wf x hR hI hwf
  rw [hfl]
  -- `x` is inside `unlock`, and the head of `_queue` is the node of `b`
  obtain ⟨hun, rest, hq⟩ := Mutex.grantee_some hg
  obtain ⟨k, hq1, _, hlive, hkey⟩ := reprL_pop (a := x) (hq ▸ hR1.2) (repr_no_pend hR1 hI (hI.grantee_facts hg).1 hpa)
    (hq ▸ hI.nodup)
  rw [hR1.1] at hun hI
  obtain ⟨hs, hx⟩ := sim_unlock (t := t) hR1.2 hI hpa hun
  rw [← hR1.1] at hs
  refine ⟨k, l, by rw [hs.2.2, hacc, hq1]; rfl, (hx b k hq1).1, by rw [(hx b k hq1).2]; exact hlive,
    hkey.trans ((hR1.keyOf b).trans (hR.keyOf b).symm), ?_⟩
  obtain ⟨_, _, e, _⟩ := Mutex.step_handOver c ls t x b hg
  exact (congrArg (·.pc x) hs.2.1.1).symm.trans (e ▸ Mutex.handOver_pc_self ..)

/-! ## runs; the abstraction function -/

theorem repr_init (c : Cfg) : Repr c (init c) (Mutex.init c) := by
  refine ⟨rfl, ⟨rfl, ⟨[], [], ⟨fun o h st ho => (by cases ho), fun _ => rfl⟩, ChainIs.nil _, rfl, (by simp)⟩,
    (by simp [Mutex.init]), fun o h st ho => (by cases ho), rfl, rfl, rfl⟩⟩

theorem arun_sim (wf : Nat) (hwf : c.n ≤ wf) {ls : Mutex.State} {l : List (Nat × Nat)} (hs : Mutex.Reachable c ls)
    (hR : Repr c ps ls) (hg : Mutex.Guarded c ls l) : Repr c (arun c wf ps l) (Mutex.arun c ls l) := by
  induction l generalizing ps ls with
  | nil => exact hR
  | cons p l ih =>
    have h := agentStep_sim wf hR (Mutex.reachable_inv hs) (by have := Mutex.queue_length_le hs; omega) p.1 p.2
    exact ih (Mutex.reachable_step hs p.1 hg.1) h.2 hg.2

theorem repr_run (wf : Nat) (hwf : c.n ≤ wf) (l : List (Nat × Nat)) (hg : Mutex.Guarded c (Mutex.init c) l) :
    Repr c (arun c wf (init c) l) (Mutex.arun c (Mutex.init c) l) :=
  arun_sim wf hwf (Mutex.reachable_init c) (repr_init c) hg

/-- what the step theorems need of the two runs of a permitted activity list -/
theorem run_facts (wf : Nat) (hwf : c.n ≤ wf) (l : List (Nat × Nat)) (hg : Mutex.Guarded c (Mutex.init c) l) :
    Repr c (arun c wf (init c) l) (Mutex.arun c (Mutex.init c) l) ∧ Mutex.Reachable c (Mutex.arun c (Mutex.init c) l) ∧
    Inv c (Mutex.arun c (Mutex.init c) l) ∧ (Mutex.arun c (Mutex.init c) l).queue.length ≤ wf :=
  have hs := Mutex.reachable_of_run c l hg
  ⟨repr_run wf hwf l hg, hs, Mutex.reachable_inv hs, Nat.le_trans (Mutex.queue_length_le hs) hwf⟩

theorem abs_of_repr {ls : Mutex.State} (hs : Mutex.Reachable c ls) (hR : Repr c ps ls) : abs c ps = ls := by
  obtain ⟨e, hL⟩ := hR
  have hI := Mutex.reachable_inv hs
  have hlen := Mutex.lists_length_le hI (Mutex.reachable_done hs)
  rw [List.length_append] at hlen
  have hreq : absReq (c.n + 1) ps = ls.req := by
    obtain ⟨b, hb, hc, e⟩ := stackIs_chain _ _ hL.stack
    have : (nodesN ls.req).length = (nodesOf ls.req).length := by rw [nodesOf_eq_map]; simp
    unfold absReq
    rw [follow_chain hc (by rcases hb with rfl | rfl <;> nofun) _ (by omega)]
    exact e.symm
  obtain ⟨det, q0, hP, hQ, hq, _⟩ := hL.que
  have hlq : det.length + q0.length = ls.queue.length := by rw [hq]; simp
  have hq0 : (follow ps.next (c.n + 1) ps.queue).1 = q0 := by rw [follow_chain hQ nofun _ (by omega)]
  have hdet : absDet (c.n + 1) ps c.n = det := by
    unfold absDet
    by_cases hn : ∀ o, ps.pend o = none
    · rw [List.filterMap_eq_nil_iff.2 (fun o _ => hn o), hP.2 hn]; rfl
    · obtain ⟨o, ho⟩ := Classical.not_forall.1 hn
      cases hp : ps.pend o with
      | none => exact absurd hp ho
      | some x =>
        obtain ⟨h, st⟩ := x
        have hown : Owner ls o := pend_owner ⟨e, hL⟩ ho
        have hu := pend_only ⟨e, hL⟩ hI hown
        have hon : o < c.n := by
          apply Classical.byContradiction
          intro hge
          have := Mutex.reachable_done hs o (by omega)
          simp [Owner, this, Mutex.isOwner] at hown
        rw [filterMap_range_single _ o (h, st) hp hu, if_pos hon]
        simp only [List.flatMap_cons, List.flatMap_nil, List.append_nil]
        exact followTo_chain (hP.1 o h st hp) _ (by omega)
  have hque : absQueue (c.n + 1) ps c.n = ls.queue := by
    unfold absQueue; rw [hdet, hq0, hq]
  unfold abs
  rw [hreq, hque]
  exact e.symm

/-- the nodes of the stack, of the chain a pending `build_queue` loop has to move and of `_queue` are alive -/
theorem linked_live {ls : Mutex.State} (hR : Repr c ps ls) :
    (∀ n ∈ nodesN ls.req, ps.live n = true) ∧
    ∀ det q0, PendIs ps det → ChainIs ps.next ps.queue q0 Seen.null → ∀ n ∈ det ++ q0, ps.live n = true := by
  obtain ⟨_, hL⟩ := hR
  refine ⟨fun n hn => (hL.stk n hn).1, ?_⟩
  obtain ⟨det, q0, hP, hQ, _, hL'⟩ := hL.que
  intro det' q0' hP' hQ' n hm
  have e2 : q0' = q0 := chain_unique hQ' hQ
  have e1 : det' = det := pendIs_unique hP' hP
  subst e1 e2
  exact (hL' n hm).1

/-! ## OS threads -/

theorem repr_glue {ls : Mutex.State} (hR : Repr c ps ls) (cu : Nat → Option Nat) (r : Nat → List Nat) (tm : Nat → TMain) :
    Repr c { ps with cur := cu, rq := r, tmain := tm } { ls with cur := cu, rq := r, tmain := tm } := by
  obtain ⟨e, hL⟩ := hR
  refine ⟨?_, reprL_same hL rfl rfl rfl (fun _ _ => rfl)⟩
  show ({ ls with cur := cu, rq := r, tmain := tm } : Mutex.State) =
    { absWith ps ls.req ls.queue with cur := cu, rq := r, tmain := tm }
  rw [← e]

theorem Repr.cur {ls : Mutex.State} (hR : Repr c ps ls) : ps.cur = ls.cur ∧ ps.rq = ls.rq ∧ ps.tmain = ls.tmain := by
  obtain ⟨e, _⟩ := hR
  rw [e]; exact ⟨rfl, rfl, rfl⟩

/-- one activity within a thread step; at list level it is a guarded run `l0` (`Mutex.act_cur`, `Mutex.act_sync`) -/
theorem act_sim {ls : Mutex.State} {b : Nat} {l0 : List (Nat × Nat)} (wf : Nat) (hn : c.n ≤ wf) (hI : Inv c ls)
    (hD : PcDone c ls) (hR : Repr c ps ls) (hl0 : Mutex.Guarded c ls l0)
    (he : (Mutex.agentStep c ls t b).1 = Mutex.arun c ls l0) :
    ∃ ps1 ls1 e o, agentStep c wf ps t b = (ps1, e, o) ∧ Mutex.agentStep c ls t b = (ls1, e, o) ∧ Repr c ps1 ls1 ∧
      PcDone c ls1 := by
  obtain ⟨hev, hR1⟩ := agentStep_sim wf hR hI (by have := Mutex.queue_length_le_of hI hD; omega) t b
  exact ⟨_, (Mutex.agentStep c ls t b).1, (Mutex.agentStep c ls t b).2.1, (Mutex.agentStep c ls t b).2.2, Prod.ext rfl hev, rfl, hR1,
    by rw [he]; exact Mutex.done_arun hI hl0 hD⟩

theorem threadStep_sim (hwf : c.WFT) (wf : Nat) (hn : c.n ≤ wf) : ∀ (fuel : Nat) (ls : Mutex.State) (t : Nat) (ps : State),
    Inv c ls → PcDone c ls → TInv c ls → LInv c ls → WakeOk ls t → Repr c ps ls →
    (threadStep c wf fuel ps t).2 = (Mutex.threadStep c fuel ls t).2 ∧
    Repr c (threadStep c wf fuel ps t).1 (Mutex.threadStep c fuel ls t).1 := by
  intro fuel
  induction fuel with
  | zero => intro ls t ps _ _ _ _ _ hR; exact ⟨rfl, hR⟩
  | succ fuel ih =>
    intro ls t ps hI hD hT hL hW hR
    obtain ⟨hcu, hrq, htm⟩ := hR.cur
    rw [threadStep, Mutex.threadStep, hcu, hrq, htm]
    cases hcur : ls.cur t with
    | some b =>
      dsimp only
      obtain ⟨l0, hl0, he, hI1, hT1, hL1, hnb, hnr⟩ := Mutex.act_cur hwf hI hT hL hcur
      obtain ⟨ps1, ls1, e1, o, hp, hl, hR1, hD1⟩ := act_sim wf hn hI hD hR hl0 he
      rw [hl] at hI1 hT1 hL1 hnb hnr
      rw [hp, hl]
      have hW1 := Mutex.wakeOk_of_not_blocked hnb
      obtain ⟨hcu1, hrq1, htm1⟩ := hR1.cur
      cases o <;> dsimp only
      case op | blockedT => exact ⟨rfl, hR1⟩
      case continue_ => exact (ih _ t _ hI1 hD1 hT1 hL1 hW1 hR1).imp (congrArg _) id
      case finished | suspended =>
        -- the coroutine has left this thread: `cur` is cleared if it still names it
        rw [hcu1, hrq1, htm1]
        split
        · rename_i hc1
          exact (ih { ls1 with cur := upd ls1.cur t none } t _ (Mutex.inv_core_congr (s1 := ls1) rfl hI1) hD1
            (Mutex.tinv_clear_cur hT1 t) (Mutex.linv_clear_cur hL1 hc1 (hnr (by simp))) (Mutex.wakeOk_of_not_blocked hnb)
            (repr_glue hR1 _ _ _)).imp (congrArg _) id
        · exact (ih _ t _ hI1 hD1 hT1 hL1 hW1 hR1).imp (congrArg _) id
    | none =>
      dsimp only
      cases hrql : ls.rq t with
      | cons b rest =>
        dsimp only
        exact ih _ t _ (Mutex.inv_core_congr (s1 := ls) rfl hI) hD (Mutex.tinv_pop hT hrql) (Mutex.linv_pop hL hcur hrql)
          (fun h => by simp at h) (repr_glue hR _ _ _)
      | nil =>
        dsimp only
        cases html : ls.tmain t with
        | finished => exact ⟨rfl, hR⟩
        | coroStart =>
          dsimp only
          exact ih _ t _ (Mutex.inv_core_congr (s1 := ls) rfl hI) hD (Mutex.tinv_start hT html)
            (Mutex.linv_start hL hcur html) (fun h => by simp at h) (repr_glue hR _ _ _)
        | coroFlush => exact ⟨rfl, repr_glue hR _ _ _⟩
        | syncBody =>
          dsimp only
          obtain ⟨l0, hl0, he, hI1, hT1, hL1⟩ := Mutex.act_sync hwf hI hT hL hW hcur hrql html
          obtain ⟨ps1, ls1, e1, o, hp, hl, hR1, hD1⟩ := act_sim wf hn hI hD hR hl0 he
          have hbo := Mutex.agentStep_blocked_outcome c ls t t
          rw [hl] at hI1 hT1 hL1 hbo
          rw [hp, hl]
          cases o <;> dsimp only
          case op | blockedT => exact ⟨rfl, hR1⟩
          case finished =>
            obtain ⟨h1, h2, h3⟩ := hR1.cur
            rw [h1, h2, h3]
            exact ⟨rfl, repr_glue hR1 _ _ _⟩
          case suspended | continue_ =>
            exact (ih _ t _ hI1 hD1 hT1 hL1 (fun _ _ _ hpc => by have := hbo hpc; cases this) hR1).imp (congrArg _) id

theorem enabled_repr {ls : Mutex.State} (hR : Repr c ps ls) (t : Nat) : enabled ps t = Mutex.enabled ls t := by
  obtain ⟨e, _⟩ := hR
  rw [e]; rfl

/-- The pointer-level and the list-level machine under the same schedule of enabled threads (the harness' baton
    scheduler) stay related. -/
theorem trun_sim (hwf : c.WFT) (wf : Nat) (hn : c.n ≤ wf) (fuel : Nat) {ts : List Nat} {ls : Mutex.State}
    (hs : Mutex.Reachable c ls) (hT : TInv c ls) (hL : LInv c ls) (hR : Repr c ps ls) (hg : Mutex.TGuarded c fuel ls ts) :
    Repr c (trun c wf fuel ps ts) (Mutex.trun c fuel ls ts) := by
  induction ts generalizing ls ps with
  | nil => exact hR
  | cons t ts ih =>
    obtain ⟨h1, h2, h3⟩ := Mutex.threadStep_reachable hwf hs hT hL fuel t hg.1
    exact ih h1 h2 h3 (threadStep_sim hwf wf hn fuel ls t ps (Mutex.reachable_inv hs) (Mutex.reachable_done hs) hT hL
      (Mutex.wakeOk_of_enabled hg.1) hR).2 hg.2

/-- … from the initial states, together with the events of the next thread step -/
theorem trun_init_sim (hwf : c.WFT) (wf : Nat) (hn : c.n ≤ wf) (fuel : Nat) (ts : List Nat)
    (hg : Mutex.TGuarded c fuel (Mutex.init c) ts) :
    Repr c (trun c wf fuel (init c) ts) (Mutex.trun c fuel (Mutex.init c) ts) ∧
    ∀ t, Mutex.enabled (Mutex.trun c fuel (Mutex.init c) ts) t = true →
      (threadStep c wf fuel (trun c wf fuel (init c) ts) t).2 =
        (Mutex.threadStep c fuel (Mutex.trun c fuel (Mutex.init c) ts) t).2 := by
  have hR := trun_sim hwf wf hn fuel (Mutex.reachable_init c) (Mutex.tinv_init c) (Mutex.linv_init c) (repr_init c) hg
  obtain ⟨hs, hT, hL⟩ := Mutex.treachable_reachable hwf fuel (Mutex.reachable_init c) (Mutex.tinv_init c)
    (Mutex.linv_init c) hg
  exact ⟨hR, fun t he => (threadStep_sim hwf wf hn fuel _ t _ (Mutex.reachable_inv hs) (Mutex.reachable_done hs) hT hL
    (Mutex.wakeOk_of_enabled he) hR).1⟩

end Cocls.MutexPtr
