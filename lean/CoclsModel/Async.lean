/-
Model of the life cycle of `cocls::async<T>` (async.h) together with the part of `future<T>` / `promise<T>`
(future.h) and of the executor that decides *whether and how often* a coroutine body runs, who receives its
result and when its frame dies.

Coroutines are scripted (`List Act`); every instance `c : Nat` runs the script `prog c`.  One `Op.step c` executes one
micro-step of coroutine `c` (begin the body, one act, the ready-check / subscription of a `co_await`, the resumption
after a wake-up, or the whole `co_return`/`throw` → `final_awaiter` sequence).  The other operations are what normal
code does with an `async<T>` object (create, drop unstarted, `detach`, `start()`, `start(promise)`) and with the
promises of the `nExt` driver-owned futures (`set`, drop).  An operation list is therefore one *schedule* of a program on
any number of threads; theorems quantify over all programs, all `nExt` and all operation lists.

Futures: ids `< nExt` are driver-owned (`future<T>` + its `promise<T>`); ids `≥ nExt` are created by `start()`
(`future<T>` constructed from the coroutine) or by `co_await child` (`async::co_awaiter`, which *is* a `future<T>`
whose awaiter chain is preset to the calling coroutine).

Result types: `State.ctorExc` says for which `co_return` operands the construction of the result value (inside the bound
future, `future::set`) throws and what — any function; `resultOf` is what the coroutine then ends with.

Operations whose guard is false (e.g. `start` on an `async` object whose handle was already handed over — the code
asserts "There is no coroutine to start") are no-ops with `Res.bad`; the harness never issues them to the real code.
-/
namespace Cocls.Async

inductive Outcome where
  | val (v : Nat)
  | exc (c : Nat)
  | canceled            -- promise dropped: `await_canceled_exception`
  deriving DecidableEq, Repr, Inhabited

inductive Act where
  | compute
  | awaitFut (k : Nat) (caught : Bool)                    -- `co_await ext[k]`
  | awaitChild (j : Nat) (direct : Bool) (caught : Bool)  -- `co_await child` / `future f = child.start(); co_await f`
  | detachChild (j : Nat) (awaited : Bool)                -- `child.detach()` discarded / `co_await child.detach()`
  | dropChild (j : Nat)                                   -- child created and destroyed unstarted
  | throw (c : Nat)
  | ret (v : Nat) (copy : Bool := false)                  -- `co_return v` (result converted from the operand) / `co_return obj` (copied)
  deriving DecidableEq, Repr, Inhabited

inductive St where
  | absent                              -- coroutine function not called yet
  | unstarted                           -- frame exists, handle held by the `async<T>` object
  | scheduled                           -- handle handed over by `start_coro`, body not begun yet
  | running
  | wantAwait (f : Nat) (caught : Bool) -- running, next action is `co_await f`
  | awaiting (f : Nat) (caught : Bool)  -- suspended, subscribed to `f`
  | resumable (f : Nat) (caught : Bool) -- made ready by `f`'s resolution, not resumed yet
  | yielded                             -- suspended by `co_await suspend_point`, sits in the ready queue
  | done                                -- frame destroyed by `final_awaiter`
  | dropped                             -- frame destroyed by `~async` without ever being started
  deriving DecidableEq, Repr, Inhabited

structure Coro where
  st : St := St.absent
  pc : List Act := []
  bound : Option Nat := none           -- `async_promise::_future`
  acc : Nat := 0
  -- ghost
  allocs : Nat := 0
  bodyStarts : Nat := 0
  frameFrees : Nat := 0
  argDtors : Nat := 0
  localDtors : Nat := 0
  startsOk : Nat := 0                  -- successful start operations
  suspends : Nat := 0                  -- subscriptions to a future
  wakes : Nat := 0                     -- times its handle was taken from an awaiter chain
  outcome : Option Outcome := none     -- what the body produced
  deliveredTo : List Nat := []         -- futures the result was stored into
  saw : List (Nat × Outcome) := []     -- (future, outcome) of every completed `co_await`, newest first
  notifiedAtFree : Option Bool := none -- set when the frame is destroyed: was the bound party already notified (future resolved)?
  deriving Repr, Inhabited

structure Fut where
  claimed : Bool := false              -- promise claimed (`promise::_owner` exchanged to null) / no promise exists
  out : Option Outcome := none         -- `_state`/value
  ready : Bool := false                -- `_awaiter == &disabled`
  waiters : List Nat := []             -- the awaiter chain (coroutines)
  cb : Bool := false                   -- a completion callback (non-coroutine awaiter) sits on the chain
  -- ghost
  owner : Option Nat := none           -- coroutine that created it
  setBy : List (Option Nat) := []      -- who stored a value: `some c` coroutine, `none` the driver
  isOp : Bool := false                 -- result future of an "operation" object whose last owner is the coroutine's frame
  cbCalls : Nat := 0                   -- how often the completion callback was called
  deriving Repr, Inhabited

structure State where
  prog : Nat → List Act
  nExt : Nat
  /-- the result type: `ctorExc copy v = some e` when constructing the result value from the `co_return` operand `v`
  (converting constructor, or copy constructor when `copy`) throws `e`; `fun _ _ => none` for `int`, `void`, references -/
  ctorExc : Bool → Nat → Option Nat := fun _ _ => none
  co : Nat → Coro
  fut : Nat → Fut
  nextFut : Nat

inductive Op where
  | create (c : Nat)
  | dropU (c : Nat)
  | detach (c : Nat)
  | start (c : Nat) (op : Bool := false)   -- `op`: bound to the result future of an operation object owned by the frame
  | startP (c k : Nat)
  | setF (k : Nat) (o : Outcome)
  | dropP (k : Nat)
  | step (c : Nat)
  deriving DecidableEq, Repr

inductive Res where
  | unit
  | fut (f : Nat)
  | flag (b : Bool)
  | bad
  deriving DecidableEq, Repr

def upd {α : Type} (m : Nat → α) (i : Nat) (v : α) : Nat → α := fun j => if j = i then v else m j

def init (prog : Nat → List Act) (nExt : Nat) (ctorExc : Bool → Nat → Option Nat := fun _ _ => none) : State :=
  { prog := prog, nExt := nExt, ctorExc := ctorExc, co := fun _ => {}, fut := fun _ => {}, nextFut := nExt }

def setCo (s : State) (c : Nat) (x : Coro) : State := { s with co := upd s.co c x }
def setFut (s : State) (f : Nat) (x : Fut) : State := { s with fut := upd s.fut f x }

/-- the coroutine function is called: frame allocated, arguments moved in, `initial_suspend` = always -/
def create (s : State) (c : Nat) : State :=
  setCo s c { s.co c with st := St.unstarted, pc := s.prog c, allocs := (s.co c).allocs + 1 }

/-- `~async` with a non-null handle: `_h.destroy()` -/
def dropU (s : State) (c : Nat) : State :=
  setCo s c { s.co c with st := St.dropped, frameFrees := (s.co c).frameFrees + 1, argDtors := (s.co c).argDtors + 1 }

/-- `start_coro`: the handle leaves the `async` object -/
def startCoro (s : State) (c : Nat) (b : Option Nat) : State :=
  setCo s c { s.co c with st := St.scheduled, bound := b, startsOk := (s.co c).startsOk + 1 }

/-- a `future<T>` constructed with a claimed promise (`start()`) or as `co_awaiter` (chain preset to the caller) -/
def newFut (s : State) (owner : Option Nat) (waiters : List Nat) (op : Bool := false) : State :=
  { setFut s s.nextFut { claimed := true, owner := owner, waiters := waiters, cb := op, isOp := op } with
    nextFut := s.nextFut + 1 }

def wakeOne (x : Coro) (n : Nat) : Coro :=
  { x with st := (match x.st with
                  | St.awaiting f ct => if n = 0 then St.awaiting f ct else St.resumable f ct
                  | o => o),
           wakes := x.wakes + n }

/-- `future::resolve()`: exchange the chain for `disabled`, walk it, every awaiter's handle becomes ready,
a completion callback on the chain is called (inline, by the resolving thread) -/
def resolve (s : State) (f : Nat) : State :=
  { s with co := fun c => wakeOne (s.co c) ((s.fut f).waiters.count c),
           fut := upd s.fut f { s.fut f with
             ready := true, waiters := [], cb := false,
             cbCalls := (s.fut f).cbCalls + (if (s.fut f).cb then 1 else 0) } }

/-- the result is stored into the bound future, then `final_awaiter` resolves it -/
def deliver (s : State) (c f : Nat) (o : Outcome) : State :=
  resolve (setFut s f { s.fut f with out := some o, setBy := some c :: (s.fut f).setBy }) f

/-- locals destroyed, frame destroyed (`me.destroy()` in `final_awaiter`); `rdy` records whether the bound party had
been notified at that moment (the arguments of the frame may be the last owner of the bound future) -/
def retire (s : State) (c : Nat) (o : Outcome) (to : List Nat) (rdy : Bool) : State :=
  setCo s c { s.co c with st := St.done, outcome := some o, localDtors := (s.co c).localDtors + 1,
                          deliveredTo := to ++ (s.co c).deliveredTo, notifiedAtFree := some rdy,
                          frameFrees := (s.co c).frameFrees + 1, argDtors := (s.co c).argDtors + 1 }

/-- `co_return` / `unhandled_exception` then `final_awaiter`: store the result into the bound future (if any),
destroy locals, resolve the future, *then* destroy the frame (`final_awaiter::await_suspend`: `f->resolve()` precedes
`me.destroy()`) -/
def finish (s : State) (c : Nat) (o : Outcome) : State :=
  match (s.co c).bound with
  | none => retire s c o [] true
  | some f => retire (deliver s c f o) c o [f] ((deliver s c f o).fut f).ready

/-- the seeded variant "release the frame first": the frame dies before `resolve()`; when the frame's arguments are the last
owner of the bound future (`isOp`), the future dies pending with them and its callback is never called -/
def finishDestroyFirst (s : State) (c : Nat) (o : Outcome) : State :=
  match (s.co c).bound with
  | none => retire s c o [] true
  | some f =>
      if (s.fut f).isOp then retire s c o [f] (s.fut f).ready
      else deliver (retire s c o [f] (s.fut f).ready) c f o

/-- the seeded variant "`_resolved` flag taken before `set()`" of `async_promise::resolve` / `unhandled_exception` (the variant
adds the flag and makes each `if (_future && !std::exchange(_resolved, true)) _future->set(...)`): when the construction of the
result throws inside `set()`, the flag is already taken, `unhandled_exception()` stores nothing and `final_awaiter` resolves the
bound future without a value — the bound party sees `await_canceled_exception` instead of the exception the coroutine ended with -/
def finishFlagFirst (s : State) (c : Nat) (cp : Bool) (v : Nat) : State :=
  match (s.co c).bound with
  | none => retire s c (Outcome.val v) [] true
  | some f =>
      match s.ctorExc cp v with
      | none => finish s c (Outcome.val v)
      | some e => retire (resolve s f) c (Outcome.exc e) [] true

/-- `await_resume` on a ready future -/
def consume (s : State) (c f : Nat) (caught : Bool) : State :=
  match ((s.fut f).out).getD Outcome.canceled with
  | Outcome.val v =>
      setCo s c { s.co c with st := St.running, acc := (s.co c).acc + v, saw := (f, Outcome.val v) :: (s.co c).saw }
  | o => if caught then setCo s c { s.co c with st := St.running, saw := (f, o) :: (s.co c).saw }
         else finish s c o

/-- the awaiter of `c` is pushed on `f`'s chain and `c` suspends (`co_awaiter::await_suspend` →
`subscribe_check_ready`; for `async::co_awaiter` the chain of the fresh future is preset to the caller) -/
def subscribe (s : State) (c f : Nat) (ct : Bool) : State :=
  setCo (setFut s f { s.fut f with waiters := c :: (s.fut f).waiters }) c
    { s.co c with st := St.awaiting f ct, suspends := (s.co c).suspends + 1 }

/-- child `j` is created and started bound to a fresh future owned by `c` -/
def spawnBound (s : State) (c j : Nat) : State :=
  startCoro (newFut (create s j) (some c) []) j (some s.nextFut)

def setSt (s : State) (c : Nat) (st : St) : State := setCo s c { s.co c with st := st }

/-- what `co_return v` produces (`coro_unified_return::return_value` → `async_promise::resolve` → `future::set`):
a detached coroutine (`_future == nullptr`) constructs nothing, so nothing can throw; a bound one constructs the result value
*inside the bound future* (`new(&_value) value_type(std::forward<Args>(args)...)`) — when that constructor throws, `_state`
is still `not_value`, the exception leaves `return_value`, unwinds the body and reaches `unhandled_exception()`, which stores
it into the same future: the outcome of the coroutine is then that exception -/
def resultOf (cx : Bool → Nat → Option Nat) (bound : Option Nat) (copy : Bool) (v : Nat) : Outcome :=
  match bound with
  | none => Outcome.val v
  | some _ => match cx copy v with
              | none => Outcome.val v
              | some e => Outcome.exc e

def execAct (s : State) (c : Nat) (a : Act) : State :=
  match a with
  | Act.compute => s
  | Act.awaitFut k ct =>
      if k < s.nExt then setSt s c (St.wantAwait k ct) else s
  | Act.awaitChild j direct ct =>
      if (s.co j).st = St.absent ∧ j ≠ c then
        if direct then subscribe (spawnBound s c j) c s.nextFut ct
        else setSt (spawnBound s c j) c (St.wantAwait s.nextFut ct)
      else s
  | Act.detachChild j awaited =>
      if (s.co j).st = St.absent ∧ j ≠ c then
        if awaited then setSt (startCoro (create s j) j none) c St.yielded else startCoro (create s j) j none
      else s
  | Act.dropChild j =>
      if (s.co j).st = St.absent ∧ j ≠ c then dropU (create s j) j else s
  | Act.throw e => finish s c (Outcome.exc e)
  | Act.ret v cp => finish s c (resultOf s.ctorExc (s.co c).bound cp (v + (s.co c).acc))

/-- one micro-step of coroutine `c` -/
def stepCo (s : State) (c : Nat) : State × Res :=
  match (s.co c).st with
  | St.scheduled => (setCo s c { s.co c with st := St.running, bodyStarts := (s.co c).bodyStarts + 1 }, Res.unit)
  | St.yielded => (setSt s c St.running, Res.unit)
  | St.resumable f ct => (consume s c f ct, Res.unit)
  | St.wantAwait f ct =>
      if (s.fut f).ready then (consume s c f ct, Res.unit) else (subscribe s c f ct, Res.unit)
  | St.running =>
      match (s.co c).pc with
      | [] => (finish s c (resultOf s.ctorExc (s.co c).bound false (s.co c).acc), Res.unit)
      | a :: rest => (execAct (setCo s c { s.co c with pc := rest }) c a, Res.unit)
  | _ => (s, Res.bad)

/-- `promise(value)` / `promise(exception_ptr)` by the driver: claim, set, resolve -/
def setF (s : State) (k : Nat) (o : Outcome) : State × Res :=
  if k < s.nExt then
    if (s.fut k).claimed then (s, Res.flag false)
    else (resolve (setFut s k { s.fut k with claimed := true, out := some o, setBy := none :: (s.fut k).setBy }) k,
          Res.flag true)
  else (s, Res.bad)

/-- `~promise` by the driver: resolve without a value -/
def dropP (s : State) (k : Nat) : State × Res :=
  if k < s.nExt then
    if (s.fut k).claimed then (s, Res.flag false)
    else (resolve (setFut s k { s.fut k with claimed := true }) k, Res.flag true)
  else (s, Res.bad)

def step (s : State) (op : Op) : State × Res :=
  match op with
  | Op.create c => if (s.co c).st = St.absent then (create s c, Res.unit) else (s, Res.bad)
  | Op.dropU c => if (s.co c).st = St.unstarted then (dropU s c, Res.unit) else (s, Res.bad)
  | Op.detach c => if (s.co c).st = St.unstarted then (startCoro s c none, Res.unit) else (s, Res.bad)
  | Op.start c op =>
      if (s.co c).st = St.unstarted then (startCoro (newFut s none [] op) c (some s.nextFut), Res.fut s.nextFut)
      else (s, Res.bad)
  | Op.startP c k =>
      if (s.co c).st = St.unstarted ∧ k < s.nExt then
        if (s.fut k).claimed then
          -- `promise._future = p.claim()` stores null, the coroutine stays in the `async` object
          (setCo s c { s.co c with bound := none }, Res.flag false)
        else (startCoro (setFut s k { s.fut k with claimed := true }) c (some k), Res.flag true)
      else (s, Res.bad)
  | Op.setF k o => setF s k o
  | Op.dropP k => dropP s k
  | Op.step c => stepCo s c

def run (s : State) (ops : List Op) : State := ops.foldl (fun s op => (step s op).1) s

end Cocls.Async
