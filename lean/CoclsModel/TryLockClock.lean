import CoclsModel.Clock

/-
Happens-before machine for C03: the try-lock of `reusable_storage_mtsafe` (coro_storage.h) used REPEATEDLY.

`Clock.lean` decides one-shot message passing.  `reusable_storage_mtsafe::_busy` is a try-lock that is taken and given back any
number of times by any number of threads, and what it guards — the fields `_ptr/_capacity` of the base `reusable_storage`
(location `fld`) and the bytes of the shared block: trailer and coroutine frame (location `blk`) — is re-used by each successive
owner.  This file runs that protocol on the same machine (vector clocks `Clock.VC`, messages `Clock.Msg` with release-sequence
clocks, `relVc / acqVc / tickIf`, FastTrack metadata per plain location) and proves that round k+1's plain accesses are ordered
after round k's, for every number of threads and rounds and every schedule.

The code (one step of a thread = plain code up to and including its next synchronising operation, except that the frame's
accesses, unbounded in number, are single steps):

  alloc:    `_busy.exchange(true, oA)`                                   `stepAlloc`     (RMW: reads the mo-latest message)
              saw true  → heap path: `operator new`, trailer of the PRIVATE block — no access to `fld`/`blk`: the thread's pc does
                          not change (`idle`, or `use` when the current owner allocates again while its frame is alive)
              saw false → pc `won`; then `reusable_storage::alloc`:
                 fits     : read `fld`; write the trailer (`blk`)                                      `stepWonFit`   → `use`
                 grows    : read `fld`; `operator delete(_ptr)` (a write of `blk`); write `fld`; trailer  `stepWonGrow`  → `use`
                 new throws: read `fld`; delete (write `blk`); `_ptr = nullptr; _capacity = 0` (write `fld`) `stepWonFail` → `giveback`
            `_busy.store(false, oG)` (fix a532e23) and the exception leaves: no frame          `stepGiveback` → `idle`
  frame:    plain reads / writes of `blk` by whoever runs the coroutine               `stepUseRead`, `stepUseWrite`
  hand-over of the live frame to another thread (the coroutine is resumed / destroyed elsewhere)   `stepHandover`
            MODELLED ASSUMPTION: the hand-over itself synchronises (it goes through a queue under a mutex, a future, a thread
            start …: C03's other protocols), i.e. at that point the receiving thread's clock becomes the join of its own and the
            giving thread's clock; the giver starts a new epoch (as after any release).  `Cfg.migrate` says which hand-overs exist;
            `migrate = fun _ _ => false` is the same-thread case (alloc and dealloc on one thread).
  dealloc:  read the trailer (`blk`)                                                   `stepUseTrailer` → `rel`
            `_busy.store(false, oD)`                                                   `stepRel`        → `idle`

There is no plain load of `_busy` anywhere, hence no stale read: every read of the flag is the exchange, which reads the
modification-order-latest message.  The exchange that sees `true` joins whatever that message carries into the loser's clock (if `oA`
acquires) and continues the release sequence; the loser needs none of it because it touches neither `fld` nor `blk`
(`stepAlloc_loser_touches_nothing`), and the theorems hold whatever it imports.

Ghost: `log` = the epochs (tid, clock) of ALL plain accesses ever made to `fld`/`blk` (FastTrack keeps only the last write and the
reads since); never consulted by `step`.

Results: `trylock_mutual_exclusion` (whatever the orders are: RMW atomicity); `trylock_race_free_iff` — no run races iff
`o.sufficient` (exchange ⊇ acquire ∧ both stores ⊇ release), the "only if" by evaluating two schedules;
`trylock_owner_sees_previous`, `trylock_free_carries_all` — the two halves of how the access epochs reach the next owner;
`proj_run` — erasing clocks gives a run of the sequentially consistent system `Sc` (flag value + control state); every run of
`StorageMt.lean` (C19's model) is simulated by `Sc`: `TryLockClockProofs.lean`, `storageMt_refines`.

NOT modelled: the private heap blocks (thread-private until handed over together with the frame; the reading of their trailer by a
deallocating thread is ordered by the assumed hand-over alone), `operator new/delete` internals, the destructor of the storage
(the owner of the storage object must have joined all users: outside the protocol), and everything `Clock.lean` does not model.
-/

namespace Cocls.TryLock
open Cocls.Clock

/-- the orders written in the source at the three sites of the protocol -/
structure TryLockOrders where
  xchg : Order       -- `oA`: `_busy.exchange(true, ·)` in `alloc`
  dealloc : Order    -- `oD`: `_busy.store(false, ·)` in `dealloc`
  giveback : Order   -- `oG`: `_busy.store(false, ·)` in `alloc`'s catch block
  deriving DecidableEq, Repr, Inhabited

def TryLockOrders.sufficient (o : TryLockOrders) : Bool := o.xchg.isAcq && o.dealloc.isRel && o.giveback.isRel

inductive Pc where
  | idle | won | use | rel | giveback
  deriving DecidableEq, Repr, Inhabited

/-- past a winning exchange and before the store that gives the block back -/
def Pc.owner : Pc → Bool
  | Pc.idle => false
  | _ => true

/-- plain location 0: the fields `_ptr/_capacity` -/
abbrev fld : Nat := 0
/-- plain location 1: the bytes of the shared block (trailer + frame); `operator delete` of the block counts as a write -/
abbrev blk : Nat := 1

/-- `clk pc` are indexed by thread id, `wr rd` by plain location -/
structure St where
  clk : Nat → VC
  pc : Nat → Pc
  hist : List Msg
  wr : Nat → Nat × Nat
  rd : Nat → List (Nat × Nat)
  log : List (Nat × Nat)
  raced : Bool

def St.init : St :=
  { clk := VC.init, pc := fun _ => Pc.idle, hist := [Msg.init], wr := fun _ => (0, 0), rd := fun _ => [], log := [],
    raced := false }

def setPc (s : St) (t : Nat) (p : Pc) : St := { s with pc := upd s.pc t p }

/-- modification-order-latest message of `_busy` (what the exchange reads); value 0 = false, 1 = true -/
def lastMsg (s : St) : Msg := s.hist.getLastD Msg.init

/-! `Clock.doRmw` / `Clock.doStore` on `_busy`: -/

def doXchg (ord : Order) (s : St) (t : Nat) : St :=
  { s with
    hist := s.hist ++ [⟨1, relVc ord (acqVc ord (s.clk t) (lastMsg s).relSeqVc),
                        VC.join (relVc ord (acqVc ord (s.clk t) (lastMsg s).relSeqVc)) (lastMsg s).relSeqVc⟩]
    clk := upd s.clk t (tickIf ord (acqVc ord (s.clk t) (lastMsg s).relSeqVc) t) }

def doStore (ord : Order) (s : St) (t : Nat) : St :=
  { s with
    hist := s.hist ++ [⟨0, relVc ord (s.clk t), relVc ord (s.clk t)⟩]
    clk := upd s.clk t (tickIf ord (s.clk t) t) }

def ordW (s : St) (t l : Nat) : Bool := decide ((s.wr l).2 ≤ s.clk t (s.wr l).1)
def ordR (s : St) (t l : Nat) : Bool := (s.rd l).all (fun e => decide (e.2 ≤ s.clk t e.1))

def doRead (s : St) (t l : Nat) : St :=
  { s with
    rd := upd s.rd l ((t, s.clk t t) :: s.rd l)
    log := (t, s.clk t t) :: s.log
    raced := s.raced || !ordW s t l }

def doWrite (s : St) (t l : Nat) : St :=
  { s with
    wr := upd s.wr l (t, s.clk t t)
    rd := upd s.rd l []
    log := (t, s.clk t t) :: s.log
    raced := s.raced || !(ordW s t l && ordR s t l) }

/-- `threads`: thread ids `≥ threads` never run; `migrate t u`: a live frame may be handed from thread `t` to thread `u` -/
structure Cfg where
  threads : Nat
  migrate : Nat → Nat → Bool

def stepAlloc (o : TryLockOrders) (s : St) (t : Nat) : St :=
  setPc (doXchg o.xchg s t) t (if (lastMsg s).val = 0 then Pc.won else s.pc t)
def stepWonFit (s : St) (t : Nat) : St := setPc (doWrite (doRead s t fld) t blk) t Pc.use
def stepWonGrow (s : St) (t : Nat) : St :=
  setPc (doWrite (doWrite (doWrite (doRead s t fld) t blk) t fld) t blk) t Pc.use
def stepWonFail (s : St) (t : Nat) : St := setPc (doWrite (doWrite (doRead s t fld) t blk) t fld) t Pc.giveback
def stepGiveback (o : TryLockOrders) (s : St) (t : Nat) : St := setPc (doStore o.giveback s t) t Pc.idle
def stepUseRead (s : St) (t : Nat) : St := doRead s t blk
def stepUseWrite (s : St) (t : Nat) : St := doWrite s t blk
def stepUseTrailer (s : St) (t : Nat) : St := setPc (doRead s t blk) t Pc.rel
def stepRel (o : TryLockOrders) (s : St) (t : Nat) : St := setPc (doStore o.dealloc s t) t Pc.idle
/-- the assumed synchronising hand-over of the live frame from `t` to `u` -/
def stepHandover (s : St) (t u : Nat) : St :=
  { s with
    clk := upd (upd s.clk u (VC.join (s.clk u) (s.clk t))) t (VC.tick (s.clk t) t)
    pc := upd (upd s.pc t Pc.idle) u Pc.use }

/-- after a winning exchange: choice 0 = the block is large enough, 1 = growth, otherwise growth whose `operator new` throws -/
def stepWon (s : St) (t c : Nat) : St :=
  match c with
  | 0 => stepWonFit s t
  | 1 => stepWonGrow s t
  | _ => stepWonFail s t

/-- the frame is alive on thread `t`: choice 0/1 = the coroutine reads/writes its frame, 2 = it allocates again on the same storage
(the exchange sees `true`), 3 = `dealloc` begins, `u + 4` = the frame moves to thread `u` -/
def stepUse (o : TryLockOrders) (cfg : Cfg) (s : St) (t c : Nat) : St :=
  match c with
  | 0 => stepUseRead s t
  | 1 => stepUseWrite s t
  | 2 => stepAlloc o s t
  | 3 => stepUseTrailer s t
  | u + 4 => if cfg.migrate t u = true ∧ u ≠ t ∧ u < cfg.threads ∧ s.pc u = Pc.idle then stepHandover s t u else s

/-- one schedule entry `(tid, choice)` -/
def step (o : TryLockOrders) (cfg : Cfg) (s : St) (e : Nat × Nat) : St :=
  if e.1 < cfg.threads then
    match s.pc e.1 with
    | Pc.idle => stepAlloc o s e.1
    | Pc.won => stepWon s e.1 e.2
    | Pc.use => stepUse o cfg s e.1 e.2
    | Pc.rel => stepRel o s e.1
    | Pc.giveback => stepGiveback o s e.1
  else s

def run (o : TryLockOrders) (cfg : Cfg) (sched : List (Nat × Nat)) : St := sched.foldl (step o cfg) St.init

@[simp] theorem lastMsg_mk (c : Nat → VC) (pc : Nat → Pc) (h : List Msg) (x : Msg) (w : Nat → Nat × Nat)
    (r : Nat → List (Nat × Nat)) (lg : List (Nat × Nat)) (ra : Bool) : lastMsg ⟨c, pc, h ++ [x], w, r, lg, ra⟩ = x := by
  simp [lastMsg]

theorem lastMsg_same (s : St) (c : Nat → VC) (pc : Nat → Pc) (w : Nat → Nat × Nat)
    (r : Nat → List (Nat × Nat)) (lg : List (Nat × Nat)) (ra : Bool) : lastMsg ⟨c, pc, s.hist, w, r, lg, ra⟩ = lastMsg s := rfl

@[simp] theorem pc_doRead (s : St) (t l : Nat) : (doRead s t l).pc = s.pc := rfl
@[simp] theorem pc_doWrite (s : St) (t l : Nat) : (doWrite s t l).pc = s.pc := rfl

theorem stepAlloc_loser_touches_nothing (o : TryLockOrders) (s : St) (t : Nat) (h : (lastMsg s).val ≠ 0) :
    (stepAlloc o s t).wr = s.wr ∧ (stepAlloc o s t).rd = s.rd ∧ (stepAlloc o s t).log = s.log ∧
      (stepAlloc o s t).raced = s.raced ∧ ∀ u, (stepAlloc o s t).pc u = s.pc u := by
  refine ⟨rfl, rfl, rfl, rfl, ?_⟩
  intro u
  simp only [stepAlloc, setPc, doXchg, if_neg h, upd_apply]
  split
  · next hu => rw [hu]
  · rfl

/-- The token argument.  At most one owner (`excl`), and while there is one the flag's latest value is `true` (`busy`): atomicity of
the exchange, whatever the orders are.  Every FastTrack record is in the ghost log (`wrlog`, `rdlog`).  If the orders are good
(`ok`: the exchange acquires, the stores release) the log is dominated by the clock of the owner while there is one (`own`) and by
the release-sequence clock of the flag's latest message while the flag is free (`free`): the right to touch `fld`/`blk` travels
owner → releasing store → acquiring exchange → next owner, or owner → hand-over → owner. -/
structure Inv (ok : Prop) (s : St) : Prop where
  excl : ∀ t u, (s.pc t).owner = true → (s.pc u).owner = true → t = u
  busy : ∀ t, (s.pc t).owner = true → (lastMsg s).val = 1
  wrlog : ∀ l, (s.wr l).2 = 0 ∨ s.wr l ∈ s.log
  rdlog : ∀ l, ∀ e ∈ s.rd l, e ∈ s.log
  nr : ok → s.raced = false
  own : ok → ∀ t, (s.pc t).owner = true → ∀ e ∈ s.log, e.2 ≤ s.clk t e.1
  free : ok → (lastMsg s).val = 0 → ∀ e ∈ s.log, e.2 ≤ (lastMsg s).relSeqVc e.1

/-- the goal shape on which the lemmas below prove all clauses by one `grind` call -/
theorem Inv.of_and {ok : Prop} {s : St}
    (h : (∀ t u, (s.pc t).owner = true → (s.pc u).owner = true → t = u) ∧
      (∀ t, (s.pc t).owner = true → (lastMsg s).val = 1) ∧
      (∀ l, (s.wr l).2 = 0 ∨ s.wr l ∈ s.log) ∧
      (∀ l, ∀ e ∈ s.rd l, e ∈ s.log) ∧
      (ok → s.raced = false) ∧
      (ok → ∀ t, (s.pc t).owner = true → ∀ e ∈ s.log, e.2 ≤ s.clk t e.1) ∧
      (ok → (lastMsg s).val = 0 → ∀ e ∈ s.log, e.2 ≤ (lastMsg s).relSeqVc e.1)) : Inv ok s :=
  let ⟨a, b, c, d, e, f, g⟩ := h
  ⟨a, b, c, d, e, f, g⟩

theorem inv_init (ok : Prop) : Inv ok St.init := by
  constructor <;> simp [St.init, Pc.owner, lastMsg, Msg.init]

/-! Each primitive unfolds to a record update; what remains of every clause is a case analysis on the `upd`ated thread /
location and on the orders. -/

theorem inv_alloc {ok : Prop} {o : TryLockOrders} {s : St} (h : Inv ok s) (ho : ok → o.xchg.isAcq = true) (t : Nat) :
    Inv ok (stepAlloc o s t) := by
  cases h
  refine .of_and ?_
  simp only [stepAlloc, setPc, doXchg, lastMsg_mk]
  grind [upd_apply, upd_apply2, le_rmw, le_rmw_msg, Pc.owner]

theorem inv_doRead {ok : Prop} {s : St} (h : Inv ok s) {t : Nat} (l : Nat) (hp : (s.pc t).owner = true) :
    Inv ok (doRead s t l) := by
  cases h
  refine .of_and ?_
  simp only [doRead, ordW, lastMsg_same]
  grind [upd_apply]

theorem inv_doWrite {ok : Prop} {s : St} (h : Inv ok s) {t : Nat} (l : Nat) (hp : (s.pc t).owner = true) :
    Inv ok (doWrite s t l) := by
  cases h
  refine .of_and ?_
  simp only [doWrite, ordW, ordR, lastMsg_same]
  grind [upd_apply]

theorem inv_setPc {ok : Prop} {s : St} (h : Inv ok s) {t : Nat} {p : Pc} (hp : (s.pc t).owner = true) :
    Inv ok (setPc s t p) := by
  cases h
  refine .of_and ?_
  simp only [setPc, lastMsg_same]
  grind [upd_apply, Pc.owner]

theorem inv_doStore {ok : Prop} {s : St} (h : Inv ok s) {t : Nat} {ord : Order} (ho : ok → ord.isRel = true)
    (hp : (s.pc t).owner = true) : Inv ok (setPc (doStore ord s t) t Pc.idle) := by
  cases h
  refine .of_and ?_
  simp only [setPc, doStore, lastMsg_mk]
  grind [upd_apply, upd_apply2, le_relVc, le_tickIf, Pc.owner]

theorem inv_handover {ok : Prop} {s : St} (h : Inv ok s) {t u : Nat} (hp : s.pc t = Pc.use) :
    Inv ok (stepHandover s t u) := by
  cases h
  refine .of_and ?_
  simp only [stepHandover, lastMsg_same]
  grind [upd_apply, le_hop, le_hop_recv, Pc.owner]

theorem inv_step {ok : Prop} {o : TryLockOrders} (cfg : Cfg) (hA : ok → o.xchg.isAcq = true)
    (hD : ok → o.dealloc.isRel = true) (hG : ok → o.giveback.isRel = true) {s : St} (h : Inv ok s) (e : Nat × Nat) :
    Inv ok (step o cfg s e) := by
  unfold step
  split
  · split
    · exact inv_alloc h hA _
    · next hpc =>
      have hw : (s.pc e.1).owner = true := by rw [hpc]; rfl
      unfold stepWon
      split
      · exact inv_setPc (inv_doWrite (inv_doRead h fld hw) blk hw) hw
      · exact inv_setPc (inv_doWrite (inv_doWrite (inv_doWrite (inv_doRead h fld hw) blk hw) fld hw) blk hw) hw
      · exact inv_setPc (inv_doWrite (inv_doWrite (inv_doRead h fld hw) blk hw) fld hw) hw
    · next hpc =>
      have hw : (s.pc e.1).owner = true := by rw [hpc]; rfl
      unfold stepUse
      split
      · exact inv_doRead h blk hw
      · exact inv_doWrite h blk hw
      · exact inv_alloc h hA _
      · exact inv_setPc (inv_doRead h blk hw) hw
      · split
        · exact inv_handover h hpc
        · exact h
    · next hpc => exact inv_doStore h hD (by rw [hpc]; rfl)
    · next hpc => exact inv_doStore h hG (by rw [hpc]; rfl)
  · exact h

theorem sufficient_iff (o : TryLockOrders) :
    o.sufficient = true ↔ (o.xchg.isAcq = true ∧ o.dealloc.isRel = true ∧ o.giveback.isRel = true) := by
  simp only [TryLockOrders.sufficient, Bool.and_eq_true, and_assoc]

theorem inv_run (o : TryLockOrders) (cfg : Cfg) (sched : List (Nat × Nat)) :
    Inv (o.sufficient = true) (run o cfg sched) :=
  List.foldlRecOn sched (step o cfg) (inv_init _) fun _ h e _ =>
    inv_step cfg (fun hs => ((sufficient_iff o).1 hs).1) (fun hs => ((sufficient_iff o).1 hs).2.1)
      (fun hs => ((sufficient_iff o).1 hs).2.2) h e

/-- **Mutual exclusion**: whatever the memory orders, at most one thread is between a winning exchange and its store. -/
theorem trylock_mutual_exclusion (o : TryLockOrders) (cfg : Cfg) (sched : List (Nat × Nat)) (t u : Nat)
    (ht : ((run o cfg sched).pc t).owner = true) (hu : ((run o cfg sched).pc u).owner = true) : t = u :=
  (inv_run o cfg sched).excl t u ht hu

theorem trylock_owner_keeps_busy (o : TryLockOrders) (cfg : Cfg) (sched : List (Nat × Nat)) (t : Nat)
    (ht : ((run o cfg sched).pc t).owner = true) : (lastMsg (run o cfg sched)).val = 1 :=
  (inv_run o cfg sched).busy t ht

/-- **Main theorem**: with an acquiring exchange and releasing stores the try-lock protocol is race free on `_ptr/_capacity` and on
the bytes of the shared block — for every number of threads, every number of rounds per thread (winning, contended, failed growth,
nested allocation by the owner), every admissible migration of frames and every schedule. -/
theorem trylock_race_free (o : TryLockOrders) (h : o.sufficient = true) :
    ∀ (cfg : Cfg) (sched : List (Nat × Nat)), (run o cfg sched).raced = false :=
  fun cfg sched => (inv_run o cfg sched).nr h

/-- The owner of the block (it won the exchange, or the live frame was handed to it) has every plain access ever made to
`_ptr/_capacity` and to the block — by all previous owners, in all previous rounds — in its clock. -/
theorem trylock_owner_sees_previous (o : TryLockOrders) (h : o.sufficient = true) (cfg : Cfg) (sched : List (Nat × Nat))
    (t : Nat) (ht : ((run o cfg sched).pc t).owner = true) :
    ∀ e ∈ (run o cfg sched).log, e.2 ≤ (run o cfg sched).clk t e.1 :=
  (inv_run o cfg sched).own h t ht

/-- While the flag is free, its latest message carries every access epoch: that is what the next winning exchange acquires. -/
theorem trylock_free_carries_all (o : TryLockOrders) (h : o.sufficient = true) (cfg : Cfg) (sched : List (Nat × Nat))
    (hf : (lastMsg (run o cfg sched)).val = 0) :
    ∀ e ∈ (run o cfg sched).log, e.2 ≤ (lastMsg (run o cfg sched)).relSeqVc e.1 :=
  (inv_run o cfg sched).free h hf

/-- the FastTrack records are log entries: the log is not a weaker notion than what the race check looks at -/
theorem trylock_records_logged (o : TryLockOrders) (h : o.sufficient = true) (cfg : Cfg) (sched : List (Nat × Nat)) (l : Nat) :
    (((run o cfg sched).wr l).2 = 0 ∨ (run o cfg sched).wr l ∈ (run o cfg sched).log) ∧
      ∀ e ∈ (run o cfg sched).rd l, e ∈ (run o cfg sched).log := by
  have _ := h
  exact ⟨(inv_run o cfg sched).wrlog l, (inv_run o cfg sched).rdlog l⟩

def cfg3 : Cfg := { threads := 3, migrate := fun _ _ => true }
def cfgSame : Cfg := { threads := 2, migrate := fun _ _ => false }

/-- thread 0: wins, grows the block (writes `_ptr/_capacity`), trailer, dealloc; thread 1: wins, reads `_capacity` -/
def schedRound : List (Nat × Nat) := [(0, 0), (0, 1), (0, 3), (0, 0), (1, 0), (1, 0)]
/-- thread 0: wins, growth throws (`_ptr = nullptr; _capacity = 0`), gives the flag back; thread 1: wins, reads `_capacity` -/
def schedFail : List (Nat × Nat) := [(0, 0), (0, 2), (0, 0), (1, 0), (1, 0)]

theorem trylock_needs_acquire :
    (run ⟨Order.relaxed, Order.release, Order.release⟩ cfgSame schedRound).raced = true := by decide

theorem trylock_needs_release_dealloc :
    (run ⟨Order.acquire, Order.relaxed, Order.release⟩ cfgSame schedRound).raced = true := by decide

theorem trylock_needs_release_giveback :
    (run ⟨Order.acquire, Order.release, Order.relaxed⟩ cfgSame schedFail).raced = true := by decide

/-- the orders of the current source on the same schedules -/
example : (run ⟨Order.acquire, Order.release, Order.release⟩ cfgSame schedRound).raced = false
    ∧ (run ⟨Order.acquire, Order.release, Order.release⟩ cfgSame schedFail).raced = false := by decide

/-- the exchange is seen through both bits, the two stores through `isRel` only -/
theorem run_ofBits (o : TryLockOrders) (cfg : Cfg) (sched : List (Nat × Nat)) :
    run ⟨ofBits o.xchg.isAcq o.xchg.isRel, ofBits false o.dealloc.isRel, ofBits false o.giveback.isRel⟩ cfg sched
      = run o cfg sched := by
  have : step ⟨ofBits o.xchg.isAcq o.xchg.isRel, ofBits false o.dealloc.isRel, ofBits false o.giveback.isRel⟩ cfg
      = step o cfg := by
    funext s e
    simp only [step, stepAlloc, stepUse, stepRel, stepGiveback, doXchg, doStore, relVc_ofBits, acqVc_ofBits, tickIf_ofBits]
  rw [run, this, run]

/-- on `schedRound` unless the exchange acquires and `dealloc`'s store releases, else on `schedFail` -/
theorem racy_of_insufficient (o : TryLockOrders) (h : o.sufficient = false) :
    (run o cfgSame schedRound).raced = true ∨ (run o cfgSame schedFail).raced = true := by
  obtain ⟨a, d, g⟩ := o
  rw [← run_ofBits, ← run_ofBits _ _ schedFail]
  simp only [TryLockOrders.sufficient] at h ⊢
  generalize a.isAcq = aa, a.isRel = ar, d.isRel = dr, g.isRel = gr at h ⊢
  cases aa <;> cases ar <;> cases dr <;> cases gr <;> first | (simp at h; done) | exact Or.inl rfl | exact Or.inr rfl

theorem trylock_race_free_iff (o : TryLockOrders) :
    (∀ (cfg : Cfg) (sched : List (Nat × Nat)), (run o cfg sched).raced = false) ↔ o.sufficient = true := by
  refine ⟨fun h => ?_, trylock_race_free o⟩
  cases hs : o.sufficient
  · rcases racy_of_insufficient o hs with hr | hr <;> rw [h] at hr <;> cases hr
  · rfl

/-! ### erasing the clocks: the sequentially consistent projection

`Sc` keeps the value of the flag and the control state and forgets the clocks, the clocks inside the messages and all messages but
the latest, the FastTrack records, the log and `raced`.  `proj_run`: the projection of a run of the machine is the run of `scStep`
on the same schedule — the machine adds bookkeeping to the SC behaviour and never changes it (an RMW reads the latest value and
nothing loads the flag, so the weak-memory machine has no extra behaviours on the flag).

Relation to `StorageMt.lean` (the model C19 runs against the real headers): same flag, different granularity — `StorageMt` steps at
the *hooked* operations of the harness (`operator new/delete`, a whole `dealloc` on a frame *id* by whichever thread is scheduled),
carries heap, frame ids, sizes and private frames and has no per-thread "holds the block" state — so the bridge has two halves:
`proj_run` below (machine → `Sc`, an equality) and the forward simulation `StorageMt → Sc` proved in `TryLockClockProofs.lean`
(`mt_sim_step`, `storageMt_refines`; the relation `Sim` there says precisely what is projected away). -/

structure Sc where
  busy : Bool
  pc : Nat → Pc

def Sc.init : Sc := ⟨false, fun _ => Pc.idle⟩

def proj (s : St) : Sc := ⟨(lastMsg s).val != 0, s.pc⟩

def scAlloc (x : Sc) (t : Nat) : Sc := ⟨true, upd x.pc t (if x.busy = false then Pc.won else x.pc t)⟩
def scSetPc (x : Sc) (t : Nat) (p : Pc) : Sc := ⟨x.busy, upd x.pc t p⟩
def scStore (x : Sc) (t : Nat) : Sc := ⟨false, upd x.pc t Pc.idle⟩
def scHandover (x : Sc) (t u : Nat) : Sc := ⟨x.busy, upd (upd x.pc t Pc.idle) u Pc.use⟩

def scWon (x : Sc) (t c : Nat) : Sc :=
  match c with
  | 0 => scSetPc x t Pc.use
  | 1 => scSetPc x t Pc.use
  | _ => scSetPc x t Pc.giveback

def scUse (cfg : Cfg) (x : Sc) (t c : Nat) : Sc :=
  match c with
  | 0 => x
  | 1 => x
  | 2 => scAlloc x t
  | 3 => scSetPc x t Pc.rel
  | u + 4 => if cfg.migrate t u = true ∧ u ≠ t ∧ u < cfg.threads ∧ x.pc u = Pc.idle then scHandover x t u else x

def scStep (cfg : Cfg) (x : Sc) (e : Nat × Nat) : Sc :=
  if e.1 < cfg.threads then
    match x.pc e.1 with
    | Pc.idle => scAlloc x e.1
    | Pc.won => scWon x e.1 e.2
    | Pc.use => scUse cfg x e.1 e.2
    | Pc.rel => scStore x e.1
    | Pc.giveback => scStore x e.1
  else x

theorem proj_alloc (o : TryLockOrders) (s : St) (t : Nat) : proj (stepAlloc o s t) = scAlloc (proj s) t := by
  simp only [proj, stepAlloc, setPc, doXchg, lastMsg_mk, scAlloc]
  by_cases h : (lastMsg s).val = 0 <;> simp [h]

theorem proj_step (o : TryLockOrders) (cfg : Cfg) (s : St) (e : Nat × Nat) :
    proj (step o cfg s e) = scStep cfg (proj s) e := by
  unfold step scStep
  have hpc : (proj s).pc = s.pc := rfl
  rw [hpc]
  split
  · split
    · exact proj_alloc o s _
    · unfold stepWon scWon
      split <;> rfl
    · unfold stepUse scUse
      split
      · rfl
      · rfl
      · exact proj_alloc o s _
      · rfl
      · rw [hpc]; split <;> rfl
    · simp [proj, stepRel, setPc, doStore, scStore]
    · simp [proj, stepGiveback, setPc, doStore, scStore]
  · rfl

theorem proj_run (o : TryLockOrders) (cfg : Cfg) (sched : List (Nat × Nat)) :
    proj (run o cfg sched) = sched.foldl (scStep cfg) Sc.init :=
  (List.foldl_hom proj fun s e => (proj_step o cfg s e).symm).symm

end Cocls.TryLock
