import CoclsModel.Generated.AllocSites
/-
Allocation-event model of "core programs" (C20).

A core program is a list of operations performed by ordinary code on one thread — creating / resolving / awaiting
(callback awaiter, blocking-thread awaiter) / destroying future-promise pairs, `promise::bind` (creating, invoking,
destroying the bound callable, any size of bound value), `try_lock` / release of a coroutine
mutex, `<<` / `pop` / `clear` on a suspend point, merging whole suspend points (`<<`, move-assignment, the result of a
resolution merged into a suspend point object), creating / stepping / destroying a synchronous generator, and
creating scripted coroutines (`async<T>`, heap or non-heap frame, detached or bound to a promise) whose scripts
await futures, resolve promises (dropping or awaiting the returned suspend point), lock / hand over mutexes, park,
`pause()` and step generators.  The model executes the program exactly like the library does on one thread
(awaiter chains are LIFO stacks walked by the resolver, suspend points carry the ready handles, ordinary code
installs the ready queue and runs the carried coroutines, code inside a coroutine pushes them to the queue, `co_await`
of a suspend point / final suspend are symmetric transfers) and *logs every dynamic allocation and release* the
library performs, by category:

* `frame`  — one per coroutine / generator created with a heap frame (none under the non-heap storage policy),
* `rgrowth` — the same allocation when the growing suspend point is the one a *resolution* builds (`resume_chain_lk`
             collects every released coroutine in one suspend point): more than `inlineCount` coroutine waiters on one
             future — the second listed finding (the statement promises allocation-free resolution for every number of waiters),
* `growth` — `new Ptr[count * growthFactor]` of `suspend_point::add` when a suspend point already holds
             `inlineCount` (or `capacity`) handles; released by `clear_internal` / `operator<<`,
* `rq`     — allocations of the thread-local `std::deque` ready queue of `coro_queue` (libstdc++: map + first node
             on the thread's first use, one 512-byte node per 64 enqueues, map re-allocation) — the listed finding,
* `other`  — never produced by the model,
* `thrown` — (token `Tok.thrown`) the exception object of a `throw` / the dependent exception of a `rethrow_exception`
             (`__cxa_allocate_exception` → `malloc`, not `operator new`).  The library throws in exactly one situation of a core
             program: user code reads (`co_await`, `wait()`) a future that was resolved *without a value* (by an exception, or
             dropped) — `future::value()` reports that to the reader by `rethrow_exception` / `throw await_canceled_exception()`.
             That object is the caller's (the report of an error to the code that asked), it is not an allocation "of their own"
             of the primitives; the token therefore names its receiver.  The model has no token for an exception that is thrown
             and swallowed inside the library: the current code has no such path (stepping an exhausted generator is answered by
             the `done()` pre-check of `next_awt::operator bool`, not by `no_more_values_exception`).

Everything that is not a log (`out`) or a ghost counter (`peak`, `rpeak`, `pushes`, `pops`) is control state.  The ghost
fields are never consulted by the control flow.  Suspend points that are locals of library functions live in the
register `tmp` (the one under construction / being returned) and `pend` (capacity of the heap array of the one
being flushed by ordinary code), so that every function is `State → State`.
-/
namespace Cocls.Alloc

/-- `suspend_point<void>::inline_count`, extracted from the source -/
def inlineCount : Nat := Generated.inlineCount
/-- factor in `new Ptr[count * 2]`, extracted from the source -/
def growthFactor : Nat := Generated.growthFactor
/-- handles per node of `std::deque<std::coroutine_handle<>>` (libstdc++: 512-byte nodes) -/
def slots : Nat := 64
def nodeBytes : Nat := 512
def ptrBytes : Nat := 8
/-- initial size of the deque's map (libstdc++ `_S_initial_map_size`) -/
def initMap : Nat := 8
def nMx : Nat := 2
def nSp : Nat := 2
def maxId : Nat := 160

inductive Cat where
  | frame | growth | rgrowth | rq | other
  deriving DecidableEq, Repr, Inhabited

inductive Kind where
  | v | e | d
  deriving DecidableEq, Repr, Inhabited

inductive Act where
  | await (i : Nat)
  | res (i : Nat) (k : Kind)      -- resolve, drop the suspend point
  | resAw (i : Nat) (k : Kind)    -- resolve, `co_await` the suspend point
  | lock (m : Nat)
  | unlock (m : Nat)              -- release, drop the suspend point
  | unlockAw (m : Nat)            -- `co_await own.release()`
  | park
  | pause
  | gstep (g : Nat)               -- `if (G.next())`
  | gstepAw (g : Nat)             -- `co_await G.next()`
  | resumed (i : Nat)             -- (never written by a user; pushed by `await` when it suspends) `await_resume` of `co_await F_i`
  deriving DecidableEq, Repr, Inhabited

/-- what a coroutine reports when it executes an action -/
inductive Label where
  | did (a : Act)
  | stepped (a : Act) (r : Option Nat)   -- generator step: the value, or `none` = done
  | nogen (a : Act)                      -- the generator does not exist
  | fin                                  -- end of the script
  deriving DecidableEq, Repr, Inhabited

/-- one token of the output; `out` keeps them newest first -/
inductive Tok where
  | act (j : Nat) (l : Label)                -- coroutine `j` executed an action of its script
  | cb (i : Nat)                             -- the callback awaiter of future `i` fired
  | alloc (c : Cat) (n : Nat) (held : Nat)   -- allocation; `held` (ghost) = handles held by the growing suspend point
  | free (c : Cat) (n : Nat)                 -- release
  | thrown (who : Option Nat) (i : Nat)      -- an exception object was allocated and thrown TO user code (coroutine `who`, or
                                             -- ordinary code) that read future `i`, which holds no value
  deriving DecidableEq, Repr, Inhabited

inductive Waiter where
  | coro (j : Nat) | cb | sync
  deriving DecidableEq, Repr, Inhabited

inductive Outcome where
  | none | value (n : Nat) | exc | canceled
  deriving DecidableEq, Repr, Inhabited

structure Fut where
  existed : Bool := false     -- constructed at some point (its promise object exists)
  alive : Bool := false       -- constructed and not destroyed
  claimed : Bool := false     -- the promise has been claimed (resolved, bound to a coroutine)
  ready : Bool := false
  outcome : Outcome := .none
  chain : List Waiter := []   -- awaiter chain, head = most recently subscribed
  bnd : Option Bool := none   -- a callable made by `promise::bind` exists; `some true` = it still holds the promise
  deriving Repr, Inhabited

inductive CoSt where
  | unborn | active | parked | insp (s : Nat) | done
  deriving DecidableEq, Repr, Inhabited

structure Co where
  st : CoSt := .unborn
  heap : Bool := false
  bind : Option Nat := none
  script : List Act := []
  owns : Nat → Bool := fun _ => false
  deriving Inhabited

inductive Owner where
  | free | main | coro (j : Nat)
  deriving DecidableEq, Repr, Inhabited

structure Mx where
  owner : Owner := .free
  waiters : List Nat := []    -- FIFO
  deriving Repr, Inhabited

structure Sp where
  handles : List Nat := []
  ext : Option Nat := none    -- capacity of the heap array when in heap mode
  res : Bool := false         -- (category of the heap array) it was allocated while a resolution collected handles
  deriving Repr, Inhabited

structure Gen where
  exist : Bool := false
  heap : Bool := false
  next : Nat := 0
  n : Nat := 0
  done : Bool := false
  deriving Repr, Inhabited

/-- position model of libstdc++'s `std::deque` (push_back / pop_front only) -/
structure Rq where
  built : Bool := true
  mapSize : Nat := initMap
  sN : Nat := (initMap - 1) / 2    -- map index of the start node
  fN : Nat := (initMap - 1) / 2    -- map index of the finish node
  sO : Nat := 0                    -- offset of `start.cur` in its node
  fO : Nat := 0                    -- offset of `finish.cur` in its node
  items : List Nat := []
  deriving Repr, Inhabited

structure State where
  fresh : Bool
  futs : Nat → Fut := fun _ => {}
  cos : Nat → Co := fun _ => {}
  mxs : Nat → Mx := fun _ => {}
  sps : Nat → Sp := fun _ => {}
  gens : Nat → Gen := fun _ => {}
  rq : Rq := {}
  tmp : Sp := {}
  pend : Option Nat := none
  pendR : Bool := false
  moved : Bool := false
  out : List Tok := []
  -- ghost
  peak : Nat := 0        -- largest number of handles any suspend point has held
  rpeak : Nat := 0       -- largest number of coroutines one resolution has released (handles collected by `resume_chain_lk`)
  pushes : Nat := 0      -- enqueues on the ready queue so far
  pops : Nat := 0

/-- `fresh` = the program runs on a new thread (its ready queue is not constructed yet) -/
def init (fresh : Bool) : State := { fresh := fresh, rq := { built := !fresh } }

def upd {α : Type} (f : Nat → α) (i : Nat) (v : α) : Nat → α := fun k => if k = i then v else f k

/-! ### primitive state changes -/

def emit (s : State) (t : Tok) : State := { s with out := t :: s.out }

def setFut (s : State) (i : Nat) (f : Fut) : State := { s with futs := upd s.futs i f }
def setMx (s : State) (m : Nat) (x : Mx) : State := { s with mxs := upd s.mxs m x }
def setGen (s : State) (g : Nat) (x : Gen) : State := { s with gens := upd s.gens g x }
def setCo (s : State) (j : Nat) (c : Co) : State := { s with cos := upd s.cos j c }
def setSt (s : State) (j : Nat) (st : CoSt) : State := { s with cos := upd s.cos j { s.cos j with st := st } }
def setScript (s : State) (j : Nat) (sc : List Act) : State := { s with cos := upd s.cos j { s.cos j with script := sc } }
def setOwns (s : State) (j m : Nat) (b : Bool) : State :=
  { s with cos := upd s.cos j { s.cos j with owns := upd (s.cos j).owns m b } }
def setMoved (s : State) (b : Bool) : State := { s with moved := b }
def clearTmp (s : State) : State := { s with tmp := {} }

/-- a coroutine frame is allocated / released through global `operator new` / `delete` (heap storage policy only) -/
def allocFrame (s : State) (heap : Bool) : State := if heap then emit s (Tok.alloc .frame 1 0) else s
def freeFrame (s : State) (heap : Bool) : State := if heap then emit s (Tok.free .frame 1) else s

/-! ### suspend point -/

def Sp.count (sp : Sp) : Nat := sp.handles.length

def catOf (r : Bool) : Cat := if r then .rgrowth else .growth

/-- allocation events of `suspend_point::add` on `sp`, newest first; `r` = the add is made by a resolution collecting handles -/
def Sp.addToks (sp : Sp) (r : Bool) : List Tok :=
  match sp.ext with
  | some cap =>
      if sp.count = cap then [Tok.free (catOf sp.res) cap, Tok.alloc (catOf r) (sp.count * growthFactor) sp.count] else []
  | none =>
      if sp.count < inlineCount then [] else [Tok.alloc (catOf r) (sp.count * growthFactor) sp.count]

def Sp.addExt (sp : Sp) : Option Nat :=
  match sp.ext with
  | some cap => if sp.count = cap then some (sp.count * growthFactor) else some cap
  | none => if sp.count < inlineCount then none else some (sp.count * growthFactor)

def Sp.addRes (sp : Sp) (r : Bool) : Bool :=
  match sp.ext with
  | some cap => if sp.count = cap then r else sp.res
  | none => if sp.count < inlineCount then sp.res else r

def Sp.add (sp : Sp) (h : Nat) (r : Bool) : Sp := { handles := sp.handles ++ [h], ext := sp.addExt, res := sp.addRes r }

/-- `tmp << h` (hand-over of a mutex, start of a coroutine) -/
def addTmp (s : State) (h : Nat) : State :=
  { s with tmp := s.tmp.add h false, out := s.tmp.addToks false ++ s.out, peak := max s.peak (s.tmp.count + 1) }

/-- `ret << y->resume()` in `resume_chain_lk`: a resolution collects one more released coroutine -/
def addTmpR (s : State) (h : Nat) : State :=
  { s with tmp := s.tmp.add h true, out := s.tmp.addToks true ++ s.out, peak := max s.peak (s.tmp.count + 1),
           rpeak := max s.rpeak (s.tmp.count + 1) }

/-- `S_k << h` -/
def addSp (s : State) (k h : Nat) : State :=
  { s with sps := upd s.sps k ((s.sps k).add h false), out := (s.sps k).addToks false ++ s.out,
           peak := max s.peak ((s.sps k).count + 1) }

def freeExt (s : State) (r : Bool) : Option Nat → State
  | some cap => emit s (Tok.free (catOf r) cap)
  | none => s

/-- `clear_internal()` of the suspend point in `tmp` -/
def freeTmp (s : State) : State := clearTmp (freeExt s s.tmp.res s.tmp.ext)

/-- ordinary code starts flushing the suspend point in `tmp`: its handles are taken, its heap array stays until the end -/
def stashTmp (s : State) : State := { s with pend := s.tmp.ext, pendR := s.tmp.res, tmp := {} }

def freePend (s : State) : State := { freeExt s s.pendR s.pend with pend := none, pendR := false }

/-- the suspend point object `S_k` is moved into `tmp` -/
def loadSp (s : State) (k : Nat) : State := { s with tmp := s.sps k, sps := upd s.sps k {} }

/-- `S_k.pop()` -/
def popSp (s : State) (k : Nat) : State :=
  { s with sps := upd s.sps k { s.sps k with handles := (s.sps k).handles.dropLast } }

/-- `S_k << h` for every handle of a batch, in order -/
def addAllSp (s : State) (k : Nat) : List Nat → State
  | [] => s
  | h :: hs => addAllSp (addSp s k h) k hs

/-- `S_k << std::move(tmp)` (also move-assignment): every handle of the incoming suspend point is added one by one,
then its heap array (if any) is released -/
def mergeTmpInto (s : State) (k : Nat) : State := freeTmp (addAllSp s k s.tmp.handles)

/-- destructor of the suspend point object `S_k` (empty by now, but its heap array may still be there) -/
def killSp (s : State) (k : Nat) : State := { freeExt s (s.sps k).res (s.sps k).ext with sps := upd s.sps k {} }

/-! ### the thread's ready queue (`coro_queue::queue_impl::_queue`) -/

def Rq.needNode (q : Rq) : Bool := q.fO + 1 = slots
def Rq.needMap (q : Rq) : Bool := q.mapSize < q.fN + 2
def Rq.oldNum (q : Rq) : Nat := q.fN - q.sN + 1
def Rq.recenter (q : Rq) : Bool := 2 * (q.oldNum + 1) < q.mapSize
def Rq.newMapSize (q : Rq) : Nat := q.mapSize + max q.mapSize 1 + 2

/-- `_M_reserve_map_at_back()` -/
def Rq.reserve (q : Rq) : Rq :=
  if q.needMap then
    if q.recenter then
      { q with sN := (q.mapSize - (q.oldNum + 1)) / 2, fN := (q.mapSize - (q.oldNum + 1)) / 2 + q.oldNum - 1 }
    else
      { q with mapSize := q.newMapSize, sN := (q.newMapSize - (q.oldNum + 1)) / 2,
               fN := (q.newMapSize - (q.oldNum + 1)) / 2 + q.oldNum - 1 }
  else q

/-- newest first -/
def Rq.reserveToks (q : Rq) : List Tok :=
  if q.needMap && !q.recenter then
    [Tok.free .rq (q.mapSize * ptrBytes), Tok.alloc .rq (q.newMapSize * ptrBytes) 0]
  else []

def Rq.push (q : Rq) (h : Nat) : Rq :=
  if q.needNode then { q.reserve with fN := q.reserve.fN + 1, fO := 0, items := q.items ++ [h] }
  else { q with fO := q.fO + 1, items := q.items ++ [h] }

/-- newest first -/
def Rq.pushToks (q : Rq) : List Tok :=
  if q.needNode then Tok.alloc .rq nodeBytes 0 :: q.reserveToks else []

def Rq.pop (q : Rq) : Rq :=
  if q.sO + 1 = slots then { q with sN := q.sN + 1, sO := 0, items := q.items.tail }
  else { q with sO := q.sO + 1, items := q.items.tail }

def Rq.popToks (q : Rq) : List Tok :=
  if q.sO + 1 = slots then [Tok.free .rq nodeBytes] else []

/-- `_queue.push_back(h)` -/
def rqPush (s : State) (h : Nat) : State :=
  { s with rq := s.rq.push h, out := s.rq.pushToks ++ s.out, pushes := s.pushes + 1 }

/-- `_queue.pop_front()` -/
def rqPop (s : State) : State :=
  { s with rq := s.rq.pop, out := s.rq.popToks ++ s.out, pops := s.pops + 1 }

/-- first use of `queue_impl::instance` on the thread: the deque is constructed (map + one node) -/
def rqTouch (s : State) : State :=
  if s.rq.built then s
  else { s with rq := { s.rq with built := true },
                out := [Tok.alloc .rq nodeBytes 0, Tok.alloc .rq (initMap * ptrBytes) 0] ++ s.out }

/-- thread exit: the deque is destroyed (its nodes, then the map) -/
def rqDestroy (s : State) : State :=
  if s.rq.built then
    { s with rq := { s.rq with built := false },
             out := Tok.free .rq (s.rq.mapSize * ptrBytes) ::
                    (List.replicate (s.rq.fN - s.rq.sN + 1) (Tok.free .rq nodeBytes) ++ s.out) }
  else s

def rqExit (s : State) : State := if s.fresh then rqDestroy s else s

def pushAll (s : State) : List Nat → State
  | [] => s
  | h :: hs => pushAll (rqPush s h) hs

/-- a suspend point dropped by code running inside a coroutine: `suspend_now()` with an active queue -/
def dropActive (s : State) : State := freeTmp (pushAll s s.tmp.handles)

/-! ### futures -/

/-- `resume_chain_lk`: walk the awaiter chain, collect coroutine handles in `tmp`, fire callbacks -/
def walk (s : State) (i : Nat) : List Waiter → State
  | [] => s
  | .coro j :: ws => walk (addTmpR s j) i ws
  | .cb :: ws => walk (emit s (Tok.cb i)) i ws
  | .sync :: ws => walk s i ws

def outcomeOf (i : Nat) : Kind → Outcome
  | .v => .value (100 + i)
  | .e => .exc
  | .d => .canceled

/-- set the result and resolve: `tmp` := the returned suspend point -/
def settle (s : State) (i : Nat) (o : Outcome) : State :=
  walk (setFut (clearTmp s) i { s.futs i with claimed := true, ready := true, outcome := o, chain := [] })
       i (s.futs i).chain

/-- `promise::operator()`: nothing happens when the promise was already claimed -/
def resolve (s : State) (i : Nat) (k : Kind) : State :=
  if (s.futs i).claimed then clearTmp s else settle s i (outcomeOf i k)

/-- `co_await F_i` did not find the result: subscribe -/
def subscribe (s : State) (i : Nat) (w : Waiter) : State :=
  setFut s i { s.futs i with chain := w :: (s.futs i).chain }

/-- the future was resolved without a value: by an exception, or its promise was dropped -/
def Outcome.bad : Outcome → Bool
  | .exc => true
  | .canceled => true
  | _ => false

/-- `future::value()` called by user code `who` (`await_resume` of `co_await F_i`, `F_i.wait()`): when the future holds no
value it throws (`rethrow_exception` / `throw await_canceled_exception()`), which allocates the exception object -/
def throwTo (s : State) (who : Option Nat) (i : Nat) : State :=
  if (s.futs i).outcome.bad then emit s (Tok.thrown who i) else s

/-! ### mutex -/

def clearOwn (s : State) (m : Nat) : Option Nat → State
  | some j => setOwns s j m false
  | none => s

/-- `unlock`: the releasing party gives the mutex to the first waiter; `tmp` := the returned suspend point -/
def handOver (s : State) (m : Nat) (who : Option Nat) : State :=
  match (s.mxs m).waiters with
  | [] => clearOwn (setMx (clearTmp s) m { owner := .free, waiters := [] }) m who
  | w :: ws => addTmp (setOwns (clearOwn (setMx (clearTmp s) m { owner := .coro w, waiters := ws }) m who) w m true) w

/-! ### generators -/

def genStep (g : Gen) : Gen × Option Nat :=
  if g.done then (g, none)
  else if g.next < g.n then ({ g with next := g.next + 1 }, some g.next)
  else ({ g with done := true }, none)

/-- a whole range-for pass (`begin()`, `operator++` until `end()`): steps until the generator reports no more items -/
def genAll (g : Gen) : Gen := if g.done then g else { g with next := max g.next g.n, done := true }

/-- number of items such a pass sees -/
def genLeft (g : Gen) : Nat := if g.done then 0 else g.n - g.next

/-- a step of generator `g` made by coroutine `j` through action `a` -/
def coGenStep (s : State) (j g : Nat) (a : Act) : State :=
  if (s.gens g).exist then setGen (emit s (.act j (.stepped a (genStep (s.gens g)).2))) g (genStep (s.gens g)).1
  else emit s (.act j (.nogen a))

/-! ### one action of a running coroutine; result: the coroutine that runs next on this stack (`none` = return to the resumer) -/

/-- `co_await` of the suspend point in `tmp` by coroutine `j` -/
def awaitTmp (s : State) (j : Nat) : State × Option Nat :=
  match s.tmp.handles.getLast? with
  | none => (freeTmp s, some j)
  | some o => (freeTmp (rqPush (pushAll s s.tmp.handles.dropLast) j), some o)

def actStep (s : State) (j : Nat) : Act → State × Option Nat
  | .await i =>
      if (s.futs i).alive && !(s.futs i).ready then
        (subscribe (setScript (emit s (.act j (.did (.await i)))) j (.resumed i :: (s.cos j).script)) i (.coro j), none)
      else if (s.futs i).alive then (throwTo (emit s (.act j (.did (.await i)))) (some j) i, some j)
      else (emit s (.act j (.did (.await i))), some j)
  | .resumed i => (throwTo s (some j) i, some j)
  | .res i k =>
      if (s.futs i).existed then (dropActive (resolve (emit s (.act j (.did (.res i k)))) i k), some j)
      else (emit s (.act j (.did (.res i k))), some j)
  | .resAw i k =>
      if (s.futs i).existed then awaitTmp (resolve (emit s (.act j (.did (.resAw i k)))) i k) j
      else (emit s (.act j (.did (.resAw i k))), some j)
  | .lock m =>
      if (s.cos j).owns m then (emit s (.act j (.did (.lock m))), some j)
      else match (s.mxs m).owner with
        | .free => (setOwns (setMx (emit s (.act j (.did (.lock m)))) m { s.mxs m with owner := .coro j }) j m true, some j)
        | _ => (setMx (emit s (.act j (.did (.lock m)))) m { s.mxs m with waiters := (s.mxs m).waiters ++ [j] }, none)
  | .unlock m =>
      if (s.cos j).owns m then (dropActive (handOver (emit s (.act j (.did (.unlock m)))) m (some j)), some j)
      else (emit s (.act j (.did (.unlock m))), some j)
  | .unlockAw m =>
      if (s.cos j).owns m then awaitTmp (handOver (emit s (.act j (.did (.unlockAw m)))) m (some j)) j
      else (emit s (.act j (.did (.unlockAw m))), some j)
  | .park => (setSt (emit s (.act j (.did .park))) j .parked, none)
  | .pause =>
      match (rqPush (emit s (.act j (.did .pause))) j).rq.items with
      | h :: _ => (rqPop (rqPush (emit s (.act j (.did .pause))) j), some h)
      | [] => (rqPush (emit s (.act j (.did .pause))) j, some j)
  | .gstep g => (coGenStep s j g (.gstep g), some j)
  | .gstepAw g => (coGenStep s j g (.gstepAw g), some j)

/-- destructor of the `ownership` local `own[m]` at the end of the body -/
def relOwned (s : State) (j m : Nat) : State :=
  if (s.cos j).owns m then dropActive (handOver s m (some j)) else s

/-- end of the script: the `end` token, `co_return`, destruction of the locals `own[1]`, `own[0]` -/
def finishPre (s : State) (j : Nat) : State :=
  relOwned (relOwned (setSt (emit s (.act j .fin)) j .done) j 1) j 0

/-- `final_awaiter::await_suspend` after the frame is gone: `return sp.pop()`, the rest goes to the queue -/
def transferTmp (s : State) : State × Option Nat :=
  match s.tmp.handles.getLast? with
  | none => (freeTmp s, none)
  | some o => (freeTmp (pushAll s s.tmp.handles.dropLast), some o)

/-- the script is exhausted: `co_return`, destruction of the locals, `final_suspend` -/
def finish (s : State) (j : Nat) : State × Option Nat :=
  match (s.cos j).bind with
  | none => (freeFrame (finishPre s j) (s.cos j).heap, none)
  | some i => transferTmp (freeFrame (settle (finishPre s j) i (.value (1000 + j))) (s.cos j).heap)

/-- resume coroutine `j` and follow the symmetric transfers until control returns to the resumer -/
def runCo : Nat → State → Nat → State
  | 0, s, _ => s
  | fuel + 1, s, j =>
      match (s.cos j).script with
      | [] =>
          match finish s j with
          | (s', some k) => runCo fuel s' k
          | (s', none) => s'
      | a :: rest =>
          match actStep (setScript s j rest) j a with
          | (s', some k) => runCo fuel s' k
          | (s', none) => s'

/-- `flush_queue()` -/
def flushQ : Nat → State → State
  | 0, s => s
  | fuel + 1, s =>
      match s.rq.items with
      | [] => s
      | h :: _ => flushQ fuel (runCo fuel (rqPop s) h)

def resumeAll (fuel : Nat) (s : State) : List Nat → State
  | [] => s
  | h :: hs => resumeAll fuel (runCo fuel s h) hs

/-- the suspend point in `tmp` is dropped by ordinary code: `suspend_now()` without an active queue -/
def dropNormal (fuel : Nat) (s : State) : State :=
  match s.tmp.handles with
  | [] => freeTmp s
  | h :: hs => freePend (flushQ fuel (resumeAll fuel (rqTouch (stashTmp s)) (h :: hs)))

/-- `coro_queue::resume(h)` from ordinary code -/
def resumeNormal (fuel : Nat) (s : State) (h : Nat) : State := flushQ fuel (runCo fuel (rqTouch s) h)

/-! ### operations of ordinary code -/

inductive Op where
  | fut (i : Nat)
  | res (i : Nat) (k : Kind)
  | resX (i : Nat)                   -- promise destructor
  | cb (i : Nat)
  | bs (i : Nat)
  | bw (i : Nat)
  | del (i : Nat)
  | co (j : Nat) (heap : Bool) (bind : Option Nat) (script : List Act)
  | tl (m : Nat)
  | ul (m : Nat)
  | sa (k j : Nat)
  | sp (k : Nat)
  | sf (k : Nat)
  | sm (k k2 : Nat)                  -- `S_k << std::move(S_k2)` / `S_k = std::move(S_k2)`
  | rm (k i : Nat) (kd : Kind)       -- `S_k << P_i(..)`: the result of a resolution is merged into `S_k`
  | bd (i size : Nat)                -- `B_i = P_i.bind(value of `size` bytes)`: the promise moves into the callable
  | bi (i : Nat)                     -- `B_i()`: resolve with the bound value
  | bx (i : Nat)                     -- destroy `B_i` (drops the promise if it was never invoked)
  | gen (g : Nat) (heap : Bool) (n : Nat)
  | gs (g : Nat) (viaFuture : Bool)
  | gr (g : Nat)                     -- `for (v : G_g)`: a whole range-for pass over whatever is left
  | gd (g : Nat)
  | fin
  deriving Inhabited

def markActive (s : State) : List Nat → State
  | [] => s
  | h :: hs => markActive (setSt s h .active) hs

def opCo (fuel : Nat) (s : State) (j : Nat) (heap : Bool) (bind : Option Nat) (script : List Act) : State :=
  match bind with
  | none =>
      dropNormal fuel (addTmp (clearTmp (setCo (allocFrame s heap) j
        { st := .active, heap := heap, bind := none, script := script })) j)
  | some i =>
      if (s.futs i).claimed then
        freeFrame (setCo (allocFrame s heap) j { st := .done, heap := heap, bind := none, script := script }) heap
      else
        dropNormal fuel (addTmp (clearTmp (setFut (setCo (allocFrame s heap) j
          { st := .active, heap := heap, bind := some i, script := script }) i { s.futs i with claimed := true })) j)

def drainMx (fuel : Nat) (s : State) (m : Nat) : State :=
  if (s.mxs m).owner = .main then dropNormal fuel (handOver (setMoved s true) m none) else s

def drainFut (fuel : Nat) (s : State) (i : Nat) : State :=
  if (s.futs i).existed && !(s.futs i).claimed then dropNormal fuel (resolve (setMoved s true) i .d) else s

/-- `B_i()`: the bound callable resolves the future with the bound value (once) -/
def callBound (fuel : Nat) (s : State) (i : Nat) : State :=
  match (s.futs i).bnd with
  | none => s
  | some true => dropNormal fuel (settle (setFut s i { s.futs i with bnd := some false }) i (.value (100 + i)))
  | some false => dropNormal fuel (clearTmp s)

/-- the bound callable is destroyed: `~promise` resolves without a value if the callable was never invoked -/
def killBound (fuel : Nat) (s : State) (i : Nat) : State :=
  match (s.futs i).bnd with
  | none => s
  | some true => dropNormal fuel (settle (setFut s i { s.futs i with bnd := none }) i .canceled)
  | some false => setFut s i { s.futs i with bnd := none }

def drainBnd (fuel : Nat) (s : State) (i : Nat) : State :=
  if (s.futs i).bnd.isSome then killBound fuel (setMoved s true) i else s

def drainCo (fuel : Nat) (s : State) (j : Nat) : State :=
  if (s.cos j).st = .parked then resumeNormal fuel (setSt (setMoved s true) j .active) j else s

def flushSp (fuel : Nat) (s : State) (k : Nat) : State :=
  dropNormal fuel (markActive (loadSp s k) (s.sps k).handles)

def drainSp (fuel : Nat) (s : State) (k : Nat) : State :=
  if (s.sps k).handles.isEmpty then s else flushSp fuel (setMoved s true) k

def drainRound (fuel : Nat) (s : State) : State :=
  (List.range nSp).foldl (drainSp fuel)
    ((List.range maxId).foldl (drainCo fuel)
      ((List.range maxId).foldl (drainBnd fuel)
        ((List.range maxId).foldl (drainFut fuel)
          ((List.range nMx).foldl (drainMx fuel) (setMoved s false)))))

def drain : Nat → Nat → State → State
  | 0, _, s => s
  | r + 1, fuel, s => if (drainRound fuel s).moved then drain r fuel (drainRound fuel s) else drainRound fuel s

def killGen (s : State) (g : Nat) : State :=
  if (s.gens g).exist then freeFrame (setGen s g { (s.gens g) with exist := false }) (s.gens g).heap else s

def opFin (fuel : Nat) (s : State) : State :=
  rqExit (killSp (killSp ((List.range maxId).foldl killGen (drain fuel fuel s)) 1) 0)

def bindOk (s : State) : Option Nat → Bool
  | some i => (s.futs i).existed
  | none => true

/-- ordinary code resumes the body of generator `g` (it is not done): the thread's queue is installed for the activation -/
def genTouch (s : State) (g : Nat) : State := if (s.gens g).done then s else rqTouch s

/-- one operation of ordinary code -/
def step (fuel : Nat) (s : State) : Op → State
  | .fut i => if (s.futs i).existed then s else setFut s i { existed := true, alive := true }
  | .res i k => if (s.futs i).existed then dropNormal fuel (resolve s i k) else s
  | .resX i => if (s.futs i).existed then dropNormal fuel (resolve s i .d) else s
  | .cb i => if (s.futs i).alive && !(s.futs i).ready then subscribe s i .cb else s
  | .bs i => if (s.futs i).alive && !(s.futs i).ready then subscribe s i .sync else s
  -- `F_i.wait()` by ordinary code: `value()` throws when the future holds no value
  | .bw i => if (s.futs i).alive && (s.futs i).ready then throwTo s none i else s
  | .del i => if (s.futs i).alive && (s.futs i).ready then setFut s i { s.futs i with alive := false } else s
  | .co j heap bind script =>
      if (s.cos j).st = .unborn && bindOk s bind then opCo fuel s j heap bind script
      else s
  | .tl m =>
      if (s.mxs m).owner = .free then setMx s m { s.mxs m with owner := .main } else s
  | .ul m => if (s.mxs m).owner = .main then dropNormal fuel (handOver s m none) else s
  | .sa k j => if (s.cos j).st = .parked then addSp (setSt s j (.insp k)) k j else s
  | .sp k =>
      match (s.sps k).handles.getLast? with
      | none => s
      | some h => resumeNormal fuel (setSt (popSp s k) h .active) h
  | .sf k => flushSp fuel s k
  | .sm k k2 => if k = k2 then s else mergeTmpInto (loadSp s k2) k
  | .rm k i kd => if (s.futs i).existed then mergeTmpInto (resolve s i kd) k else s
  | .bd i _ =>
      if (s.futs i).existed && (s.futs i).bnd.isNone then
        setFut s i { s.futs i with bnd := some (!(s.futs i).claimed), claimed := true }
      else s
  | .bi i => callBound fuel s i
  | .bx i => killBound fuel s i
  | .gen g heap n =>
      if (s.gens g).exist then s
      else setGen (allocFrame s heap) g { exist := true, heap := heap, next := 0, n := n, done := false }
  -- ordinary code steps the generator: `next_sync` / `next_future` resume its body under an installed queue (`resume_in_queue`,
  -- /repo fix 191263e), i.e. the first such step on a thread that never used its ready queue constructs the deque; a generator
  -- that is done is not resumed (`next_awt::operator bool` answers from `done()`; `gs g true` is `if (!G.done()) f = G()`)
  | .gs g _ => if (s.gens g).exist then setGen (genTouch s g) g (genStep (s.gens g)).1 else s
  | .gr g => if (s.gens g).exist then setGen (genTouch s g) g (genAll (s.gens g)) else s
  | .gd g => killGen s g
  | .fin => opFin fuel s

/-- number of coroutines that were started and did not finish -/
def leftOf (s : State) : Nat :=
  ((List.range maxId).filter (fun j => (s.cos j).st != .unborn && (s.cos j).st != .done)).length

/-- run a whole program -/
def run (fuel : Nat) (fresh : Bool) (prog : List Op) : State := prog.foldl (step fuel) (init fresh)

def isEv : Tok → Bool
  | .alloc .. => true
  | .free .. => true
  | .thrown .. => true
  | _ => false

/-- the allocation log, oldest first -/
def allocLog (s : State) : List Tok := (s.out.filter isEv).reverse

end Cocls.Alloc
