import CoclsModel.SharedFuture
/-!
Invariant of the shared_future micro-step model (`SharedFuture.lean`).  `Inv` is divided into the clauses about one thread's
program counter (`Thr`, with `Own` = what is known at each program counter) and the clauses that see the program counters only
through the walker's list and the in-flight counts (`Dat`, of which `Refs` is the reference count); `Inv.thr` / `Inv.dat` and
`Inv.of_parts` convert.  A step lemma (`SharedFutureSteps.lean`) goes through `Inv.step` / `Inv.setPc` (or `Inv.of_step` when
the step changes the class `cls` of the program counter or a shared field beyond what `SameShared` allows) and proves `Own`
at the new program counter and the clauses of `Dat` that the step touches.
-/
namespace Cocls.SharedFuture

/-- pending wake-ups of `x` in the walker's list -/
def cntW (x : Nat) : List WAct → Nat
  | [] => 0
  | WAct.store y :: l => (if y = x then 1 else 0) + cntW x l
  | WAct.wake y :: l => (if y = x then 1 else 0) + cntW x l
  | _ :: l => cntW x l

/-- pending observations of `x` in the walker's list -/
def cntO (x : Nat) : List WAct → Nat
  | [] => 0
  | WAct.wake y :: l => (if y = x then 1 else 0) + cntO x l
  | WAct.obsAfter y _ :: l => (if y = x then 1 else 0) + cntO x l
  | _ :: l => cntO x l

def cntS (x : Nat) : List WAct → Nat
  | [] => 0
  | WAct.store y :: l => (if y = x then 1 else 0) + cntS x l
  | _ :: l => cntS x l

def cntRel : List WAct → Nat
  | [] => 0
  | WAct.release :: l => 1 + cntRel l
  | _ :: l => cntRel l

def nCharge : List CI → Nat
  | [] => 0
  | CI.charge _ :: l => 1 + nCharge l
  | _ :: l => nCharge l

def inflight : Pc → Nat
  | Pc.hCas _ _ _ => 1
  | Pc.hRead k _ => if k = WK.peek then 0 else 1
  | Pc.hRead2 k _ _ => if k = WK.peek then 0 else 1
  | Pc.hWait _ => 1
  | Pc.hBlocked _ => 1
  | _ => 0

def actsOf : Pc → List WAct
  | Pc.rRun a => a
  | _ => []

def wacts (c : Cfg) (s : State) : List WAct := actsOf (s.pc c.rtid)

def isCtor : Pc → Bool
  | Pc.cRun _ => true
  | _ => false

def pcOK (c : Cfg) (t : Nat) : Pc → Prop
  | Pc.done => True
  | Pc.cRun _ => t = 0 ∧ t < c.n
  | Pc.hStart => kindOf c t = Kind.handle ∧ t < c.n
  | Pc.hGate => kindOf c t = Kind.handle ∧ t < c.n
  | Pc.hRun _ => kindOf c t ≠ Kind.res ∧ t < c.n
  | Pc.hCas _ _ _ => kindOf c t ≠ Kind.res ∧ t < c.n
  | Pc.hWait _ => kindOf c t ≠ Kind.res ∧ t < c.n
  | Pc.hBlocked _ => kindOf c t ≠ Kind.res ∧ t < c.n
  | Pc.hRead _ _ => kindOf c t ≠ Kind.res ∧ t < c.n
  | Pc.hRead2 _ _ _ => kindOf c t ≠ Kind.res ∧ t < c.n
  | Pc.rStart => kindOf c t = Kind.res ∧ t < c.n
  | Pc.rGate => kindOf c t = Kind.res ∧ t < c.n
  | Pc.rResolve => kindOf c t = Kind.res ∧ t < c.n
  | Pc.rRun _ => kindOf c t = Kind.res ∧ t < c.n

def postCtor : Pc → Bool
  | Pc.hRun _ => true
  | Pc.hCas _ _ _ => true
  | Pc.hWait _ => true
  | Pc.hBlocked _ => true
  | Pc.hRead _ _ => true
  | Pc.hRead2 _ _ _ => true
  | _ => false

/-- before the resolver's exchange -/
def preResolve : Pc → Bool
  | Pc.rStart => true
  | Pc.rGate => true
  | Pc.rResolve => true
  | _ => false

def preClaim : Pc → Bool
  | Pc.rStart => true
  | Pc.rGate => true
  | _ => false

def finalPayload (c : Cfg) : Outcome := if c.mode.hasPromise then c.rk.payload else c.mode.initPayload

def Fixed (c : Cfg) : Prop := c.asIsInit = false ∧ c.asIsLshift = false

structure Inv (c : Cfg) (s : State) : Prop where
  pcok : ∀ t, pcOK c t (s.pc t)
  aCas : ∀ t k e p, s.pc t = Pc.hCas k e p →
    k ≠ WK.peek ∧ s.akind t = k ∧ s.awaited t = true ∧ s.subscribed t = false ∧ 1 ≤ s.held t
  aRead : ∀ t k p, s.pc t = Pc.hRead k p →
    (k = WK.peek ∨ (s.akind t = k ∧ s.awaited t = true)) ∧ 1 ≤ s.held t ∧ s.slot = Slot.ready
  aRead2 : ∀ t k sn p, s.pc t = Pc.hRead2 k sn p →
    (k = WK.peek ∨ (s.akind t = k ∧ s.awaited t = true)) ∧ 1 ≤ s.held t ∧ s.slot = Slot.ready ∧ sn = Seen.ready
  aWait : ∀ t p, (s.pc t = Pc.hWait p ∨ s.pc t = Pc.hBlocked p) →
    s.akind t = WK.sync ∧ s.awaited t = true ∧ s.subscribed t = true ∧ 1 ≤ s.held t
  aCtor : ∀ t is, s.pc t = Pc.cRun is →
    1 ≤ s.held t ∧ s.constructed = false ∧ nCharge is ≤ 1 ∧ (nCharge is = 1 → s.tracerRef = false) ∧
      (s.slot ≠ Slot.ready → s.tracerRef = false → nCharge is = 1) ∧ (CI.loadTmp ∈ is → c.mode.hasPromise = true)
  aGate : ∀ t, (s.pc t = Pc.hStart ∨ s.pc t = Pc.hGate) → s.held t = if s.given then 1 else 0
  aDone : ∀ t, s.pc t = Pc.done → s.held t = 0
  aRun : ∀ t a, s.pc t = Pc.rRun a → s.slot = Slot.ready ∧ s.published = true
  aResolve : ∀ t, s.pc t = Pc.rResolve → s.published = true
  ctor0 : s.constructed = false → ∀ t, s.awaited t = false
  pub : s.published = false → ∀ t, kindOf c t = Kind.res → t < c.n → preClaim (s.pc t) = true
  nopromise : c.mode.hasPromise = false → s.published = false ∧ s.slot = Slot.ready
  pending : ∀ t, kindOf c t = Kind.res → t < c.n → preResolve (s.pc t) = true → c.mode.hasPromise = true → s.slot ≠ Slot.ready
  resolved : ∀ t, kindOf c t = Kind.res → t < c.n → preResolve (s.pc t) = false → s.slot = Slot.ready
  pay : s.slot = Slot.ready → s.payload = finalPayload c
  obsAfterReady : ∀ x sn, WAct.obsAfter x sn ∈ wacts c s → sn = Seen.ready
  alive : s.slot ≠ Slot.ready → s.tracerRef = true ∨ isCtor (s.pc 0) = true
  refsLen : s.refs = s.holders.length
  hThread : ∀ t, s.holders.count (Holder.thread t) = s.held t
  hCtx : ∀ t, s.holders.count (Holder.ctx t) = if s.ctx t then 1 else 0
  hTracer : s.holders.count Holder.tracer = if s.tracerRef then 1 else 0
  freedIff : s.freed = if s.refs = 0 then 1 else 0
  noUaf : s.uaf = 0
  noCrash : s.crashed = false
  tracerCnt : (chainOf s.slot).count Node.tracer + cntRel (wacts c s) = if s.tracerRef then 1 else 0
  tracerLast : Node.tracer ∈ chainOf s.slot → (chainOf s.slot).getLast? = some Node.tracer
  wake : ∀ x, (chainOf s.slot).count (Node.aw x) + cntW x (wacts c s) + s.woken x = if s.subscribed x then 1 else 0
  obsv : ∀ x, s.observed x + inflight (s.pc x) + (if s.akind x = WK.sync then 0 else (chainOf s.slot).count (Node.aw x)) +
            cntO x (wacts c s) = if s.awaited x then 1 else 0
  subAw : ∀ x, s.subscribed x = true → s.awaited x = true
  awKind : ∀ x, s.awaited x = true → s.akind x ≠ WK.peek
  ctxIff : ∀ x, s.ctx x = true ↔ (s.awaited x = true ∧ ownsCtx (s.akind x) = true ∧ s.observed x = 0)
  wakeKind : ∀ x, 0 < cntO x (wacts c s) → s.akind x ≠ WK.sync
  storeKind : ∀ x, 0 < cntS x (wacts c s) → s.akind x = WK.sync
  flagIff : ∀ x, s.flag x = true ↔ (s.akind x = WK.sync ∧ 1 ≤ s.woken x)
  wokenReady : ∀ x, 1 ≤ s.woken x → s.slot = Slot.ready
  resHeld : ∀ t, kindOf c t = Kind.res → s.held t = 0
  aProg : ∀ t, postCtor (s.pc t) = true → s.constructed = true
  aPre : s.constructed = false → ∀ t, t < c.n → kindOf c t = Kind.handle → (s.pc t = Pc.hStart ∨ s.pc t = Pc.hGate)
  ctorPc : s.constructed = false → isCtor (s.pc 0) = true
  pubPc : s.published = false → c.mode.hasPromise = true → ∀ is, s.pc 0 = Pc.cRun is → CI.loadTmp ∈ is
  pubCtor : s.published = false → c.mode.hasPromise = true → isCtor (s.pc 0) = true
  givenC : s.constructed = true → s.given = true

def Own (c : Cfg) (s : State) (t : Nat) : Pc → Prop
  | Pc.hCas k _ _ => k ≠ WK.peek ∧ s.akind t = k ∧ s.awaited t = true ∧ s.subscribed t = false ∧ 1 ≤ s.held t
  | Pc.hRead k _ => (k = WK.peek ∨ (s.akind t = k ∧ s.awaited t = true)) ∧ 1 ≤ s.held t ∧ s.slot = Slot.ready
  | Pc.hRead2 k sn _ =>
      (k = WK.peek ∨ (s.akind t = k ∧ s.awaited t = true)) ∧ 1 ≤ s.held t ∧ s.slot = Slot.ready ∧ sn = Seen.ready
  | Pc.hWait _ | Pc.hBlocked _ => s.akind t = WK.sync ∧ s.awaited t = true ∧ s.subscribed t = true ∧ 1 ≤ s.held t
  | Pc.cRun is =>
      (1 ≤ s.held t ∧ s.constructed = false ∧ nCharge is ≤ 1 ∧ (nCharge is = 1 → s.tracerRef = false) ∧
        (s.slot ≠ Slot.ready → s.tracerRef = false → nCharge is = 1) ∧ (CI.loadTmp ∈ is → c.mode.hasPromise = true)) ∧
      (s.published = false → c.mode.hasPromise = true → CI.loadTmp ∈ is)
  | Pc.hStart | Pc.hGate => s.held t = if s.given then 1 else 0
  | Pc.done => s.held t = 0
  | Pc.rRun _ => s.slot = Slot.ready ∧ s.published = true
  | Pc.rResolve => s.published = true
  | _ => True

def gate : Pc → Bool
  | Pc.hStart | Pc.hGate => true
  | _ => false

/-- `p` stands for `s.pc t` -/
structure Thr (c : Cfg) (s : State) (t : Nat) (p : Pc) : Prop where
  pcok : pcOK c t p
  own : Own c s t p
  aProg : postCtor p = true → s.constructed = true
  aPre : s.constructed = false → t < c.n → kindOf c t = Kind.handle → gate p = true
  /-- `pub`, `pending`, `resolved` -/
  res : kindOf c t = Kind.res → t < c.n → (s.published = false → preClaim p = true) ∧
    (preResolve p = true → c.mode.hasPromise = true → s.slot ≠ Slot.ready) ∧ (preResolve p = false → s.slot = Slot.ready)
  /-- `alive`, `ctorPc`, `pubCtor` -/
  ctor : t = 0 → (s.slot ≠ Slot.ready → s.tracerRef = true ∨ isCtor p = true) ∧ (s.constructed = false → isCtor p = true) ∧
    (s.published = false → c.mode.hasPromise = true → isCtor p = true)

structure Refs (s : State) : Prop where
  refsLen : s.refs = s.holders.length
  hThread : ∀ t, s.holders.count (Holder.thread t) = s.held t
  hCtx : ∀ t, s.holders.count (Holder.ctx t) = if s.ctx t then 1 else 0
  hTracer : s.holders.count Holder.tracer = if s.tracerRef then 1 else 0
  freedIff : s.freed = if s.refs = 0 then 1 else 0

structure Dat (c : Cfg) (s : State) (W : List WAct) (I : Nat → Nat) : Prop extends Refs s where
  ctor0 : s.constructed = false → ∀ t, s.awaited t = false
  nopromise : c.mode.hasPromise = false → s.published = false ∧ s.slot = Slot.ready
  pay : s.slot = Slot.ready → s.payload = finalPayload c
  obsAfterReady : ∀ x sn, WAct.obsAfter x sn ∈ W → sn = Seen.ready
  noUaf : s.uaf = 0
  noCrash : s.crashed = false
  tracerCnt : (chainOf s.slot).count Node.tracer + cntRel W = if s.tracerRef then 1 else 0
  tracerLast : Node.tracer ∈ chainOf s.slot → (chainOf s.slot).getLast? = some Node.tracer
  wake : ∀ x, (chainOf s.slot).count (Node.aw x) + cntW x W + s.woken x = if s.subscribed x then 1 else 0
  obsv : ∀ x, s.observed x + I x + (if s.akind x = WK.sync then 0 else (chainOf s.slot).count (Node.aw x)) +
            cntO x W = if s.awaited x then 1 else 0
  subAw : ∀ x, s.subscribed x = true → s.awaited x = true
  awKind : ∀ x, s.awaited x = true → s.akind x ≠ WK.peek
  ctxIff : ∀ x, s.ctx x = true ↔ (s.awaited x = true ∧ ownsCtx (s.akind x) = true ∧ s.observed x = 0)
  wakeKind : ∀ x, 0 < cntO x W → s.akind x ≠ WK.sync
  storeKind : ∀ x, 0 < cntS x W → s.akind x = WK.sync
  flagIff : ∀ x, s.flag x = true ↔ (s.akind x = WK.sync ∧ 1 ≤ s.woken x)
  wokenReady : ∀ x, 1 ≤ s.woken x → s.slot = Slot.ready
  resHeld : ∀ t, kindOf c t = Kind.res → s.held t = 0
  givenC : s.constructed = true → s.given = true

variable {c : Cfg} {s : State} {t : Nat}

theorem touch_eq (hf : s.freed = 0) : touch s = s := by unfold touch; rw [if_pos hf]

theorem dropRef_fst (x : Holder) (hf : s.freed = 0) :
    (dropRef s t x).1 = { s with refs := s.refs - 1, holders := s.holders.erase x, freed := if s.refs = 1 then 1 else 0 } := by
  unfold dropRef
  split
  · rename_i h1; simp [touch_eq hf, h1, hf]
  · simp [touch_eq hf, hf]

theorem upd_self {α} (f : Nat → α) (i : Nat) : upd f i (f i) = f := by
  funext j; unfold upd; split <;> simp [*]

theorem kindOf_zero (c : Cfg) : kindOf c 0 = Kind.creator := by simp [kindOf]

theorem kind_creator_iff (c : Cfg) (t : Nat) : kindOf c t = Kind.creator ↔ t = 0 := by
  unfold kindOf; by_cases h0 : t = 0 <;> by_cases h1 : t = c.rtid <;> simp_all <;> omega

theorem kind_res_iff (c : Cfg) (t : Nat) : kindOf c t = Kind.res ↔ (t ≠ 0 ∧ t = c.rtid) := by
  unfold kindOf; by_cases h0 : t = 0 <;> by_cases h1 : t = c.rtid <;> simp_all <;> omega

theorem kind_handle_iff (c : Cfg) (t : Nat) : kindOf c t = Kind.handle ↔ (t ≠ 0 ∧ t ≠ c.rtid) := by
  unfold kindOf; by_cases h0 : t = 0 <;> by_cases h1 : t = c.rtid <;> simp_all <;> omega

theorem cntS_le_cntW (x : Nat) (l : List WAct) : cntS x l ≤ cntW x l := by
  induction l with
  | nil => simp [cntS, cntW]
  | cons a l ih => cases a <;> simp [cntS, cntW] <;> omega

def owned (s : State) : Holder → Nat
  | Holder.thread t => s.held t
  | Holder.ctx t => if s.ctx t then 1 else 0
  | Holder.tracer => if s.tracerRef then 1 else 0

theorem Refs.count (r : Refs s) (x : Holder) : s.holders.count x = owned s x := by
  cases x with
  | thread t => exact r.hThread t
  | ctx t => exact r.hCtx t
  | tracer => exact r.hTracer

theorem Inv.refs (h : Inv c s) : Refs s := { h with }

theorem alive_of_owned (h : Inv c s) (x : Holder) (hx : 0 < owned s x) : 1 ≤ s.refs ∧ s.freed = 0 := by
  have := List.length_pos_of_mem (List.count_pos_iff.1 (h.refs.count x ▸ hx))
  have h1 := h.refsLen
  have h2 := h.freedIff
  constructor
  · omega
  · rw [h2]; simp; omega

theorem alive_of_held (h : Inv c s) (hh : s.held t ≠ 0) : 1 ≤ s.refs ∧ s.freed = 0 :=
  alive_of_owned h (Holder.thread t) (Nat.pos_of_ne_zero hh)

theorem alive_of_ctx (h : Inv c s) (x : Nat) (hh : s.ctx x = true) : 1 ≤ s.refs ∧ s.freed = 0 :=
  alive_of_owned h (Holder.ctx x) (by simp [owned, hh])

theorem alive_of_tracer (h : Inv c s) (hh : s.tracerRef = true) : 1 ≤ s.refs ∧ s.freed = 0 :=
  alive_of_owned h Holder.tracer (by simp [owned, hh])

variable {s' : State} {p q : Pc}

theorem Refs.of_count (h1 : s.refs = s.holders.length) (h2 : ∀ x, s.holders.count x = owned s x)
    (h3 : s.freed = if s.refs = 0 then 1 else 0) : Refs s :=
  ⟨h1, fun t => h2 (.thread t), fun t => h2 (.ctx t), h2 .tracer, h3⟩

theorem Refs.add (r : Refs s) (x : Holder) (hf : s.freed = 0) (hr : s'.refs = s.refs + 1) (hh : s'.holders = x :: s.holders)
    (hfr : s'.freed = s.freed) (ho : ∀ y, owned s' y = owned s y + if x = y then 1 else 0) : Refs s' := by
  refine .of_count (by rw [hr, hh, r.refsLen]; rfl) (fun y => ?_) (by rw [hfr, hf, hr]; rfl)
  rw [hh, ho, List.count_cons, r.count]
  simp

theorem Refs.drop (r : Refs s) (x : Holder) (hx : 0 < owned s x) (hr : s'.refs = s.refs - 1) (hh : s'.holders = s.holders.erase x)
    (hfr : s'.freed = if s.refs = 1 then 1 else 0) (ho : ∀ y, owned s' y = owned s y - if x = y then 1 else 0) : Refs s' := by
  have hm : x ∈ s.holders := List.count_pos_iff.1 (r.count x ▸ hx)
  have := r.refsLen
  refine .of_count (by rw [hr, hh, List.length_erase_of_mem hm, r.refsLen]) (fun y => ?_) (by rw [hfr, hr]; grind)
  rw [hh, ho, List.count_erase, r.count]
  simp

theorem Inv.own (h : Inv c s) (t : Nat) : Own c s t (s.pc t) := by
  cases hp : s.pc t with
  | hCas k e l => exact h.aCas t k e l hp
  | hRead k l => exact h.aRead t k l hp
  | hRead2 k sn l => exact h.aRead2 t k sn l hp
  | hWait l => exact h.aWait t l (Or.inl hp)
  | hBlocked l => exact h.aWait t l (Or.inr hp)
  | cRun is =>
      have h0 := h.pcok t
      rw [hp] at h0
      obtain ⟨rfl, _⟩ := h0
      exact ⟨h.aCtor 0 is hp, fun h1 h2 => h.pubPc h1 h2 is hp⟩
  | hStart => exact h.aGate t (Or.inl hp)
  | hGate => exact h.aGate t (Or.inr hp)
  | done => exact h.aDone t hp
  | rRun a => exact h.aRun t a hp
  | rResolve => exact h.aResolve t hp
  | _ => trivial

theorem Inv.own_at (h : Inv c s) (hq : s.pc t = q) : Own c s t q := hq ▸ h.own t

theorem gate_iff (p : Pc) : gate p = true ↔ p = Pc.hStart ∨ p = Pc.hGate := by cases p <;> simp [gate]

theorem Inv.thr (h : Inv c s) (t : Nat) : Thr c s t (s.pc t) :=
  ⟨h.pcok t, h.own t, h.aProg t, fun hc hn hk => (gate_iff _).2 (h.aPre hc t hn hk),
   fun hk hn => ⟨fun hp => h.pub hp t hk hn, h.pending t hk hn, h.resolved t hk hn⟩,
   fun h0 => h0 ▸ ⟨h.alive, h.ctorPc, h.pubCtor⟩⟩

theorem Inv.thr_at (h : Inv c s) (hq : s.pc t = q) : Thr c s t q := hq ▸ h.thr t

theorem Inv.dat (h : Inv c s) : Dat c s (wacts c s) (fun x => inflight (s.pc x)) := { h with }

theorem Inv.of_parts (thr : ∀ u, Thr c s u (s.pc u)) (d : Dat c s (wacts c s) (fun x => inflight (s.pc x))) : Inv c s := by
  have own {u : Nat} {q : Pc} (hq : s.pc u = q) : Own c s u q := hq ▸ (thr u).own
  exact
    { d with
      pcok := fun u => (thr u).pcok
      aCas := fun u k e l hp => own hp
      aRead := fun u k l hp => own hp
      aRead2 := fun u k sn l hp => own hp
      aWait := fun u l hp => hp.elim (own ·) (own ·)
      aCtor := fun u is hp => (own hp).1
      aGate := fun u hp => hp.elim (own ·) (own ·)
      aDone := fun u hp => own hp
      aRun := fun u a hp => own hp
      aResolve := fun u hp => own hp
      aProg := fun u => (thr u).aProg
      pub := fun hp u hk hn => ((thr u).res hk hn).1 hp
      pending := fun u hk hn => ((thr u).res hk hn).2.1
      resolved := fun u hk hn => ((thr u).res hk hn).2.2
      aPre := fun hc u hn hk => (gate_iff _).1 ((thr u).aPre hc hn hk)
      alive := ((thr 0).ctor rfl).1
      ctorPc := ((thr 0).ctor rfl).2.1
      pubPc := fun h1 h2 is hp => (own hp).2 h1 h2
      pubCtor := ((thr 0).ctor rfl).2.2 }

theorem false_of_imp {a b : Bool} (h : a = true → b = true) (hb : b = false) : a = false := by
  cases a <;> simp_all

structure SameOwn (s s' : State) (t : Nat) : Prop where
  akind : s'.akind t = s.akind t
  awaited : s'.awaited t = s.awaited t
  subscribed : s'.subscribed t = s.subscribed t
  held : s'.held t = s.held t

/-- `Own` reads `constructed` and `tracerRef` only while constructing, `given` only at the gate -/
theorem Own.frame (h : Own c s t p) (gp : s.published = true → s'.published = true)
    (gc : isCtor p = true → s'.constructed = s.constructed ∧ s'.tracerRef = s.tracerRef) (gg : gate p = true → s'.given = s.given)
    (gs : s'.slot = Slot.ready ↔ s.slot = Slot.ready) (e : SameOwn s s' t) : Own c s' t p := by
  obtain ⟨e1, e2, e3, e4⟩ := e
  cases p <;> simp only [Own, ne_eq, gs, e1, e2, e3, e4] at h ⊢
  case cRun is => rw [(gc rfl).1, (gc rfl).2]; exact ⟨h.1, fun a => h.2 (false_of_imp gp a)⟩
  case hStart => rw [gg rfl]; exact h
  case hGate => rw [gg rfl]; exact h
  case rRun a => exact ⟨h.1, gp h.2⟩
  case rResolve => exact gp h
  all_goals exact h

/-- all that the clauses common to the threads of one kind read of a program counter -/
def cls (p : Pc) := (preClaim p, preResolve p, isCtor p, gate p)

theorem Thr.move (h : Thr c s t q) (hp : postCtor p = true → postCtor q = true) (hc : cls p = cls q)
    (gp : s.published = true → s'.published = true) (gc : s.constructed = true → s'.constructed = true)
    (g0 : t = 0 → s'.constructed = s.constructed ∧ s'.tracerRef = s.tracerRef) (gs : s'.slot = Slot.ready ↔ s.slot = Slot.ready)
    (hok : pcOK c t p) (hown : Own c s' t p) : Thr c s' t p := by
  simp only [cls, Prod.mk.injEq] at hc
  obtain ⟨c2, c3, c4, c5⟩ := hc
  refine ⟨hok, hown, fun a => gc (h.aProg (hp a)), ?_, fun hk hn => ?_, fun a => ?_⟩
  · rw [c5]; exact fun a => h.aPre (false_of_imp gc a)
  · obtain ⟨r1, r2, r3⟩ := h.res hk hn
    rw [c2, c3, ne_eq, gs]; exact ⟨fun a => r1 (false_of_imp gp a), r2, r3⟩
  · obtain ⟨a1, a2, a3⟩ := h.ctor a
    rw [c4, ne_eq, gs, (g0 a).1, (g0 a).2]; exact ⟨a1, a2, fun x y => a3 (false_of_imp gp x) y⟩

theorem isCtor_zero (hk : pcOK c t p) (hc : isCtor p = true) : t = 0 := by
  cases p <;> first | exact hk.1 | cases hc

/-- A thread other than the creator is never constructing: `constructed` may become true and `tracerRef` change under it. -/
theorem Thr.frame (h : Thr c s t p) (gp : s.published = true → s'.published = true)
    (gc : s.constructed = true → s'.constructed = true) (g0 : t = 0 → s'.constructed = s.constructed ∧ s'.tracerRef = s.tracerRef)
    (gg : gate p = true → s'.given = s.given) (gs : s'.slot = Slot.ready ↔ s.slot = Slot.ready) (e : SameOwn s s' t) : Thr c s' t p :=
  h.move id rfl gp gc g0 gs h.pcok (h.own.frame gp (fun a => g0 (isCtor_zero h.pcok a)) gg gs e)

/-- The shared fields that `Thr` reads.  A conjunction and not a structure: `SameShared.rfl` is then also a proof between two
states that differ in other fields only. -/
def SameShared (s s' : State) : Prop :=
  (s.published = true → s'.published = true) ∧ s'.constructed = s.constructed ∧ s'.tracerRef = s.tracerRef ∧ s'.given = s.given ∧
    (s'.slot = Slot.ready ↔ s.slot = Slot.ready)

theorem SameShared.rfl : SameShared s s := ⟨id, Eq.refl _, Eq.refl _, Eq.refl _, Iff.rfl⟩

theorem Inv.of_step (hpc : s'.pc = upd s.pc t p) (ht : Thr c s' t p) (fr : ∀ u, u ≠ t → Thr c s' u (s.pc u))
    {W : List WAct} {I : Nat → Nat} (hW : wacts c s' = W) (hI : ∀ x, inflight (s'.pc x) = I x) (d : Dat c s' W I) :
    Inv c s' := by
  refine Inv.of_parts (fun u => ?_) (hW ▸ (funext hI : _ = I) ▸ d)
  rw [hpc]
  by_cases hu : u = t
  · rw [hu, upd_same]; exact ht
  · rw [upd_other _ _ _ _ hu]; exact fr u hu

/-- The defaults fit a step to a `p` with the constructor of `q` that touches neither the fields of `SameShared` nor another
thread's fields of `SameOwn`. -/
theorem Inv.step (h : Inv c s) (hq : s.pc t = q) (hpc : s'.pc = upd s.pc t p) (hown : Own c s' t p)
    {W : List WAct} {I : Nat → Nat} (hW : wacts c s' = W) (hI : ∀ x, inflight (s'.pc x) = I x) (d : Dat c s' W I)
    (hp : postCtor p = true → postCtor q = true := by exact id) (hc : cls p = cls q := by rfl)
    (hok : pcOK c t q → pcOK c t p := by exact id) (g : SameShared s s' := by exact SameShared.rfl)
    (fr : ∀ u, u ≠ t → SameOwn s s' u := by exact fun _ _ => ⟨rfl, rfl, rfl, rfl⟩) : Inv c s' := by
  obtain ⟨gp, gc, gt, gg, gs⟩ := g
  exact Inv.of_step hpc ((h.thr_at hq).move hp hc gp (gc.trans ·) (fun _ => ⟨gc, gt⟩) gs (hok (hq ▸ h.pcok t)) hown)
    (fun u hu => (h.thr u).frame gp (gc.trans ·) (fun _ => ⟨gc, gt⟩) (fun _ => gg) gs (fr u hu)) hW hI d

theorem inflight_upd (hpc : s'.pc = upd s.pc t p) (hi : inflight p = inflight (s.pc t)) (x : Nat) :
    inflight (s'.pc x) = inflight (s.pc x) := by
  rw [hpc]; by_cases hx : x = t
  · rw [hx, upd_same, hi]
  · rw [upd_other _ _ _ _ hx]

theorem wacts_upd (hpc : s'.pc = upd s.pc t p) (ha : actsOf p = actsOf (s.pc t)) : wacts c s' = wacts c s := by
  unfold wacts
  rw [hpc]
  by_cases hr : c.rtid = t
  · rw [hr, upd_same, ha]
  · rw [upd_other _ _ _ _ hr]

theorem Inv.setPc (h : Inv c s) (hq : s.pc t = q) (hown : Own c s t p)
    (hp : postCtor p = true → postCtor q = true := by exact id) (hc : cls p = cls q := by rfl)
    (ha : actsOf p = actsOf q := by rfl) (hi : inflight p = inflight q := by rfl) (hok : pcOK c t q → pcOK c t p := by exact id) :
    Inv c (setPc s t p) :=
  h.step hq rfl hown (wacts_upd rfl (hq ▸ ha)) (inflight_upd rfl (hq ▸ hi)) { h.dat with } hp hc hok

theorem ctor_state (h : Inv c s) (h1 : isCtor (s.pc 0) = true) : 1 ≤ s.held 0 ∧ s.constructed = false := by
  cases hq : s.pc 0 with
  | cRun is => exact ⟨(h.aCtor 0 is hq).1, (h.aCtor 0 is hq).2.1⟩
  | _ => rw [hq] at h1; cases h1

theorem inv_alive_pending (h : Inv c s) (hp : s.slot ≠ Slot.ready) : s.freed = 0 ∧ 1 ≤ s.refs := by
  rcases h.alive hp with h1 | h1
  · exact (alive_of_tracer h h1).symm
  · exact (alive_of_held h (t := 0) (by have := (ctor_state h h1).1; omega)).symm

theorem not_awaited_clean (h : Inv c s) (ha : s.awaited t = false) :
    s.observed t = 0 ∧ cntO t (wacts c s) = 0 ∧ cntW t (wacts c s) = 0 ∧ cntS t (wacts c s) = 0 ∧
    (chainOf s.slot).count (Node.aw t) = 0 ∧ s.woken t = 0 ∧ s.subscribed t = false ∧ s.ctx t = false ∧ s.flag t = false ∧
    inflight (s.pc t) = 0 := by
  have h1 := h.obsv t
  have h2 := h.wake t
  have h3 := h.subAw t
  have h4 := (h.ctxIff t).1
  have h5 := (h.flagIff t).1
  have h6 := cntS_le_cntW t (wacts c s)
  have hsub : s.subscribed t = false := by
    cases hq : s.subscribed t
    · rfl
    · have := h3 hq; simp [ha] at this
  simp only [ha, hsub] at h1 h2
  simp at h1 h2
  refine ⟨by omega, by omega, by omega, by omega, by omega, by omega, hsub, ?_, ?_, by omega⟩
  · cases hq : s.ctx t
    · rfl
    · have := (h4 hq).1; simp [ha] at this
  · cases hq : s.flag t
    · rfl
    · have := (h5 hq).2; omega

theorem nCharge_script (c : Cfg) (h : Fixed c) : nCharge c.script = 1 := by
  obtain ⟨_, h2⟩ := h
  unfold Cfg.script
  cases hm : c.mode <;> simp [h2, nCharge]

theorem initPc_cases (c : Cfg) (t : Nat) :
    (initPc c t = Pc.done ∧ ¬ t < c.n) ∨ (initPc c t = Pc.cRun c.script ∧ t = 0 ∧ t < c.n) ∨
    (initPc c t = Pc.hStart ∧ kindOf c t = Kind.handle ∧ t < c.n) ∨ (initPc c t = Pc.rStart ∧ kindOf c t = Kind.res ∧ t < c.n) := by
  unfold initPc
  split
  · cases hk : kindOf c t
    · have := (kind_creator_iff c t).1 hk; simp_all
    · simp_all
    · simp_all
  · simp_all

theorem inv_init (c : Cfg) (h : Fixed c) (hn : 0 < c.n) : Inv c (init c) := by
  have hs := nCharge_script c h
  have hc := initPc_cases c
  have hw : wacts c (init c) = [] := by
    show actsOf (initPc c c.rtid) = []
    rcases hc c.rtid with h1 | h1 | h1 | h1 <;> (rw [h1.1]; rfl)
  have hI : ∀ x, inflight ((init c).pc x) = 0 := fun x => by
    show inflight (initPc c x) = 0
    rcases hc x with h1 | h1 | h1 | h1 <;> (rw [h1.1]; rfl)
  have hsl : (init c).slot = Slot.ready ↔ c.mode.hasPromise = false := by
    show (if c.mode.hasPromise then Slot.chain [] else Slot.ready) = Slot.ready ↔ _
    cases c.mode.hasPromise <;> simp
  have hch : chainOf (init c).slot = [] := by
    show chainOf (if c.mode.hasPromise then Slot.chain [] else Slot.ready) = []
    split <;> rfl
  have hlt : c.mode.hasPromise = true → CI.loadTmp ∈ c.script := fun hp => by
    unfold Cfg.script; cases hm : c.mode <;> simp_all [Mode.hasPromise, h.2]
  have htl : CI.loadTmp ∈ c.script → c.mode.hasPromise = true := fun hm => by
    unfold Cfg.script at hm; cases hq : c.mode <;> simp_all [Mode.hasPromise]
  refine Inv.of_parts (fun u => ?_) (hw ▸ (funext hI : _ = fun _ => 0) ▸ ?_)
  · show Thr c (init c) u (initPc c u)
    rcases hc u with h1 | h1 | h1 | h1 <;> rw [h1.1]
    · have h0 : u ≠ 0 := fun e => h1.2 (e ▸ hn)
      exact ⟨trivial, show (if u = 0 then 1 else 0) = 0 from if_neg h0, nofun, fun _ a => absurd a h1.2, fun _ a => absurd a h1.2,
        fun a => absurd a h0⟩
    · have hk : kindOf c u = Kind.creator := h1.2.1 ▸ kindOf_zero c
      exact ⟨h1.2, ⟨⟨by simp [init, h1.2.1], rfl, by omega, fun _ => rfl, fun _ _ => hs, htl⟩, fun _ => hlt⟩, nofun,
        fun _ _ a => by simp [hk] at a, fun a => by simp [hk] at a, fun _ => ⟨fun _ => Or.inr rfl, fun _ => rfl, fun _ _ => rfl⟩⟩
    · have h0 : u ≠ 0 := ((kind_handle_iff c u).1 h1.2.1).1
      exact ⟨h1.2, by simp [Own, init, h0], nofun, fun _ _ _ => rfl, fun a => by simp [h1.2.1] at a, fun a => absurd a h0⟩
    · have h0 : u ≠ 0 := ((kind_res_iff c u).1 h1.2.1).1
      exact ⟨h1.2, trivial, nofun, fun _ _ a => by simp [h1.2.1] at a,
        fun _ _ => ⟨fun _ => rfl, fun _ hp a => by simp [hsl.1 a] at hp, nofun⟩, fun a => absurd a h0⟩
  · exact
      { ctor0 := fun _ _ => rfl
        nopromise := fun a => ⟨rfl, hsl.2 a⟩
        pay := fun a => by simp [init, finalPayload, hsl.1 a]
        obsAfterReady := nofun
        refsLen := rfl
        hThread := fun t => by
          by_cases ht : t = 0
          · simp [init, ht]
          · simp [init, ht, Ne.symm ht]
        hCtx := fun t => by simp [init]
        hTracer := by simp [init]
        freedIff := rfl
        noUaf := rfl
        noCrash := rfl
        tracerCnt := by rw [hch]; rfl
        tracerLast := by rw [hch]; nofun
        wake := fun x => by rw [hch]; rfl
        obsv := fun x => by rw [hch]; rfl
        subAw := nofun
        awKind := nofun
        ctxIff := fun x => by simp [init]
        wakeKind := nofun
        storeKind := nofun
        flagIff := fun x => by simp [init]
        wokenReady := nofun
        resHeld := fun t a => by simp [init, ((kind_res_iff c t).1 a).1]
        givenC := nofun }
end Cocls.SharedFuture
