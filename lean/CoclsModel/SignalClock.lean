import CoclsModel.ChainClock
import CoclsModel.Signal

/-!
Happens-before machine for `cocls::signal<T>` AS A WHOLE (C03; `signal.h`, `awaiter.h:65-107`).

## Who touches what (read off `signal.h` line by line)

Threading contract of the class documentation: the collector is NOT MT-safe ("only one call is allowed at time", the returned
suspend point has to be protected as well: signal.h:91-92, 243); emitters may be awaited / `connect`ed from any thread; while a
resumed listener processes the value "the collector is blocked until the coroutine is suspended" (signal.h:156-160) — the
reference returned by `await_resume` is good until the coroutine's next suspension, on the thread that resumed it.

| plain location | written by | read by | what orders each pair |
|---|---|---|---|
| `state::_cur_val` | collector call (`operator()`, signal.h:98/116/137), `~state` (signal.h:48) | `emitter::await_resume` (signal.h:207) — of a coroutine: when the collector's suspend point is flushed; of a callback: inside `resume_chain_lk` (`Awt::resume`, signal.h:282/290) | PROGRAM ORDER: every reader runs on the collector's thread, inside the call (callback) or at the flush of the returned suspend point (coroutine), which precedes the next call by the documented contract.  The chain orders nothing here and need not.  `~state` on another thread than the last call: the `shared_ptr` control block (acq_rel reference count), not an atomic of `signal.h` |
| `state::_value_storage` | `operator()` by value / rvalue (`emplace`, signal.h:97/115), `~state` (member destruction) | through `_cur_val` only | as `_cur_val` |
| the value `*_cur_val` (`*_value_storage` or the caller's lvalue) | the collector's thread before the exchange | the resumed listener (coroutine body after `await_resume`, `_fn(*v)`) — on the collector's thread, until its next suspension | program order (same thread); a listener that keeps the reference across a suspension is outside the contract |
| node `awaiter::_next` | its owner before publishing (constructor; the failed-CAS write-back of `subscribe`, awaiter.h:69), the walker (`y->_next = nullptr`, awaiter.h:105) | `subscribe` (expected value of the CAS), the walker (`chain->_next`, awaiter.h:104) | owner → walker: subscribe CAS (release) … `resume_chain` exchange (acquire), through the release sequence of the later CASes.  walker → owner's next `subscribe`: program order when the listener re-subscribes on the collector's thread (callback: always; coroutine: `for(;;) co_await em`), otherwise the synchronising hand-over that moved the coroutine to the other thread |
| node handle / resume fn (`_handle_addr`, `_resume_fn`; with them the rest of the awaiter object: `_wk_state`, the callback `_fn`, the coroutine frame) | owner before publishing (`set_handle`, signal.h:195; `set_resume_fn` in `Awt`'s constructor) | the walker (`y->resume()`, awaiter.h:106), the resumed listener | as `_next` |

So the VALUE needs nothing from the chain's memory orders (`signal_value_needs_no_order`: the separate sticky flag `racedV` stays false for
EVERY order table): `sufficient` = subscribe CAS ⊇ release ∧ `resume_chain` exchange ⊇ acquire, both for the NODES.  (The relaxed `chain.load` inside `assert` does not count; the CAS failure order is unconstrained: a failed try only
makes the owner write its own, still private `_next`.)

## The machine

Threads = vector-clock indices.  Thread 0 is the collector's; emitter `x ≥ 1` has a thread `x` of its own for everything it does while
it is NOT running inside the collector's call (first `co_await` / `connect`, re-await after having been elsewhere).  A listener
resumed by the collector runs ON THREAD 0: its accesses are stamped with thread 0's clock — that is the point of the table above.
Every plain location of the table carries FastTrack metadata (`cur`, `val`, `stor`, per node `nxt`, `hnd`); the first unordered access
sets the sticky `raced`, and `racedV` as well when it is an access to `_cur_val`, the value or `_value_storage`.
Per step (one schedule entry `(agent, choice)`; granularity: at most one node's plain code up to and including the next
synchronising operation — finer than `Chain.lean` in the walk, which only adds interleavings):

* emitter `x`, `EPc.idle`: `_wk_state.lock()`; state gone → `done` (`await_suspend` false, `await_resume` throws; `initial_reg` deletes);
  else initialise the node (`_next`, handle / resume fn), read `_next`, CAS try: choice 0 succeeds (→ `sub`), otherwise it fails
  (weak CAS: spuriously or because the head moved; failure order load, write-back into `_next`; → `cas`, holding the strong reference).
  `EPc.cas`: read `_next`, CAS try, as before.
* collector, `CPc.idle`: choice 0: call by value (`emplace`: writes `_value_storage`, the value, `_cur_val`), choice 1: call with an lvalue
  (writes the value — the caller's own assignment before the call — and `_cur_val`); then the exchange; → `walk chain []`.
  choice ≥ 2: `~state` (enabled when no emitter holds a strong reference, see below): `_cur_val = nullptr`, exchange, → `walk chain []`, dead.
* `CPc.walk (y :: l) ret`: `resume_chain_lk` on node `y`: read `_next`, write `_next`, read handle / resume fn.  Coroutine: handle appended to
  the suspend point `ret`.  Callback: `Awt::resume` runs inline: (alive) reads `_cur_val` and the value, calls `fn`; choice 0: re-subscribe CAS
  succeeds, 1: fails (→ `CPc.cas`), ≥ 2: `fn` said false → `delete this` (node written, `done`).  Dead: `delete this`.
* `CPc.walk [] (y :: ret)`: the suspend point is flushed: coroutine `y` resumes on thread 0: (alive) `await_resume` reads `_cur_val`, the body
  reads the value; choice 0 / 1: re-await at once (`set_handle`, read `_next`, CAS try succeeds / fails), 2: the coroutine suspends on
  something else and will come back on its own thread (hand-over, below), ≥ 3: it ends (frame and emitter destroyed: node written).
* `CPc.walk [] []`: the call returns (alive) or `~state` finishes (`_value_storage` destroyed).   `CPc.cas y l ret`: retry of `y`'s CAS on thread 0.

Modelled assumptions (outside `signal.h`):
* HAND-OVER: a coroutine that left the collector's thread continues on thread `x` only after a synchronising transfer (executor queue,
  another awaitable of this library — each one of C03's protocols): thread `x` obtains thread 0's clock as of the moment the coroutine
  suspended, thread 0 starts a new epoch (as `PingPongClock` / `C03b.soloHop`).
* `shared_ptr`: `lock()` and the release of the temporary strong reference are reference-count RMWs; the model takes NO clock from them.
  The temporary reference held during `await_suspend` defers `~state` until the subscribe is complete: `~state` is disabled while
  `locked ≠ 0`.  It is run on thread 0; when the last reference is really dropped elsewhere the control block orders it after thread 0's
  and every reference holder's accesses (assumption on `std::shared_ptr`, not on an atomic of cocls).
* contract: the suspend point of a call is flushed before the next call / before the collector lets go of the state (built in: the
  collector's pc; `Signal.Flushed` is the same contract at the operation level).
* a FAILING CAS try is a load of the latest message with the failure order (as `ChainClock.lean`); all other atomic operations on the
  chain head are RMWs and read the latest message by definition, so there are no stale-read choices in this protocol.

NOT modelled: `hook_up` (single-threaded set-up of a fresh state), two collector calls at a time (excluded by the contract),
`emitter::operator=`, consume, release fences, seq_cst total order (seq_cst = acq_rel: weaker, sound).
-/

namespace Cocls.SignalClock
open Cocls
open Cocls.Clock (VC relVc acqVc tickIf)
open Cocls.ChainClock (FT rdRace wrRace)

/-- the memory orders written at the atomic sites of the signal's chain -/
structure SignalOrders where
  /-- `awaiter::subscribe`: CAS on the chain head, success order -/
  casSucc : Order
  /-- … failure order -/
  casFail : Order
  /-- `awaiter::resume_chain`: exchange on the chain head -/
  xchg : Order
  deriving DecidableEq, Repr, Inhabited

/-- what is REALLY needed: the subscribe CAS releases, the `resume_chain` exchange acquires (for the nodes); nothing for the value,
nothing of the failure order -/
def SignalOrders.sufficient (o : SignalOrders) : Bool := o.casSucc.isRel && o.xchg.isAcq

/-! ### the sequentially consistent base system (what is left when the clocks are erased) -/

inductive EPc where
  | idle    -- not awaiting: before the first `co_await` / `connect`, or busy elsewhere after a value
  | cas     -- inside `subscribe` after a failed try, on its own thread, holding the `lock()`ed strong reference
  | sub     -- subscribed: in the chain, or detached and held by the walker / the suspend point
  | done
  deriving DecidableEq, Repr, Inhabited

inductive CPc where
  | idle
  | walk (l ret : List Nat)
  | cas (y : Nat) (l ret : List Nat)
  | dead
  deriving DecidableEq, Repr, Inhabited

/-- flavour of every emitter: `true` = `connect`ed callback, `false` = coroutine -/
structure Cfg where
  cb : Nat → Bool

structure Base where
  alive : Bool
  chain : List Nat
  epc : Nat → EPc
  cpc : CPc
  /-- emitters inside `subscribe` with a strong reference -/
  locked : Nat
  /-- ghost: number of collector calls so far -/
  emitted : Nat
  /-- ghost: (listener, number of the call) for every value read -/
  reads : List (Nat × Nat)

def Base.init : Base :=
  { alive := true, chain := [], epc := fun _ => EPc.idle, cpc := CPc.idle, locked := 0, emitted := 0, reads := [] }

/-- the nodes the collector's thread holds: detached chain, suspend point, the node whose CAS it retries -/
def held : CPc → List Nat
  | CPc.walk l ret => l ++ ret
  | CPc.cas y l ret => y :: (l ++ ret)
  | _ => []

def setEpc (b : Base) (x : Nat) (p : EPc) : Base := { b with epc := Clock.upd b.epc x p }
/-- successful CAS of node `x` -/
def push (b : Base) (x : Nat) : Base := { b with chain := x :: b.chain, epc := Clock.upd b.epc x EPc.sub }
def setCpc (b : Base) (p : CPc) : Base := { b with cpc := p }
/-- ghost: listener `y` read the value of the current call (only used while the state is alive) -/
def noteRead (b : Base) (y : Nat) : Base := { b with reads := (y, b.emitted) :: b.reads }

def bEmitter (b : Base) (x ch : Nat) : Base :=
  match b.epc x with
  | EPc.idle =>
      if b.alive then
        (if ch = 0 then push b x else { setEpc b x EPc.cas with locked := b.locked + 1 })
      else setEpc b x EPc.done
  | EPc.cas => if ch = 0 then { push b x with locked := b.locked - 1 } else b
  | _ => b

def bCollector (c : Cfg) (b : Base) (ch : Nat) : Base :=
  match b.cpc with
  | CPc.idle =>
      if ch ≤ 1 then { b with chain := [], cpc := CPc.walk b.chain [], emitted := b.emitted + 1 }
      else if b.locked = 0 then { b with chain := [], cpc := CPc.walk b.chain [], alive := false }
      else b
  | CPc.walk (y :: l) ret =>
      if c.cb y then
        (if b.alive then
          (if ch = 0 then setCpc (push (noteRead b y) y) (CPc.walk l ret)
           else if ch = 1 then setCpc (noteRead b y) (CPc.cas y l ret)
           else setCpc (setEpc (noteRead b y) y EPc.done) (CPc.walk l ret))
         else setCpc (setEpc b y EPc.done) (CPc.walk l ret))
      else setCpc b (CPc.walk l (ret ++ [y]))
  | CPc.walk [] (y :: ret) =>
      if b.alive then
        (if ch = 0 then setCpc (push (noteRead b y) y) (CPc.walk [] ret)
         else if ch = 1 then setCpc (noteRead b y) (CPc.cas y [] ret)
         else if ch = 2 then setCpc (setEpc (noteRead b y) y EPc.idle) (CPc.walk [] ret)
         else setCpc (setEpc (noteRead b y) y EPc.done) (CPc.walk [] ret))
      else (if ch = 2 then setCpc (setEpc b y EPc.idle) (CPc.walk [] ret)
            else setCpc (setEpc b y EPc.done) (CPc.walk [] ret))
  | CPc.walk [] [] => setCpc b (if b.alive then CPc.idle else CPc.dead)
  | CPc.cas y l ret => if ch = 0 then setCpc (push b y) (CPc.walk l ret) else b
  | CPc.dead => b

/-- one schedule entry `(agent, choice)`: agent 0 is the collector, every other id an emitter -/
def bstep (c : Cfg) (b : Base) (e : Nat × Nat) : Base :=
  if e.1 = 0 then bCollector c b e.2 else bEmitter b e.1 e.2

def brun (c : Cfg) (sched : List (Nat × Nat)) : Base := sched.foldl (bstep c) Base.init

/-! ### state of the machine -/

structure St where
  base : Base
  clk : Nat → VC
  /-- release-sequence clock of the latest message of `state::_chain` -/
  chainRs : VC
  /-- `_cur_val` -/
  cur : FT
  /-- the object `_cur_val` points to -/
  val : FT
  /-- `_value_storage` -/
  stor : FT
  /-- per node: `_next` -/
  nxt : Nat → FT
  /-- per node: `_handle_addr` / `_resume_fn` (and the rest of the awaiter object) -/
  hnd : Nat → FT
  raced : Bool
  /-- sticky like `raced`, but set only by an unordered access to `_cur_val`, the value or `_value_storage` -/
  racedV : Bool

def init : St :=
  { base := Base.init, clk := VC.init, chainRs := VC.bot, cur := FT.init, val := FT.init, stor := FT.init,
    nxt := fun _ => FT.init, hnd := fun _ => FT.init, raced := false, racedV := false }

def setBase (s : St) (b : Base) : St := { s with base := b }

/-! ### atomic operations on the chain head (happens-before effect) -/

/-- successful subscribe CAS by thread `t` -/
def hbCasOk (o : SignalOrders) (s : St) (t : Nat) : St :=
  { s with
    clk := Clock.upd s.clk t (tickIf o.casSucc (acqVc o.casSucc (s.clk t) s.chainRs) t)
    chainRs := VC.join (relVc o.casSucc (acqVc o.casSucc (s.clk t) s.chainRs)) s.chainRs }

/-- failing CAS try: a load with the failure order -/
def hbCasFail (o : SignalOrders) (s : St) (t : Nat) : St :=
  { s with clk := Clock.upd s.clk t (acqVc o.casFail (s.clk t) s.chainRs) }

/-- `resume_chain`: exchange by thread `t` -/
def hbXchg (o : SignalOrders) (s : St) (t : Nat) : St :=
  { s with
    clk := Clock.upd s.clk t (tickIf o.xchg (acqVc o.xchg (s.clk t) s.chainRs) t)
    chainRs := VC.join (relVc o.xchg (acqVc o.xchg (s.clk t) s.chainRs)) s.chainRs }

/-- synchronising hand-over of a suspended coroutine from thread `t` to thread `y` (modelled assumption) -/
def hbHand (s : St) (t y : Nat) : St :=
  { s with clk := Clock.upd (Clock.upd s.clk y (VC.join (s.clk y) (s.clk t))) t (VC.tick (s.clk t) t) }

/-! ### plain accesses -/

def hbNxtRead (s : St) (t y : Nat) : St :=
  { s with nxt := Clock.upd s.nxt y ((s.nxt y).read t (s.clk t)), raced := s.raced || rdRace (s.nxt y) (s.clk t) }
def hbNxtWrite (s : St) (t y : Nat) : St :=
  { s with nxt := Clock.upd s.nxt y ((s.nxt y).write t (s.clk t)), raced := s.raced || wrRace (s.nxt y) (s.clk t) }
def hbHndRead (s : St) (t y : Nat) : St :=
  { s with hnd := Clock.upd s.hnd y ((s.hnd y).read t (s.clk t)), raced := s.raced || rdRace (s.hnd y) (s.clk t) }
def hbHndWrite (s : St) (t y : Nat) : St :=
  { s with hnd := Clock.upd s.hnd y ((s.hnd y).write t (s.clk t)), raced := s.raced || wrRace (s.hnd y) (s.clk t) }

def hbCurRead (s : St) (t : Nat) : St :=
  { s with cur := s.cur.read t (s.clk t), raced := s.raced || rdRace s.cur (s.clk t),
           racedV := s.racedV || rdRace s.cur (s.clk t) }
def hbCurWrite (s : St) (t : Nat) : St :=
  { s with cur := s.cur.write t (s.clk t), raced := s.raced || wrRace s.cur (s.clk t),
           racedV := s.racedV || wrRace s.cur (s.clk t) }
def hbValRead (s : St) (t : Nat) : St :=
  { s with val := s.val.read t (s.clk t), raced := s.raced || rdRace s.val (s.clk t),
           racedV := s.racedV || rdRace s.val (s.clk t) }
def hbValWrite (s : St) (t : Nat) : St :=
  { s with val := s.val.write t (s.clk t), raced := s.raced || wrRace s.val (s.clk t),
           racedV := s.racedV || wrRace s.val (s.clk t) }
def hbStorWrite (s : St) (t : Nat) : St :=
  { s with stor := s.stor.write t (s.clk t), raced := s.raced || wrRace s.stor (s.clk t),
           racedV := s.racedV || wrRace s.stor (s.clk t) }

/-! ### composite pieces -/

/-- one try of the CAS loop of `subscribe` for node `y` on thread `t`: read the expected value, then success, or failure + write-back -/
def hbTry (o : SignalOrders) (s : St) (t y ch : Nat) : St :=
  if ch = 0 then hbCasOk o (hbNxtRead s t y) t else hbNxtWrite (hbCasFail o (hbNxtRead s t y) t) t y

/-- the owner sets its node up (constructor / `set_handle` / `set_resume_fn`) -/
def hbNodeInit (s : St) (t y : Nat) : St := hbHndWrite (hbNxtWrite s t y) t y

/-- `resume_chain_lk` on node `y`: `chain = chain->_next; y->_next = nullptr; y->resume()` -/
def hbWalkNode (s : St) (t y : Nat) : St := hbHndRead (hbNxtWrite (hbNxtRead s t y) t y) t y

/-- `await_resume` + use of the value, while the state is alive; with the state gone `lock()` fails and nothing is read -/
def hbResume (s : St) (t : Nat) : St := if s.base.alive then hbValRead (hbCurRead s t) t else s

def hEmitter (o : SignalOrders) (s : St) (x ch : Nat) : St :=
  match s.base.epc x with
  | EPc.idle => if s.base.alive then hbTry o (hbNodeInit s x x) x x ch else s
  | EPc.cas => hbTry o s x x ch
  | _ => s

def hCollector (o : SignalOrders) (c : Cfg) (s : St) (ch : Nat) : St :=
  match s.base.cpc with
  | CPc.idle =>
      if ch = 0 then hbXchg o (hbCurWrite (hbValWrite (hbStorWrite s 0) 0) 0) 0
      else if ch = 1 then hbXchg o (hbCurWrite (hbValWrite s 0) 0) 0
      else if s.base.locked = 0 then hbXchg o (hbCurWrite s 0) 0
      else s
  | CPc.walk (y :: _) _ =>
      if c.cb y then
        (if s.base.alive then
          (if ch ≤ 1 then hbTry o (hbResume (hbWalkNode s 0 y) 0) 0 y ch
           else hbNodeInit (hbResume (hbWalkNode s 0 y) 0) 0 y)
         else hbNodeInit (hbWalkNode s 0 y) 0 y)
      else hbWalkNode s 0 y
  | CPc.walk [] (y :: _) =>
      if s.base.alive then
        (if ch ≤ 1 then hbTry o (hbHndWrite (hbResume s 0) 0 y) 0 y ch
         else if ch = 2 then hbHand (hbResume s 0) 0 y
         else hbNodeInit (hbResume s 0) 0 y)
      else (if ch = 2 then hbHand s 0 y else hbNodeInit s 0 y)
  | CPc.walk [] [] => if s.base.alive then s else hbStorWrite s 0
  | CPc.cas y _ _ => hbTry o s 0 y ch
  | CPc.dead => s

/-- happens-before effect of one schedule entry; never touches `base` -/
def hstep (o : SignalOrders) (c : Cfg) (s : St) (e : Nat × Nat) : St :=
  if e.1 = 0 then hCollector o c s e.2 else hEmitter o s e.1 e.2

/-- one schedule entry: the happens-before effect, then the base transition -/
def step (o : SignalOrders) (c : Cfg) (s : St) (e : Nat × Nat) : St :=
  setBase (hstep o c s e) (bstep c s.base e)

def run (o : SignalOrders) (c : Cfg) (sched : List (Nat × Nat)) : St := sched.foldl (step o c) init

/-! ### relation to `Signal.Pub` (the micro-model of `awaiter::subscribe` in `Signal.lean`)

`Signal.Pub` has two kinds of events for the repaired code: `cas l` (the publishing CAS of listener `l`) and `release` (exchange + walk +
end of every listener as ONE event).  That granularity does not fit a happens-before analysis: the walk, the listeners' continuations on
the collector's thread and their re-subscription are one event there, there are no failed CAS tries, no flavours and no second round.
Hence the base system `bstep` / `brun` above is defined here; `base_run` (SignalClockProofs) says that erasing clocks, release-sequence
clock, FastTrack metadata and the two `raced` flags from a run of the machine gives exactly `brun` on the same schedule, and
`base_refines_pub` (SignalClockProofs) that the chain component of every `brun` is the chain of a `Signal.Pub` run over `cas` / `release`
events only (every base step leaves the chain alone, pushes one node, or detaches it as a whole).  Projected away by the second bridge:
pcs, the held nodes, `alive`, the ghost counters. -/

end Cocls.SignalClock
