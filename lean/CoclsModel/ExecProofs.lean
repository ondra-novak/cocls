import CoclsModel.Exec
/-!
Invariant of the executor model (`CoclsModel/Exec.lean`), preserved by every act (`inv_run`).  `Step` lists what one act
can do (`step_Step`, the only walk over the acts).  An act that passes control is a `Yield` (how control is given up)
followed by `settle`, `front` or `direct` (who gets it); only the symmetric transfer out of an awaited suspend point does
both at once (`inv_transfer`).  `Inv` holds between acts; `Mid` holds in the middle of a step, after the running coroutine
suspended/finished and before control is handed on (`mid_Yield`).  `cur_Step` says who can gain control in a step and what
its status was before.  That the ghost logs `enq`/`deq` only grow needs no invariant: every kind of step extends them at
the end (`grows_run`).
-/
namespace Cocls.Exec

@[simp] theorem upd_same {α : Type} (f : Nat → α) (i : Nat) (v : α) : upd f i v i = v := by simp [upd]
theorem upd_apply {α : Type} (f : Nat → α) (i j : Nat) (v : α) : upd f i v j = if j = i then v else f j := rfl

theorem collect_spec (cs : List Nat) : ∀ (st : Nat → St) (i : Nat),
    ((collect st cs).1 i = if wakeable (st i) = true ∧ i ∈ cs then St.ready else st i) ∧
    ((collect st cs).2.count i = if wakeable (st i) = true ∧ i ∈ cs then 1 else 0) := by
  induction cs with
  | nil => intro st i; simp [collect]
  | cons c cs ih =>
    intro st i
    have h1 := ih (upd st c St.ready) i
    have h2 := ih st i
    simp only [collect]
    split <;> grind [upd_apply, wakeable]

/-- `hs` holds the handle of every coroutine that was made ready between `st` and `st'`, once -/
def Woken (st st' : Nat → St) (hs : List Nat) : Prop :=
  ∀ i, (st' i = st i ∧ hs.count i = 0) ∨ ((st i = St.fresh ∨ st i = St.parked ∨ st i = St.pparked) ∧ st' i = St.ready ∧ hs.count i = 1)

theorem collect_woken (st : Nat → St) (cs : List Nat) : Woken st (collect st cs).1 (collect st cs).2 := fun i => by
  have := collect_spec cs st i
  grind [wakeable]

theorem collect_running (st : Nat → St) (cs : List Nat) (i : Nat) :
    (collect st cs).1 i = St.running ↔ st i = St.running := by
  have := collect_woken st cs i
  grind

theorem collect_append (pre post : List Nat) : ∀ st : Nat → St, collect st (pre ++ post) =
    ((collect (collect st pre).1 post).1, (collect st pre).2 ++ (collect (collect st pre).1 post).2) := by
  induction pre with
  | nil => intro st; rfl
  | cons c cs ih => intro st; simp only [List.cons_append, collect]; split <;> simp [ih]

theorem collect_sublist (cs : List Nat) : ∀ st : Nat → St, List.Sublist (collect st cs).2 cs := by
  induction cs with
  | nil => intro st; simp [collect]
  | cons c cs ih =>
    intro st
    simp only [collect]
    split
    · exact (ih _).cons_cons c
    · exact (ih _).cons c

theorem collect_all (cs : List Nat) : ∀ st : Nat → St, cs.Nodup → (∀ i ∈ cs, wakeable (st i) = true) →
    (collect st cs).2 = cs := by
  induction cs with
  | nil => intro st _ _; rfl
  | cons c cs ih =>
    intro st hn hw
    have hn' := List.nodup_cons.1 hn
    simp only [collect, hw c (List.mem_cons_self ..), if_true]
    congr 1
    apply ih _ hn'.2
    intro i hi
    have : i ≠ c := fun e => hn'.1 (e ▸ hi)
    simp [upd, this, hw i (List.mem_cons_of_mem _ hi)]

@[simp] theorem jobIds_nil : jobIds [] = [] := rfl
@[simp] theorem jobIds_snoc (js : List (List Nat × Bool)) (hs : List Nat) (k : Bool) :
    jobIds (js ++ [(hs, k)]) = jobIds js ++ hs := by simp [jobIds, List.flatMap_append]
@[simp] theorem jobIds_cons (js : List (List Nat × Bool)) (hs : List Nat) (k : Bool) :
    jobIds ((hs, k) :: js) = hs ++ jobIds js := by simp [jobIds, List.flatMap_cons]

theorem resumable_iff (s : State) (d : Nat) : resumable s d = true ↔ (s.st d = St.fresh ∨ s.st d = St.yielded) := by
  simp [resumable]

/-- how control is given up: the running coroutine suspends / finishes / blocks, or ordinary code opens an activation -/
inductive Yield (s : State) : State → Prop
  | suspend {c} (hc : s.cur = some c) (v : St) (hv : v ≠ St.ready ∧ v ≠ St.stacked ∧ v ≠ St.running) :
      Yield s { s with st := upd s.st c v }
  | await {c} (hc : s.cur = some c) (d : Nat) :
      Yield s { s with st := upd s.st c (St.waiting d), waiter := upd s.waiter d (some c) }
  | fin {c} (hc : s.cur = some c) :
      Yield s { s with st := upd s.st c St.done, waiter := upd s.waiter c none }
  | nest {c} (hc : s.cur = some c) :
      Yield s { s with st := upd s.st c St.stacked, calls := c :: s.calls }
  | requeue {c} (hc : s.cur = some c) :
      Yield s { s with st := upd s.st c St.ready, ready := s.ready ++ [c], enq := s.enq ++ [c], made := s.made ++ [c] }
  | hop {c} (hc : s.cur = some c) :
      Yield s { s with st := upd s.st c St.ready, jobs := s.jobs ++ [([c], true)], made := s.made ++ [c] }
  | callMain (hc : s.cur = none) (ha : s.active = true) : Yield s { s with base := some Base.callMain }
  | install (hc : s.cur = none) (ha : ¬ s.active = true) :
      Yield s { s with active := true, base := some (Base.loop [] s.active) }
  | mainJob {hs k js} (hc : s.cur = none) (hidle : s.active = false ∧ s.blocks = []) (hj : s.jobs = (hs, k) :: js) :
      Yield s { s with jobs := js, active := true, base := some (Base.loop hs s.active), worker := k }
  | mainLeave {p bs} (hc : s.cur = none) (hbl : s.blocks = p :: bs) :
      Yield s { s with blocks := bs, base := some (Base.loop [] p) }

inductive Step (s : State) : State → Prop
  | stay : Step s s
  | settle {m} (y : Yield s m) : Step s (settle m)
  | front {m x q} (y : Yield s m) (hq : m.ready = x :: q) :
      Step s { m with st := upd m.st x St.running, ready := q, deq := m.deq ++ [x], runs := m.runs ++ [x], cur := some x }
  /-- resumed without a handle: a fresh coroutine, a generator body suspended in `co_yield` -/
  | direct {m x} (y : Yield s m) (hx : s.st x = St.fresh ∨ s.st x = St.yielded)
      (f : Nat → Option Nat) (g : Nat → Bool) :
      Step s { m with st := upd m.st x St.running, cur := some x, made := m.made ++ [x], runs := m.runs ++ [x],
                      starter := f, gen := g }
  /-- `final_awaiter` hands control to the awaiter -/
  | finTo {c p} (hc : s.cur = some c) (hp : s.waiter c = some p) :
      Step s { s with st := upd (upd s.st c St.done) p St.running, waiter := upd s.waiter c none,
                      cur := some p, made := s.made ++ [p], runs := s.runs ++ [p] }
  | enqueue (ha : s.cur = none → s.active = true) (cs : List Nat) (rev : Bool) : Step s (enqueue s cs rev)
  | postJob (cs : List Nat) (rev : Bool) : Step s (postJob s cs rev)
  | wakePar (d : Nat) : Step s (wakePar s d)
  | awaitSp {c} (hc : s.cur = some c) (cs : List Nat) (rev : Bool) : Step s (coAwaitSp s c cs rev)
  | awaitSelf {c} (hc : s.cur = some c) (pre post : List Nat) : Step s (coAwaitSelf s c pre post)
  /-- `pause` with nothing queued: the coroutine continues; only the logs record its passage through the queue -/
  | pauseNil {c} (hc : s.cur = some c) (hq : s.ready = []) :
      Step s { s with enq := s.enq ++ [c], deq := s.deq ++ [c], made := s.made ++ [c], runs := s.runs ++ [c] }
  | enter (hc : s.cur = none) : Step s (mainEnter s)
  | wakeLoop (hc : s.cur = none) (ha : ¬ s.active = true) (cs : List Nat) (rev : Bool) :
      Step s (settle { s with st := (collect s.st cs).1, active := true,
                              base := some (Base.loop (handles s.st cs rev) s.active),
                              made := s.made ++ handles s.st cs rev })

theorem step_Step (s : State) (a : Act) : Step s (step s a) := by
  unfold step
  split
  next c hc =>
    cases a with
    | wake cs m rev =>
      cases m with
      | discard => exact .enqueue (by simp [hc]) cs rev
      | await => exact .awaitSp hc cs rev
      | par => exact .postJob cs rev
    | parkPar => exact .settle (.suspend hc St.pparked (by simp))
    | wakePar d => exact .wakePar d
    | hop => exact .settle (.hop hc)
    | park => exact .settle (.suspend hc St.parked (by simp))
    | awaitSelf pre post => exact .awaitSelf hc pre post
    | job | fwait | enter | leave => exact .stay
    | hopCur =>
      simp only [coStep, coHopCur]; split
      · exact .settle (.hop hc)
      · exact .stay
    | parkNext =>
      simp only [coStep, coParkNext]; split
      next x q hq => exact .front (.suspend hc St.parked (by simp)) hq
      next => exact .settle (.suspend hc St.parked (by simp))
    | pause =>
      simp only [coStep, coPause]; split
      next hq => exact .pauseNil hc hq
      next x q hq => exact .front (.requeue hc) (congrArg (· ++ [c]) hq)
    | start d fut =>
      simp only [coStep, coStart]; split
      next hd => exact .direct (.nest hc) (.inl hd) _ _
      next => exact .stay
    | gnext d =>
      simp only [coStep, coGnext]; split
      next hd => exact .direct (.nest hc) ((resumable_iff s d).1 hd) _ _
      next => exact .stay
    | gyield =>
      simp only [coStep, coGyield]; split
      · exact .settle (.suspend hc St.yielded (by simp))
      · exact .stay
    | call d =>
      simp only [coStep, coCall]; split
      next hd => exact .direct (.await hc d) (.inl hd) _ _
      next => exact .stay
    | join d =>
      simp only [coStep, coJoin]; split
      · exact .settle (.await hc d)
      · exact .stay
    | fin =>
      simp only [coStep, coFin]; split
      next p hp => exact .finTo hc hp
      next => exact .settle (.suspend hc St.done (by simp))
  next hc =>
    cases a with
    | wake cs m rev =>
      have : Step s (mainWake s cs rev) := by
        unfold mainWake; split
        next ha => exact .enqueue (fun _ => ha) cs rev
        next ha =>
          split
          · exact .stay
          · exact .wakeLoop hc ha cs rev
      cases m with
      | discard | await => exact this
      | par => exact .postJob cs rev
    | wakePar d => exact .wakePar d
    | enter => exact .enter hc
    | job =>
      simp only [mainStep, mainJob]; split
      next hidle =>
        split
        next hs k js hj => exact .settle (.mainJob hc hidle hj)
        next => exact .stay
      next => exact .stay
    | start d fut =>
      simp only [mainStep, mainStart]; split
      next hd =>
        split
        next ha => exact .direct (.callMain hc ha) (.inl hd) _ _
        next ha => exact .direct (.install hc ha) (.inl hd) _ _
      next => exact .stay
    | gnext d =>
      simp only [mainStep, mainGnext]; split
      next hd =>
        have hd := (resumable_iff s d).1 hd
        split
        next ha => exact .direct (.callMain hc ha) hd _ _
        next ha => exact .direct (.install hc ha) hd _ _
      next => exact .stay
    | leave =>
      simp only [mainStep, mainLeave]; split
      next p bs hbl => exact .settle (.mainLeave hc hbl)
      next => exact .stay
    | parkPar | hop | hopCur | fwait | gyield | park | parkNext | pause | awaitSelf pre post | call d | join d | fin =>
      exact .stay

def PrevOK : List Bool → Prop
  | [] => True
  | p :: bs => p = !bs.isEmpty ∧ PrevOK bs

structure Per (s : State) (i : Nat) : Prop where
  /-- the handle is in the ready queue, in the `suspend_now` loop of ordinary code, or in a job handed to another thread -/
  handle_once : s.ready.count i + (loopIds s.base).count i + (jobIds s.jobs).count i
      = if s.st i = St.ready then 1 else 0
  stacked_once : s.calls.count i = if s.st i = St.stacked then 1 else 0
  waiter_ok : ∀ d, s.waiter d = some i → s.st i = St.waiting d
  /-- made ready = resumed + pending -/
  once : s.made.count i = s.runs.count i + s.ready.count i + (loopIds s.base).count i + (jobIds s.jobs).count i

/-- the part of the invariant that also holds in the middle of a step -/
structure Core (s : State) : Prop where
  fifo : s.enq = s.deq ++ s.ready
  per : ∀ i, Per s i
  /-- `instance != nullptr` iff a block is open or an activation is pending; the `prev` saved by the pending
  `install_queue_and_call` says whether a block encloses it; ordinary code calls `h.resume()` directly only inside a block -/
  base_ok : match s.base with
    | none => (s.active = true ↔ s.blocks ≠ [])
    | some Base.callMain => s.active = true ∧ s.blocks ≠ []
    | some (Base.loop _ p) => s.active = true ∧ p = !s.blocks.isEmpty
  blocks_prev : PrevOK s.blocks
  calls_base : s.base = none → s.calls = []
  idle : s.blocks = [] → s.base = none → s.ready = []

structure Inv (s : State) : Prop extends Core s where
  running_iff : ∀ i, s.st i = St.running ↔ s.cur = some i
  cur_base : s.cur = none ↔ s.base = none

/-- `cur` is stale here -/
structure Mid (s : State) : Prop extends Core s where
  no_running : ∀ i, s.st i ≠ St.running
  has_base : s.base ≠ none

variable {s : State}

theorem inv_init : Inv init := by
  refine ⟨⟨?_, fun i => ⟨?_, ?_, ?_, ?_⟩, ?_, ?_, ?_, ?_⟩, ?_, ?_⟩ <;> simp [init, loopIds, PrevOK]

theorem cur_facts (h : Inv s) {c : Nat} (hc : s.cur = some c) :
    s.st c = St.running ∧ s.base ≠ none ∧ s.active = true := by
  have hb : s.base ≠ none := fun hb => by simp [h.cur_base.2 hb] at hc
  exact ⟨(h.running_iff c).2 hc, hb, by have := h.base_ok; split at this <;> simp_all⟩

theorem main_facts (h : Inv s) (hc : s.cur = none) :
    s.base = none ∧ s.calls = [] ∧ (∀ i, s.st i ≠ St.running) ∧ (s.active = true ↔ s.blocks ≠ []) := by
  have hb := h.cur_base.1 hc
  refine ⟨hb, h.calls_base hb, fun i hi => ?_, ?_⟩
  · simp [(h.running_iff i).1 hi] at hc
  · simpa [hb] using h.base_ok

theorem outside_facts (h : Inv s) (hc : s.cur = none) (ha : ¬ s.active = true) : s.blocks = [] ∧ s.ready = [] := by
  have ⟨hb, _, _, hab⟩ := main_facts h hc
  have hbl : s.blocks = [] := Classical.byContradiction fun hh => ha (hab.2 hh)
  exact ⟨hbl, h.idle hbl hb⟩

theorem upd_ne_running (h : Inv s) {c : Nat} (hc : s.cur = some c) {v : St} (hv : v ≠ St.running) (i : Nat) :
    upd s.st c v i ≠ St.running := by
  have := h.running_iff i; grind [upd_apply]

theorem mid_suspend (h : Inv s) {c : Nat} (hc : s.cur = some c) (v : St)
    (hv : v ≠ St.ready ∧ v ≠ St.stacked ∧ v ≠ St.running) : Mid { s with st := upd s.st c v } :=
  have ⟨hr, hb, _⟩ := cur_facts h hc
  { h with
    per := fun i => by have := h.per i; grind [upd_apply, Per]
    no_running := upd_ne_running h hc hv.2.2
    has_base := hb }

theorem mid_Yield (h : Inv s) {m : State} (y : Yield s m) : Mid m := by
  cases y with
  | suspend hc v hv => exact mid_suspend h hc v hv
  | await hc d =>
    have m := mid_suspend h hc (St.waiting d) (by simp)
    exact { m with per := fun i => { m.per i with
      waiter_ok := fun e hw => by have := (m.per i).waiter_ok e; grind [upd_apply] } }
  | fin hc =>
    have m := mid_suspend h hc St.done (by simp)
    exact { m with per := fun i => { m.per i with
      waiter_ok := fun e hw => by have := (m.per i).waiter_ok e; grind [upd_apply] } }
  | nest hc =>
    have ⟨hr, hb, _⟩ := cur_facts h hc
    exact { h with
      per := fun i => by have := h.per i; grind [upd_apply, Per]
      calls_base := fun hn => absurd hn hb
      no_running := upd_ne_running h hc nofun
      has_base := hb }
  | requeue hc =>
    have ⟨hr, hb, _⟩ := cur_facts h hc
    exact { h with
      fifo := by simp [h.fifo]
      per := fun i => by have := h.per i; grind [upd_apply, Per]
      idle := fun _ hn => absurd hn hb
      no_running := upd_ne_running h hc nofun
      has_base := hb }
  | hop hc =>
    have ⟨hr, hb, _⟩ := cur_facts h hc
    exact { h with
      per := fun i => by have := h.per i; grind [upd_apply, jobIds_snoc, Per]
      no_running := upd_ne_running h hc nofun
      has_base := hb }
  | callMain hc ha =>
    have ⟨hb, _, hnr, hab⟩ := main_facts h hc
    exact { h with
      per := fun i => by have := h.per i; grind [loopIds, Per]
      base_ok := ⟨ha, hab.1 ha⟩
      calls_base := nofun
      idle := nofun
      no_running := hnr
      has_base := nofun }
  | install hc ha =>
    have ⟨hb, _, hnr, _⟩ := main_facts h hc
    have ⟨hbl, _⟩ := outside_facts h hc ha
    exact { h with
      per := fun i => by have := h.per i; grind [loopIds, Per]
      base_ok := ⟨rfl, by simpa [hbl] using ha⟩
      calls_base := nofun
      idle := nofun
      no_running := hnr
      has_base := nofun }
  | mainJob hc hidle hj =>
    have ⟨hb, _, hnr, _⟩ := main_facts h hc
    exact { h with
      per := fun i => by have := h.per i; grind [loopIds, jobIds_cons, Per]
      base_ok := ⟨rfl, by simp [hidle]⟩
      calls_base := nofun
      idle := nofun
      no_running := hnr
      has_base := nofun }
  | mainLeave hc hbl =>
    have ⟨hb, _, hnr, hab⟩ := main_facts h hc
    have hp := h.blocks_prev
    simp only [hbl, PrevOK] at hp
    exact { h with
      per := fun i => by have := h.per i; grind [loopIds, Per]
      base_ok := ⟨hab.2 (by simp [hbl]), hp.1⟩
      blocks_prev := hp.2
      calls_base := nofun
      idle := nofun
      no_running := hnr
      has_base := nofun }

theorem st_Yield {m : State} (y : Yield s m) (x : Nat) : m.st x = s.st x ∨ s.cur = some x := by
  cases y <;> grind [upd_apply]

theorem mid_mainWake (h : Inv s) (hc : s.cur = none) (ha : ¬ s.active = true) {st' : Nat → St} {hs : List Nat}
    (hw : Woken s.st st' hs) :
    Mid { s with st := st', active := true, base := some (Base.loop hs s.active), made := s.made ++ hs } :=
  have ⟨hb, _, hnr, _⟩ := main_facts h hc
  have ⟨hbl, hrd⟩ := outside_facts h hc ha
  { h with
    per := fun i => by have := h.per i; have := hw i; grind [loopIds, Per]
    base_ok := ⟨rfl, by simpa [hbl] using ha⟩
    calls_base := nofun
    idle := nofun
    no_running := fun i => by have := hnr i; have := hw i; grind
    has_base := nofun }

theorem upd_running_iff (h : Mid s) (x i : Nat) : upd s.st x St.running i = St.running ↔ some x = some i := by
  have := h.no_running i; grind [upd_apply]

theorem inv_front (h : Mid s) {x : Nat} {q : List Nat} (hq : s.ready = x :: q) :
    Inv { s with st := upd s.st x St.running, ready := q, deq := s.deq ++ [x], runs := s.runs ++ [x],
                   cur := some x } :=
  { h with
    fifo := by simp [h.fifo, hq]
    per := fun i => by have := h.per i; grind [upd_apply, Per]
    idle := fun _ hb => absurd hb h.has_base
    running_iff := upd_running_iff h x
    cur_base := by simp [h.has_base] }

/-- serves `Step.direct` and, with the awaiter taken by `final_awaiter`, `Step.finTo` -/
theorem inv_direct (h : Mid s) {x : Nat}
    (hx : s.st x = St.fresh ∨ s.st x = St.yielded ∨ ∃ d, s.st x = St.waiting d ∧ s.waiter d = none) :
    Inv { s with st := upd s.st x St.running, cur := some x, made := s.made ++ [x], runs := s.runs ++ [x] } :=
  { h with
    per := fun i => by have := h.per i; grind [upd_apply, Per]
    running_iff := upd_running_iff h x
    cur_base := by simp [h.has_base] }

theorem inv_settle (h : Mid s) : Inv (settle s) := by
  unfold settle
  split
  next p ps hc =>
    exact { h with
      per := fun i => by have := h.per i; grind [upd_apply, Per]
      calls_base := fun hb => absurd hb h.has_base
      running_iff := upd_running_iff h p
      cur_base := by simp [h.has_base] }
  next hc =>
    split
    next hb => exact absurd hb h.has_base
    next hb =>
      have hk : s.active = true ∧ s.blocks ≠ [] := by simpa [hb] using h.base_ok
      exact { h with
        per := fun i => by have := h.per i; grind [loopIds, Per]
        base_ok := ⟨fun _ => hk.2, fun _ => hk.1⟩
        calls_base := fun _ => hc
        idle := fun hbl => absurd hbl hk.2
        running_iff := fun i => by simp [h.no_running i]
        cur_base := by simp }
    next x rest prev hb =>
      exact { h with
        per := fun i => by have := h.per i; grind [upd_apply, loopIds, Per]
        base_ok := by simpa [hb] using h.base_ok
        calls_base := nofun
        idle := nofun
        running_iff := upd_running_iff h x
        cur_base := by simp }
    next prev hb =>
      split
      next x q hr => exact inv_front h hr
      next hr =>
        have hk : s.active = true ∧ prev = !s.blocks.isEmpty := by simpa [hb] using h.base_ok
        exact { h with
          per := fun i => by have := h.per i; grind [loopIds, Per]
          base_ok := by simp [hk.2]
          calls_base := fun _ => hc
          idle := fun _ _ => hr
          running_iff := fun i => by simp [h.no_running i]
          cur_base := by simp }

theorem cur_settle {m : State} (h : Core m) {x : Nat} (hx : (settle m).cur = some x) :
    m.st x = St.ready ∨ m.st x = St.stacked := by
  have h1 := (h.per x).handle_once
  have h2 := (h.per x).stacked_once
  unfold settle at hx
  repeat' split at hx
  all_goals grind [loopIds]

/-- no clause reads `starter` or `gen` -/
theorem inv_unread (h : Inv s) (f : Nat → Option Nat) (g : Nat → Bool) : Inv { s with starter := f, gen := g } :=
  { h with per := fun i => { h.per i with } }

theorem inv_enqueue (h : Inv s) (ha : s.active = true) {st' : Nat → St} {hs : List Nat} (hw : Woken s.st st' hs) :
    Inv { s with st := st', ready := s.ready ++ hs, enq := s.enq ++ hs, made := s.made ++ hs } :=
  { h with
    fifo := by simp [h.fifo]
    per := fun i => by have := h.per i; have := hw i; grind [Per]
    idle := fun hb hn => by have := h.base_ok; simp_all
    running_iff := fun i => by have := h.running_iff i; have := hw i; grind }

theorem inv_postJob (h : Inv s) {st' : Nat → St} {hs : List Nat} (hw : Woken s.st st' hs) (k : Bool) :
    Inv { s with st := st', jobs := s.jobs ++ [(hs, k)], made := s.made ++ hs } :=
  { h with
    per := fun i => by have := h.per i; have := hw i; grind [jobIds_snoc, Per]
    running_iff := fun i => by have := h.running_iff i; have := hw i; grind }

theorem inv_wakePar (h : Inv s) (d : Nat) : Inv (wakePar s d) := by
  unfold wakePar
  split
  next hd => exact inv_postJob h (fun i => by grind [upd_apply]) false
  next => exact h

/-- Symmetric transfer out of an awaited suspend point that held the handles `hs` (`st'`: the statuses after the targets
were made ready): `out` is resumed; `X`, the others and the awaiting coroutine, is queued. -/
theorem inv_transfer (h : Inv s) {c : Nat} (hc : s.cur = some c) {st' : Nat → St} {hs : List Nat}
    (hw : Woken s.st st' hs)
    {out : Nat} (ho : out ∈ hs) (X M : List Nat)
    (hX : ∀ i, X.count i + (if out == i then 1 else 0) = hs.count i + if c == i then 1 else 0)
    (hM : ∀ i, M.count i = s.made.count i + hs.count i + if c == i then 1 else 0) :
    Inv { s with st := upd (upd st' c St.ready) out St.running, ready := s.ready ++ X, enq := s.enq ++ X,
                   made := M, runs := s.runs ++ [out], cur := some out } :=
  have ⟨hr, hb, _⟩ := cur_facts h hc
  have ho := List.count_pos_iff.2 ho
  have hso : (s.st out = St.fresh ∨ s.st out = St.parked ∨ s.st out = St.pparked) ∧ st' out = St.ready ∧ hs.count out = 1 := by
    have := hw out; grind
  have hsc : st' c = St.running ∧ hs.count c = 0 := by have := hw c; grind
  { h with
    fifo := by simp [h.fifo]
    per := fun i => by
      have p := h.per i; have hi := hw i; have hXi := hX i; have hMi := hM i
      clear hw hX hM  -- spent at `i`; left in, `grind` goes on instantiating them (a tenth more work), here and below
      grind [upd_apply, Per]
    idle := fun _ hn => absurd hn hb
    running_iff := fun i => by have := h.running_iff i; have := hw i; clear hw hX hM; grind [upd_apply]
    cur_base := by simp [hb] }

theorem inv_coAwaitSp (h : Inv s) {c : Nat} (hc : s.cur = some c) (cs : List Nat) (rev : Bool) :
    Inv (coAwaitSp s c cs rev) := by
  have hw := collect_woken s.st cs
  unfold coAwaitSp handles
  split
  next => exact h
  next out ho =>
    obtain ⟨rest, hr⟩ := List.getLast?_eq_some_iff.1 ho
    simp only [hr, List.dropLast_concat, List.append_assoc] at hw ⊢
    exact inv_transfer h hc hw (by simp) _ _
      (fun i => by simp only [List.count_append, List.count_singleton]; omega)
      (fun i => by simp only [List.count_append, List.count_singleton]; omega)

theorem inv_coAwaitSelf (h : Inv s) {c : Nat} (hc : s.cur = some c) (pre post : List Nat) :
    Inv (coAwaitSelf s c pre post) := by
  have hw := collect_woken s.st (pre ++ post)
  simp only [collect_append] at hw
  unfold coAwaitSelf
  split
  next hnone =>
    -- own handle last: the transfer goes to the awaiting coroutine itself, the handles of `pre` are queued
    simp only [List.getLast?_eq_none_iff.1 hnone, List.append_nil] at hw
    have hb := (cur_facts h hc).2.1
    exact { h with
      fifo := by simp [h.fifo]
      per := fun i => by have := h.per i; have := hw i; grind [Per]
      idle := fun _ hn => absurd hn hb
      running_iff := fun i => by have := h.running_iff i; have := hw i; grind }
  next out ho =>
    obtain ⟨rest, hr⟩ := List.getLast?_eq_some_iff.1 ho
    simp only [hr, List.dropLast_concat, List.append_assoc] at hw ⊢
    exact inv_transfer h hc hw (by simp) _ _
      (fun i => by simp only [List.count_append, List.count_singleton]; omega)
      (fun i => by simp only [List.count_append, List.count_singleton]; omega)

theorem inv_mainEnter (h : Inv s) (hc : s.cur = none) : Inv (mainEnter s) := by
  have ⟨hb, _, _, hab⟩ := main_facts h hc
  unfold mainEnter
  exact { h with
    per := fun i => { h.per i with }
    base_ok := by simp [hb]
    blocks_prev := ⟨by cases hbl : s.blocks <;> simpa [hbl] using hab, h.blocks_prev⟩
    idle := nofun }

theorem inv_Step (h : Inv s) {t : State} (k : Step s t) : Inv t := by
  cases k with
  | stay => exact h
  | settle y => exact inv_settle (mid_Yield h y)
  | front y hq => exact inv_front (mid_Yield h y) hq
  | @direct m x y hx f g =>
    have := st_Yield y x
    have := h.running_iff x
    exact inv_unread (inv_direct (mid_Yield h y) (by grind)) f g
  | finTo hc hp =>
    have hr := (cur_facts h hc).1
    have := (h.per _).waiter_ok _ hp
    exact inv_direct (mid_Yield h (.fin hc)) (.inr (.inr ⟨_, by grind [upd_apply], upd_same ..⟩))
  | enqueue ha cs rev =>
    refine inv_enqueue h ?_ (collect_woken s.st cs)
    cases hc : s.cur with
    | none => exact ha hc
    | some c => exact (cur_facts h hc).2.2
  | postJob cs rev =>
    unfold postJob
    split
    · exact h
    · exact inv_postJob h (collect_woken s.st cs) false
  | wakePar d => exact inv_wakePar h d
  | awaitSp hc cs rev => exact inv_coAwaitSp h hc cs rev
  | awaitSelf hc pre post => exact inv_coAwaitSelf h hc pre post
  | pauseNil hc hq =>
    exact { h with
      fifo := by simp [h.fifo, hq]
      per := fun i => by have := h.per i; grind [Per] }
  | enter hc => exact inv_mainEnter h hc
  | wakeLoop hc ha cs rev => exact inv_settle (mid_mainWake h hc ha (collect_woken s.st cs))

theorem inv_step (h : Inv s) (a : Act) : Inv (step s a) := inv_Step h (step_Step s a)

theorem inv_run (acts : List Act) : ∀ {s : State}, Inv s → Inv (run s acts) := by
  induction acts with
  | nil => exact id
  | cons a as ih => exact fun h => ih (inv_step h a)

/-- Who gains control in a step: a coroutine whose handle is popped (`ready`), whose nested call returns (`stacked`), that is
resumed directly (`fresh`, `yielded`), that this very act woke and transfers to (`fresh`, `parked`), or that awaits the
coroutine finishing in this step. -/
theorem cur_Step (h : Inv s) {t : State} (k : Step s t) {x : Nat} (hx : t.cur = some x) :
    s.cur = some x ∨ s.st x = St.ready ∨ s.st x = St.stacked ∨ s.st x = St.fresh ∨ s.st x = St.yielded ∨ s.st x = St.parked
      ∨ ∃ c, s.cur = some c ∧ s.st x = St.waiting c := by
  cases k with
  | stay => exact .inl hx
  | settle y => have := cur_settle (mid_Yield h y).toCore hx; have := st_Yield y x; grind
  | front y hq =>
    have := ((mid_Yield h y).per x).handle_once
    have := st_Yield y x
    grind
  | direct y hd f g => grind
  | finTo hc hp => have := (h.per _).waiter_ok _ hp; grind
  | enqueue ha cs rev => exact .inl hx
  | postJob cs rev => unfold postJob at hx; split at hx <;> exact .inl hx
  | wakePar d => unfold wakePar at hx; split at hx <;> exact .inl hx
  | awaitSp hc cs rev =>
    unfold coAwaitSp handles at hx
    split at hx
    · exact .inl hx
    next out ho => have := collect_spec cs s.st out; have := List.mem_of_getLast? ho; grind [wakeable]
  | awaitSelf hc pre post =>
    unfold coAwaitSelf at hx
    split at hx
    · exact .inl hx
    next out ho =>
      have := collect_spec pre s.st out; have := collect_spec post (collect s.st pre).1 out
      have := List.mem_of_getLast? ho; grind [wakeable]
  | pauseNil hc hq => exact .inl hx
  | enter hc => exact .inl hx
  | wakeLoop hc ha cs rev =>
    have := cur_settle (mid_mainWake h hc ha (collect_woken s.st cs)).toCore hx
    have := (collect_spec cs s.st x).1
    grind [wakeable]

def Grows (s t : State) : Prop := s.enq <+: t.enq ∧ s.deq <+: t.deq

theorem grows_refl (s : State) : Grows s s := ⟨List.prefix_refl _, List.prefix_refl _⟩
theorem grows_trans {a b c : State} (h1 : Grows a b) (h2 : Grows b c) : Grows a c :=
  ⟨h1.1.trans h2.1, h1.2.trans h2.2⟩

/-- `m`: the state handed to `settle` by an act that touched no log -/
theorem grows_settle (s m : State) (he : m.enq = s.enq) (hd : m.deq = s.deq) : Grows s (settle m) := by
  rw [Grows, ← he, ← hd]
  unfold settle
  repeat' split
  all_goals simp

theorem grows_Yield {s m : State} (y : Yield s m) : s.enq <+: m.enq ∧ m.deq = s.deq := by
  cases y <;> simp

theorem grows_Step {s t : State} (k : Step s t) : Grows s t := by
  cases k with
  | stay => exact grows_refl s
  | settle y =>
    have ⟨h1, h2⟩ := grows_Yield y
    exact grows_trans ⟨h1, h2 ▸ List.prefix_refl _⟩ (grows_settle _ _ rfl rfl)
  | front y hq => have ⟨h1, h2⟩ := grows_Yield y; simp [Grows, h1, h2]
  | direct y hx f g => have ⟨h1, h2⟩ := grows_Yield y; simp [Grows, h1, h2]
  | finTo hc hp => simp [Grows]
  | enqueue ha cs rev => simp [enqueue, Grows]
  | postJob cs rev => unfold postJob; split <;> simp [Grows]
  | wakePar d => unfold wakePar; split <;> simp [Grows]
  | awaitSp hc cs rev => unfold coAwaitSp; split <;> simp [Grows]
  | awaitSelf hc pre post => unfold coAwaitSelf; split <;> simp [Grows]
  | pauseNil hc hq => simp [Grows]
  | enter hc => simp [mainEnter, Grows]
  | wakeLoop hc ha cs rev => exact grows_settle _ _ rfl rfl

theorem grows_run (acts : List Act) : ∀ s : State, Grows s (run s acts) := by
  induction acts with
  | nil => exact grows_refl
  | cons a as ih => exact fun s => grows_trans (grows_Step (step_Step s a)) (ih (step s a))

theorem prefix_of_last_not_mem {α} {P D R : List α} {c : α} (h : P ++ [c] <+: D ++ R) (hc : c ∉ R) :
    P ++ [c] <+: D := by
  rcases List.prefix_or_prefix_of_prefix h (List.prefix_append D R) with h1 | ⟨r, hr⟩
  · exact h1
  · have hrR : r <+: R := (List.prefix_append_right_inj D).1 (hr ▸ h)
    rcases List.eq_nil_or_concat r with rfl | ⟨r', l, rfl⟩
    · rw [← hr, List.append_nil]; exact List.prefix_refl _
    · obtain rfl : l = c := by simpa [← List.append_assoc] using congrArg List.getLast? hr
      exact absurd (hrR.subset (by simp)) hc

/-- a coroutine running directly under the flush loop finishes, then everybody in the ready queue `q`, in order, and the
thread leaves coroutine mode -/
theorem drain_fins (q : List Nat) : ∀ (s : State) (c : Nat), s.cur = some c → s.calls = [] →
    s.base = some (Base.loop [] false) → s.ready = q → (∀ i, s.waiter i = none) →
    let t := run s (List.replicate (q.length + 1) Act.fin)
    t.cur = none ∧ t.ready = [] ∧ t.deq = s.deq ++ q ∧ t.runs = s.runs ++ q ∧ t.active = false ∧ t.blocks = s.blocks := by
  induction q with
  | nil =>
    intro s c hc hcl hb hr hw
    simp [run, step, hc, coStep, coFin, hw c, settle, hcl, hb, hr]
  | cons x q ih =>
    intro s c hc hcl hb hr hw
    simpa [run, List.replicate_succ, step, hc, coStep, coFin, hw, settle, hcl, hb, hr] using ih (step s Act.fin) x

end Cocls.Exec
