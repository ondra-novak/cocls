/-
Model of `cocls::queue<T>` and `cocls::queue<void>` (queue.h:131-240, std_queue<void> queue.h:46-56).

One step per lock region.  The promise resolutions that the code performs *after* dropping the lock
(`push` handing the item to the oldest parked promise, queue.h:152-155; `unblock_pop`, queue.h:227-230)
are kept as separate in-flight steps (`Op.deliver k`), so an operation list is an arbitrary interleaving
of the lock regions and out-of-lock resolutions of any number of producer and consumer threads.
`pop` resolves its *own* promise inside the lock region (queue.h:204-210), so that is one step.

Ghost data (never consulted by the control flow): the serial number and the producer label of every
item, the consumer label of every pop, and the logs `pushed`, `served`, `completed`.
-/
namespace Cocls.Q

/-- a queued item: `(serial number of its push, producer label, value)`; only `val` is real -/
structure Item where
  id : Nat
  prod : Nat
  val : Nat
  deriving DecidableEq, Repr, Inhabited

/-- one call of `pop()` = one future: `(serial number, consumer label)`; the label is ghost -/
structure Pop where
  id : Nat
  cons : Nat
  deriving DecidableEq, Repr, Inhabited

/-- outcome of a pop future -/
inductive Out where
  | val (it : Item)     -- `queue<T>`: resolved with an item
  | ok                  -- `queue<void>`: resolved (one count taken)
  | exc (c : Nat)       -- failed by `unblock_pop` with exception code `c`
  | canceled            -- promise destroyed with the queue (`await_canceled_exception`)
  deriving DecidableEq, Repr, Inhabited

/-- a resolution of the future of one pop -/
structure Ev where
  pop : Pop
  out : Out
  deriving DecidableEq, Repr, Inhabited

inductive Op where
  | push (prod : Nat) (v : Nat)
  | pushthrow             -- `push` whose item constructor throws
  | pop (cons : Nat)
  | popthrow (cons : Nat)   -- `pop` while the item's move constructor throws on the hand-over
  | upop (c : Nat)
  | size
  | empty
  | destroy
  | deliver (k : Nat)     -- perform the k-th in-flight (decided, out-of-lock) resolution
  deriving Repr, DecidableEq

inductive Res where
  | push (id : Nat) (woke : Bool)     -- return value of `push`: a parked consumer was taken
  | pop (id : Nat) (o : Option Out)   -- `none`: the future is pending (promise parked)
  | flag (b : Bool)
  | num (n : Nat)
  | unit
  | threw                             -- the exception of the item's constructor left `push`
  | full                              -- the backing store refused the element (`single_item_queue`: std::runtime_error)
  | bad                               -- outside the precondition (queue already destroyed / no such k)
  deriving Repr, DecidableEq

/-! ## `queue<T>` -/

structure State where
  -- configuration (template arguments `Queue` / `CoroQueue`): `none` = `std_queue` (unbounded), `some n` = a backing store
  -- that refuses the (n+1)-th element - `primitives::single_item_queue` is `some 1`: `emplace` throws
  -- std::runtime_error("Single item queue is full") *before* touching anything (queue.h:77-80).  The `Lock` argument
  -- (`std::mutex`, `primitives::no_lock`, the harness's parking lock) has no field: a lock region is a step.
  cap : Option Nat := none      -- capacity of `Queue<T>` (items)
  wcap : Option Nat := none     -- capacity of `CoroQueue<promise<T>>` (parked pops)
  items : List Item := []       -- `_queue`, oldest first
  waiters : List Pop := []      -- `_awaiters` (parked promises), oldest first
  inflight : List Ev := []      -- promise moved out under the lock, resolution not yet performed
  nextPop : Nat := 0
  nextPush : Nat := 0
  alive : Bool := true
  -- ghost
  pushed : List Item := []      -- every item ever pushed, in lock order
  served : List Ev := []        -- every decision about a pop future, in lock order
  completed : List Ev := []     -- resolutions performed so far, in order
  unblocks : List (Pop × Nat) := []   -- successful `unblock_pop(c)` calls: (pop that was failed, c)
  throws : List Pop := []       -- pops failed by a `push` whose item constructor threw
  rethrown : List Item := []    -- items whose hand-over to a pop threw (they stay queued)
  deriving Repr

def init : State := {}

/-- the empty queue of a given configuration -/
def initCfg (cap wcap : Option Nat) : State := { cap := cap, wcap := wcap }

def itemsFull (s : State) : Bool :=
  match s.cap with
  | some n => decide (n ≤ s.items.length)
  | none => false

def waitersFull (s : State) : Bool :=
  match s.wcap with
  | some n => decide (n ≤ s.waiters.length)
  | none => false

/-- `queue::push` lock region (queue.h:149-161) -/
def stepPush (s : State) (p v : Nat) : State × Res :=
  match s.waiters with
  | w :: ws =>
      ({ s with waiters := ws, nextPush := s.nextPush + 1,
                inflight := s.inflight ++ [⟨w, Out.val ⟨s.nextPush, p, v⟩⟩],
                pushed := s.pushed ++ [⟨s.nextPush, p, v⟩],
                served := s.served ++ [⟨w, Out.val ⟨s.nextPush, p, v⟩⟩] }, Res.push s.nextPush true)
  | [] =>
      ({ s with items := s.items ++ [⟨s.nextPush, p, v⟩], nextPush := s.nextPush + 1,
                pushed := s.pushed ++ [⟨s.nextPush, p, v⟩] }, Res.push s.nextPush false)

/-- `queue::push` whose item constructor throws.
No pop waiting (queue.h:157): `_queue.emplace` throws inside the lock region, `std::deque::emplace_back` has no effect
when it throws and the `unique_lock` releases the lock during unwinding - nothing changes.
A pop waiting (queue.h:151-155): the oldest parked promise is moved out under the lock, the lock is dropped, and
`p(args)` constructs the item inside the future: the constructor throws after `promise::set_value` claimed the
promise, which resolves the future *without a value* (future.h:645-653) before the exception leaves `push` - the
waiting pop completes as canceled (`await_canceled_exception`), out of the lock, hence in flight first.
Either way the exception reaches the caller and no item exists (`pushed`, `nextPush` unchanged). -/
def stepPushThrow (s : State) : State × Res :=
  match s.waiters with
  | [] => (s, Res.threw)
  | w :: ws =>
      ({ s with waiters := ws, inflight := s.inflight ++ [⟨w, Out.canceled⟩],
                served := s.served ++ [⟨w, Out.canceled⟩], throws := s.throws ++ [w] }, Res.threw)

/-- `queue::pop` lock region (queue.h:198-213): park the promise, or resolve it with the head -/
def stepPop (s : State) (c : Nat) : State × Res :=
  match s.items with
  | [] => ({ s with waiters := s.waiters ++ [⟨s.nextPop, c⟩], nextPop := s.nextPop + 1 },
           Res.pop s.nextPop none)
  | x :: xs =>
      ({ s with items := xs, nextPop := s.nextPop + 1,
                served := s.served ++ [⟨⟨s.nextPop, c⟩, Out.val x⟩],
                completed := s.completed ++ [⟨⟨s.nextPop, c⟩, Out.val x⟩] },
       Res.pop s.nextPop (some (Out.val x)))

/-! With a bounded backing store the `emplace` of the lock region throws when the store is full: `_queue.emplace` in
`push` (nobody waiting, queue.h:157), `_awaiters.emplace` in `pop` (queue empty, queue.h:202).  The check is the first
thing `emplace` does, the `unique_lock` unlocks during unwinding, the promise of the refused `pop` dies with the
future that was being constructed: nothing changes, the caller sees the exception (`Res.full`), no push/pop serial is used. -/

def stepPushC (s : State) (p v : Nat) : State × Res :=
  if s.waiters.isEmpty && itemsFull s then (s, Res.full) else stepPush s p v

/-- the full-check of `single_item_queue::emplace` comes before the item is constructed -/
def stepPushThrowC (s : State) : State × Res :=
  if s.waiters.isEmpty && itemsFull s then (s, Res.full) else stepPushThrow s

def stepPopC (s : State) (c : Nat) : State × Res :=
  if s.items.isEmpty && waitersFull s then (s, Res.full) else stepPop s c

/-- `queue::pop` while the item's move constructor throws on the hand-over (queue.h:204-210).  Empty queue: nothing is
handed over, an ordinary `pop`.  Otherwise `promise(std::move(_queue.front()))` throws out of the construction of the
future's value: `promise::set_value` resolves the future that is being constructed and rethrows, the exception leaves the
initialiser of `future<T>` and `pop()` itself - the caller gets no future (no pop serial) - *before* `_queue.pop()`
(queue.h:209) is reached, and the `unique_lock` unlocks during unwinding: the item stays at the front of the queue, to be
delivered to the next pop.  Only the ghost log `rethrown` changes. -/
def stepPopThrowC (s : State) (c : Nat) : State × Res :=
  match s.items with
  | [] => stepPopC s c
  | x :: _ => ({ s with rethrown := s.rethrown ++ [x] }, Res.threw)

/-- `queue::unblock_pop` lock region (queue.h:224-231) -/
def stepUpop (s : State) (c : Nat) : State × Res :=
  match s.waiters with
  | [] => (s, Res.flag false)
  | w :: ws => ({ s with waiters := ws, inflight := s.inflight ++ [⟨w, Out.exc c⟩],
                         served := s.served ++ [⟨w, Out.exc c⟩],
                         unblocks := s.unblocks ++ [(w, c)] }, Res.flag true)

/-- destructor: `_awaiters` is destroyed front to back, every parked promise is dropped (resolved
without a value); the queued items die with the queue -/
def stepDestroy (s : State) : State × Res :=
  ({ s with alive := false, waiters := [],
            served := s.served ++ s.waiters.map (fun w => ⟨w, Out.canceled⟩),
            completed := s.completed ++ s.waiters.map (fun w => ⟨w, Out.canceled⟩) }, Res.unit)

def stepDeliver (s : State) (k : Nat) : State × Res :=
  match s.inflight[k]? with
  | none => (s, Res.bad)
  | some e => ({ s with inflight := s.inflight.eraseIdx k, completed := s.completed ++ [e] }, Res.unit)

def stepLive (s : State) (op : Op) : State × Res :=
  match op with
  | Op.push p v => stepPushC s p v
  | Op.pushthrow => stepPushThrowC s
  | Op.pop c => stepPopC s c
  | Op.popthrow c => stepPopThrowC s c
  | Op.upop c => stepUpop s c
  | Op.size => (s, Res.num s.items.length)
  | Op.empty => (s, Res.flag s.items.isEmpty)
  | Op.destroy => stepDestroy s
  | Op.deliver k => stepDeliver s k

/-- precondition of the real code made explicit: no member call after the destructor (`Res.bad`) -/
def step (s : State) (op : Op) : State × Res :=
  match op with
  | Op.deliver k => stepDeliver s k
  | _ => if s.alive then stepLive s op else (s, Res.bad)

def run (s : State) (ops : List Op) : State := ops.foldl (fun s op => (step s op).1) s

end Cocls.Q

/-! ## `queue<void>`: `std_queue<void>` is a counter (`emplace`: `++_sz`; `pop`: `_sz = max(1,_sz)-1`) -/
namespace Cocls.VQ
open Cocls.Q

structure State where
  wcap : Option Nat := none     -- capacity of `CoroQueue<promise<void>>` (`single_item_queue` does not exist for `void` items)
  sz : Nat := 0                 -- `std_queue<void>::_sz`
  waiters : List Pop := []
  inflight : List Ev := []
  nextPop : Nat := 0
  nPush : Nat := 0
  alive : Bool := true
  -- ghost
  served : List Ev := []
  completed : List Ev := []
  unblocks : List (Pop × Nat) := []
  deriving Repr

def init : State := {}

def initCfg (wcap : Option Nat) : State := { wcap := wcap }

def waitersFull (s : State) : Bool :=
  match s.wcap with
  | some n => decide (n ≤ s.waiters.length)
  | none => false

def stepPush (s : State) : State × Res :=
  match s.waiters with
  | w :: ws =>
      ({ s with waiters := ws, nPush := s.nPush + 1,
                inflight := s.inflight ++ [⟨w, Out.ok⟩],
                served := s.served ++ [⟨w, Out.ok⟩] }, Res.push s.nPush true)
  | [] => ({ s with sz := s.sz + 1, nPush := s.nPush + 1 }, Res.push s.nPush false)

/-- mirror of `Q.stepPushThrow` (`void` has no item whose construction could throw; kept so that every operation of
the `queue<T>` model has its image) -/
def stepPushThrow (s : State) : State × Res :=
  match s.waiters with
  | [] => (s, Res.threw)
  | w :: ws =>
      ({ s with waiters := ws, inflight := s.inflight ++ [⟨w, Out.canceled⟩],
                served := s.served ++ [⟨w, Out.canceled⟩] }, Res.threw)

def stepPop (s : State) (c : Nat) : State × Res :=
  if s.sz = 0 then
    ({ s with waiters := s.waiters ++ [⟨s.nextPop, c⟩], nextPop := s.nextPop + 1 }, Res.pop s.nextPop none)
  else
    ({ s with sz := Nat.max 1 s.sz - 1, nextPop := s.nextPop + 1,
              served := s.served ++ [⟨⟨s.nextPop, c⟩, Out.ok⟩],
              completed := s.completed ++ [⟨⟨s.nextPop, c⟩, Out.ok⟩] }, Res.pop s.nextPop (some Out.ok))

def stepPopC (s : State) (c : Nat) : State × Res :=
  if (s.sz == 0) && waitersFull s then (s, Res.full) else stepPop s c

/-- mirror of `Q.stepPopThrowC` (`void` has no item whose hand-over could throw) -/
def stepPopThrowC (s : State) (c : Nat) : State × Res :=
  if s.sz = 0 then stepPopC s c else (s, Res.threw)

def stepUpop (s : State) (c : Nat) : State × Res :=
  match s.waiters with
  | [] => (s, Res.flag false)
  | w :: ws => ({ s with waiters := ws, inflight := s.inflight ++ [⟨w, Out.exc c⟩],
                         served := s.served ++ [⟨w, Out.exc c⟩],
                         unblocks := s.unblocks ++ [(w, c)] }, Res.flag true)

def stepDestroy (s : State) : State × Res :=
  ({ s with alive := false, waiters := [],
            served := s.served ++ s.waiters.map (fun w => ⟨w, Out.canceled⟩),
            completed := s.completed ++ s.waiters.map (fun w => ⟨w, Out.canceled⟩) }, Res.unit)

def stepDeliver (s : State) (k : Nat) : State × Res :=
  match s.inflight[k]? with
  | none => (s, Res.bad)
  | some e => ({ s with inflight := s.inflight.eraseIdx k, completed := s.completed ++ [e] }, Res.unit)

def stepLive (s : State) (op : Op) : State × Res :=
  match op with
  | Op.push _ _ => stepPush s
  | Op.pushthrow => stepPushThrow s
  | Op.pop c => stepPopC s c
  | Op.popthrow c => stepPopThrowC s c
  | Op.upop c => stepUpop s c
  | Op.size => (s, Res.num s.sz)
  | Op.empty => (s, Res.flag (s.sz == 0))
  | Op.destroy => stepDestroy s
  | Op.deliver k => stepDeliver s k

def step (s : State) (op : Op) : State × Res :=
  match op with
  | Op.deliver k => stepDeliver s k
  | _ => if s.alive then stepLive s op else (s, Res.bad)

def run (s : State) (ops : List Op) : State := ops.foldl (fun s op => (step s op).1) s

end Cocls.VQ
