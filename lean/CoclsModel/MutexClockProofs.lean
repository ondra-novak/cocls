import CoclsModel.MutexClock
import CoclsModel.MutexProofs

/-!
# The coroutine mutex protocol is data-race free on the happens-before machine (`MutexClock.lean`) — C03

`MutexOrders.sufficient` asks for release / acquire at six sites; the three failure orders do not occur in it.
`Inv c s k`: `Mutex.Inv` of the protocol part (`St.m` is advanced by `Mutex.agentStep`, so `Mutex.inv_step` carries it) plus clock
domination, `k` naming the owner (`ow`).  Every recorded access to the datum and to `_queue` is in `gcl s k`, the clock of whoever
holds the mutex (`guard`); those to the node of `x` are in `ncl s k x` (`node`); a pending `build_queue` loop belongs to the owner
and touches queued nodes only (`wk`).
Preservation: a plain access by a contender whose own clock covers the location (`inv_wrNext` … `inv_flush`); one lemma per kind of
move, stated for an arbitrary successor protocol state `m'` of which only its `Shape` is known, its clause-by-clause case analysis
being `cinv_close`; `inv_move` goes through the moves of `Mutex.Step` with the clock step `instr` under each.
Then the C03 theorems (`mutex_race_free`, `mutex_handoff_ordered`), the bridge to `Mutex.lean` (`run_erase` … `run_is_arun`; the step to
`MutexPtr.lean`, `run_ptr_repr`, is in `Props/C03.lean`) and the necessity witnesses (`mutex_needs_*`, `mutex_ready_acquire_necessary`, `mutex_unlock_release_necessary`).
-/

namespace Cocls.MutexClock
open Cocls.Clock (VC upd relVc acqVc tickIf le_acqVc upd_self)
open Cocls.Mutex (Elem Seen Pc nodesOf seenOf)

def Meta.le (m : Meta) (X : VC) : Prop := m.wr.2 ≤ X m.wr.1 ∧ ∀ e ∈ m.rd, e.2 ≤ X e.1

theorem Meta.le_mono {m : Meta} {X Y : VC} (h : m.le X) (hxy : ∀ i, X i ≤ Y i) : m.le Y :=
  ⟨Nat.le_trans h.1 (hxy _), fun e he => Nat.le_trans (h.2 e he) (hxy _)⟩

theorem Meta.okW_of_le {m : Meta} {X : VC} (h : m.le X) : m.okW X = true := by
  simp only [Meta.okW, Bool.and_eq_true, decide_eq_true_eq, List.all_eq_true]
  exact ⟨h.1, h.2⟩

theorem Meta.okR_of_le {m : Meta} {X : VC} (h : m.le X) : m.okR X = true := by
  simp only [Meta.okR, decide_eq_true_eq]; exact h.1

theorem Meta.write_self (t : Nat) (c : VC) : (Meta.write t c).le c :=
  ⟨Nat.le_refl _, fun e he => by simp [Meta.write] at he⟩

theorem Meta.read_le {m : Meta} {t : Nat} {c X : VC} (hm : m.le X) (h : (Meta.write t c).le X) : (m.read t c).le X := by
  refine ⟨hm.1, fun e he => ?_⟩
  simp only [Meta.read, List.mem_cons] at he
  rcases he with rfl | he
  · exact h.1
  · exact hm.2 e he

theorem Meta.init_le (X : VC) : ({} : Meta).le X := ⟨Nat.zero_le _, fun e he => by simp at he⟩

theorem Meta.upd_le {f : Nat → Meta} {C : Nat → VC} (hf : ∀ y, (f y).le (C y)) {x : Nat} {m : Meta} (hm : m.le (C x)) (y : Nat) :
    (upd f x m y).le (C y) := by
  rw [Clock.upd_apply]
  split
  · subst_vars; exact hm
  · exact hf y

theorem Meta.le_acq_left {m : Meta} (ord : Order) {c : VC} (r : VC) (h : m.le c) : m.le (acqVc ord c r) :=
  Meta.le_mono h (le_acqVc ord c r)
theorem Meta.le_acq_right {m : Meta} {ord : Order} (c : VC) {r : VC} (ho : ord.isAcq = true) (h : m.le r) : m.le (acqVc ord c r) :=
  Meta.le_mono h (Clock.le_acqVc_msg ord ho c r)
theorem Meta.le_rel {m : Meta} {ord : Order} {c : VC} (ho : ord.isRel = true) (h : m.le c) : m.le (relVc ord c) :=
  Meta.le_mono h (Clock.le_relVc ord ho c)
theorem Meta.le_tickIf {m : Meta} (ord : Order) {c : VC} (t : Nat) (h : m.le c) : m.le (tickIf ord c t) :=
  Meta.le_mono h (Clock.le_tickIf ord c t)
theorem Meta.le_tick {m : Meta} {c : VC} (t : Nat) (h : m.le c) : m.le (VC.tick c t) :=
  Meta.le_mono h (Clock.le_tick c t)
theorem Meta.le_join_left {m : Meta} {c : VC} (d : VC) (h : m.le c) : m.le (VC.join c d) :=
  Meta.le_mono h (Clock.le_join_left c d)
theorem Meta.le_join_right {m : Meta} (c : VC) {d : VC} (h : m.le d) : m.le (VC.join c d) :=
  Meta.le_mono h (Clock.le_join_right c d)

/-! ### configurations: three flavours, released by `release()` -/

theorem curRound_toMutex (c : Cfg) (m : Mutex.State) (a : Nat) {r : Mutex.Round} (h : Mutex.curRound c.toMutex m a = some r) :
    r.fl ≠ Mutex.Flavour.cb ∧ r.rel = Mutex.Rel.x := by
  simp only [Mutex.curRound, Cfg.toMutex, List.getElem?_map] at h
  cases hx : (c.rounds a)[m.round a]? with
  | none => simp [hx] at h
  | some f =>
    simp only [hx, Option.map_some, Option.some.injEq] at h
    subst h
    cases f <;> simp [Fl.toMutex]

theorem relOf_toMutex (c : Cfg) (m : Mutex.State) (a : Nat) :
    Mutex.relOf c.toMutex m a ≠ some Mutex.Rel.g := by
  unfold Mutex.relOf
  cases h : Mutex.curRound c.toMutex m a with
  | none => simp
  | some r => simp [(curRound_toMutex c m a h).2]

theorem flOf_toMutex (c : Cfg) (m : Mutex.State) (a : Nat) :
    Mutex.flOf c.toMutex m a ≠ some Mutex.Flavour.cb := by
  unfold Mutex.flOf
  cases h : Mutex.curRound c.toMutex m a with
  | none => simp
  | some r => simpa using (curRound_toMutex c m a h).1

theorem runnable_eq (m : Mutex.State) (a : Nat) : runnable m a = Mutex.canRun m a := rfl

theorem iHand_co (o : MutexOrders) (c : Mutex.Cfg) (s : St) (a b : Nat) (rest : List Nat) (hq : s.m.queue = b :: rest)
    (hfl : Mutex.flOf c s.m b = some Mutex.Flavour.co) :
    iHand o c s a = resume (rdBody (wrNext (wrQueue s a) a b) a b) a b := by
  simp only [iHand, hq, hfl]

theorem iHand_flag (o : MutexOrders) (c : Mutex.Cfg) (s : St) (a b : Nat) (rest : List Nat) (hq : s.m.queue = b :: rest)
    (hfl : Mutex.flOf c s.m b ≠ some Mutex.Flavour.co) :
    iHand o c s a = flagStore o.flagStore (rdBody (wrNext (wrQueue s a) a b) a b) a b := by
  unfold iHand
  simp only [hq]

/-- the clock that dominates whatever contender `x` holds: its own clock; for a blocking waiter whose flag is stored but who has
not returned from `flag.wait` yet, the clock carried by the flag; for a requester that found the mutex free and has not run
`build_queue` yet, the release-sequence clock of `_requests` -/
def car (s : St) (x : Nat) : VC :=
  if s.m.pc x = Pc.build then s.rs
  else if s.m.pc x = Pc.waitFlag ∨ s.m.pc x = Pc.blocked then s.fvc x
  else s.clk x

/-- what the mutex guards (the datum, `_queue`, the nodes in the queue) is covered by `X` -/
def Dom (s : St) (X : VC) : Prop :=
  s.data.le X ∧ s.queue.le X ∧ ∀ x ∈ s.m.queue, (s.next x).le X ∧ (s.body x).le X

/-- the clock of whoever holds the mutex: the owner's carrier, or the release-sequence clock of `_requests` while it is free -/
def gcl (s : St) : Option Nat → VC
  | none => s.rs
  | some x => car s x

theorem gcl_none (s : St) : gcl s none = s.rs := rfl
theorem gcl_some (s : St) (x : Nat) : gcl s (some x) = car s x := rfl

/-- the clock that covers the node of `x` while `k` holds the mutex: the holder's once the node is in the queue, the
release-sequence clock of `_requests` while it is in the stack, its contender's carrier otherwise -/
def ncl (s : St) (k : Option Nat) (x : Nat) : VC :=
  if x ∈ s.m.queue then gcl s k else if x ∈ nodesOf s.m.req then s.rs else car s x

/-- carries the owner `k`, like `Mutex.InvAt` (`Mutex.Inv`, its clause `mi`, does not) -/
structure Inv (c : Mutex.Cfg) (s : St) (k : Option Nat) : Prop where
  mi : Mutex.Inv c s.m
  ow : ∀ x, Mutex.Owner s.m x ↔ k = some x
  nr : s.raced = false
  guard : s.data.le (gcl s k) ∧ s.queue.le (gcl s k)
  node : ∀ x, (s.next x).le (ncl s k x) ∧ (s.body x).le (ncl s k x)
  wk : ∀ a l, s.walk a = some l → (s.m.pc a = Pc.crit ∨ s.m.pc a = Pc.relHand) ∧ ∀ x ∈ l, x ∈ s.m.queue

variable {c : Mutex.Cfg} {s : St} {a : Nat} {k : Option Nat}

/-- pcs of the owner between its acquisition and the end of `unlock`: it runs on its own clock -/
def ownPc : Pc → Bool
  | Pc.crit | Pc.critS | Pc.afterCs | Pc.asg | Pc.relBuild | Pc.relHand => true
  | _ => false

theorem ownPc_of_pc {p : Pc} (e : s.m.pc a = p) (hp : ownPc p = true := by rfl) : ownPc (s.m.pc a) = true := e ▸ hp

theorem car_owner (hpc : ownPc (s.m.pc a) = true) : car s a = s.clk a := by
  cases hq : s.m.pc a <;> simp [hq, ownPc, car] at hpc ⊢

theorem Inv.owner (h : Inv c s k) (hpc : ownPc (s.m.pc a) = true) : k = some a :=
  (h.ow a).1 (by cases hq : s.m.pc a <;> simp [hq, ownPc, Mutex.Owner, Mutex.isOwner] at hpc ⊢)

theorem Inv.gcl_owner (h : Inv c s k) (hpc : ownPc (s.m.pc a) = true) : gcl s k = s.clk a := by
  rw [h.owner hpc, gcl_some, car_owner hpc]

/-- `mutex_handoff_ordered` for the reads as well as the write, at every pc of the owner -/
theorem Inv.data_le (h : Inv c s k) (hpc : ownPc (s.m.pc a) = true) : s.data.le (s.clk a) := h.gcl_owner hpc ▸ h.guard.1

theorem Inv.free_facts (h : Inv c s k) (hr : s.m.req = []) : k = none ∧ s.m.queue = [] ∧ nodesOf s.m.req = [] := by
  obtain ⟨hno, hq, _⟩ := h.mi.free_facts hr
  refine ⟨?_, hq, by rw [hr]; rfl⟩
  cases k with
  | none => rfl
  | some o => exact absurd ((h.ow o).2 rfl) (hno o)

/-- pcs at which a contender neither owns nor waits -/
def qt : Pc → Bool
  | Pc.top | Pc.tryFail | Pc.subInit | Pc.sub _ | Pc.relDone | Pc.done => true
  | _ => false

theorem qt_facts {p : Pc} (h : qt p = true) :
    (∀ f, Mutex.isOwner p f = false ∧ Mutex.isWaiting p f = false) ∧ p ≠ Pc.build ∧ p ≠ Pc.waitFlag ∧ p ≠ Pc.blocked := by
  cases p <;> simp [qt, Mutex.isOwner, Mutex.isWaiting] at h ⊢

/-- a contender away from the mutex holds nothing but its own node -/
theorem Inv.quiet (h : Inv c s k) (h0 : qt (s.m.pc a) = true) :
    k ≠ some a ∧ a ∉ s.m.queue ∧ a ∉ nodesOf s.m.req ∧ ncl s k a = s.clk a := by
  have n0 := qt_facts h0
  have hl : ¬ (a ∈ s.m.queue ∨ a ∈ nodesOf s.m.req) := by rw [← h.mi.listed_iff]; simp [Mutex.Listed, n0]
  exact ⟨fun e => by simpa [Mutex.Owner, n0] using (h.ow a).2 e, fun e => hl (Or.inl e), fun e => hl (Or.inr e),
    by simp [ncl, car, n0, not_or.1 hl]⟩

theorem Inv.dom (h : Inv c s k) (ha : Mutex.Owner s.m a) : Dom s (car s a) := by
  obtain rfl := (h.ow a).1 ha
  exact ⟨h.guard.1, h.guard.2, fun x hx => by simpa [ncl, hx, gcl_some] using h.node x⟩

theorem head_facts' (h : Mutex.Inv c s.m) {b : Nat} {rest : List Nat} (hq : s.m.queue = b :: rest)
    (hpc : s.m.pc a = Pc.afterCs ∨ s.m.pc a = Pc.asg ∨ s.m.pc a = Pc.relHand) :
    b ≠ a ∧ b ∉ rest ∧ b ∉ nodesOf s.m.req ∧ Mutex.isWaiting (s.m.pc b) (s.m.flag b) = true := by
  obtain ⟨hw, _, h1, h2⟩ := h.head_facts hq
  refine ⟨?_, List.count_eq_zero.1 h1, List.count_eq_zero.1 h2, hw⟩
  rintro rfl
  rcases hpc with e | e | e <;> simp [e, Mutex.isWaiting] at hw

/-! plain accesses: `a` touches a location that its own clock covers -/

theorem inv_wrNext (h : Inv c s k) (x : Nat) (hn : ncl s k x = s.clk a) : Inv c (wrNext s a x) k :=
  { h with nr := by simp [wrNext, h.nr, Meta.okW_of_le (hn ▸ (h.node x).1)]
           node := fun y => ⟨Meta.upd_le (fun y => (h.node y).1) (hn ▸ Meta.write_self a _) y, (h.node y).2⟩ }

theorem inv_wrBody (h : Inv c s k) (x : Nat) (hn : ncl s k x = s.clk a) : Inv c (wrBody s a x) k :=
  { h with nr := by simp [wrBody, h.nr, Meta.okW_of_le (hn ▸ (h.node x).2)]
           node := fun y => ⟨(h.node y).1, Meta.upd_le (fun y => (h.node y).2) (hn ▸ Meta.write_self a _) y⟩ }

theorem inv_wrQueue (h : Inv c s k) (hg : gcl s k = s.clk a) : Inv c (wrQueue s a) k :=
  { h with nr := by simp [wrQueue, h.nr, Meta.okW_of_le (hg ▸ h.guard.2)]
           guard := ⟨h.guard.1, hg ▸ Meta.write_self a _⟩ }

theorem inv_rdQueue (h : Inv c s k) (hg : gcl s k = s.clk a) : Inv c (rdQueue s a) k :=
  { h with nr := by simp [rdQueue, h.nr, Meta.okR_of_le (hg ▸ h.guard.2)]
           guard := ⟨h.guard.1, Meta.read_le h.guard.2 (hg ▸ Meta.write_self a _)⟩ }

/-- one iteration of `build_queue`'s loop: the owner writes `_next` of a queued node and `_queue` -/
theorem inv_walkNode (h : Inv c s k) (hg : gcl s k = s.clk a) (x : Nat) (hx : x ∈ s.m.queue) : Inv c (walkNode a s x) k :=
  inv_wrQueue (inv_wrNext h x (by rw [ncl, if_pos hx, hg])) hg

theorem inv_clearWalk (h : Inv c s k) (a : Nat) : Inv c { s with walk := upd s.walk a none } k :=
  { h with
    wk := fun b l hb => by
      by_cases hba : b = a
      · subst hba; simp at hb
      · exact h.wk b l (by simpa [Clock.upd_apply, hba] using hb) }

theorem inv_walkAll (l : List Nat) : ∀ s : St, Inv c s k → gcl s k = s.clk a → (∀ x ∈ l, x ∈ s.m.queue) →
    Inv c (l.foldl (walkNode a) s) k ∧ (l.foldl (walkNode a) s).m = s.m ∧ (l.foldl (walkNode a) s).walk = s.walk := by
  induction l with
  | nil => intro s h _ _; exact ⟨h, rfl, rfl⟩
  | cons x l ih =>
    intro s h hg hl
    exact ih (walkNode a s x) (inv_walkNode h hg x (hl x (by simp))) hg (fun y hy => hl y (by simp [hy]))

theorem inv_flush (h : Inv c s k) (a : Nat) : Inv c (flush s a) k ∧ (flush s a).m = s.m ∧ (flush s a).walk a = none := by
  unfold flush
  cases hw : s.walk a with
  | none => exact ⟨h, rfl, hw⟩
  | some l =>
    obtain ⟨hpc, hl⟩ := h.wk a l hw
    have hg : gcl s k = s.clk a := h.gcl_owner (hpc.elim (ownPc_of_pc ·) (ownPc_of_pc ·))
    obtain ⟨i1, i2, i3⟩ := inv_walkAll (a := a) l _ (inv_rdQueue (inv_clearWalk h a) hg) hg hl
    exact ⟨i1, i2, by rw [i3]; simp [rdQueue]⟩

theorem mupd_apply {α} (f : Nat → α) (i j : Nat) (v : α) : Mutex.upd f i v j = if j = i then v else f j := rfl

theorem nodesOf_nil' : nodesOf [] = [] := rfl
theorem nodesOf_door' (r) : nodesOf (Elem.door :: r) = [] := rfl
theorem nodesOf_node' (a k r) : nodesOf (Elem.node a k :: r) = a :: nodesOf r := rfl

/-- the components of a protocol state that the clock invariant reads -/
def Shape (m : Mutex.State) (pc : Nat → Pc) (flag : Nat → Bool) (req : List Elem) (queue : List Nat) : Prop :=
  m.pc = pc ∧ m.flag = flag ∧ m.req = req ∧ m.queue = queue

theorem Shape.rfl {m : Mutex.State} : Shape m m.pc m.flag m.req m.queue := ⟨Eq.refl _, Eq.refl _, Eq.refl _, Eq.refl _⟩

/- what `grind` knows about pcs and about `Meta.le` when it closes a clause of the invariant -/
attribute [local grind] Mutex.isOwner
attribute [local grind .] Meta.okW_of_le Meta.okR_of_le Meta.write_self Meta.read_le Meta.le_acq_left Meta.le_acq_right Meta.le_rel
  Meta.le_tickIf Meta.le_tick Meta.le_join_left Meta.le_join_right

set_option hygiene false in
/-- Closes `Inv c s' k'` where `e : Shape m' …` describes the protocol part `m'` of `s'`, `hmi : Mutex.Inv c m'`, and the clauses
`mi ow nr guard node wk` of the invariant of the pre-state are in the context — under exactly these names: the macro is not
hygienic.  A clause is proved by `grind` from the same clause of the pre-state (`ow` and `node` at the same `x`) and the caller's
facts only (the other clauses are cleared; `wk` keeps `ow`): what a step needs of another clause, or of `node` at another
contender, the caller states before the call. -/
macro "cinv_close" : tactic => `(tactic| (
  obtain ⟨e1, e2, e3, e4⟩ := e
  simp only [gcl_none, gcl_some, ncl, car, wrData, rdQueue, wrQueue, wrNext, wrBody, rdBody, rmw, casFail, flagStore, flagWait, resume,
    Mutex.Owner, mupd_apply, Clock.upd_apply, nodesOf_nil', nodesOf_door', nodesOf_node',
    List.mem_append, List.mem_reverse, List.mem_filter, List.mem_cons, List.not_mem_nil, decide_eq_true_eq, ne_eq] at *
  apply Inv.mk hmi
  case' ow =>
    clear nr guard node wk mi
    intro x
    specialize ow x
  case' nr => clear ow guard node wk mi
  case' guard => clear ow nr node wk mi
  case' node =>
    clear ow nr guard wk mi
    intro x
    specialize node x
  case' wk => clear nr guard node mi
  all_goals
    simp only [gcl_none, gcl_some, ncl, car, e1, e2, e3, e4, Mutex.Owner, mupd_apply, Clock.upd_apply, nodesOf_nil', nodesOf_door',
      nodesOf_node', List.mem_append, List.mem_reverse, List.mem_filter, List.mem_cons, List.not_mem_nil, decide_eq_true_eq, ne_eq]
    grind))

/-- what the clock invariant reads of a pc: owner, waiting, before the exchange of `build_queue(self)`, at the flag, a
`build_queue` loop may be pending -/
def role (p : Pc) (f : Bool) : Bool × Bool × Bool × Bool × Bool :=
  (Mutex.isOwner p f, Mutex.isWaiting p f, decide (p = Pc.build), decide (p = Pc.waitFlag ∨ p = Pc.blocked),
   decide (p = Pc.crit ∨ p = Pc.relHand))

/-- a change of pc and flag within the role while the clock grows (a failing CAS) -/
theorem inv_role (h : Inv c s k) (p : Pc) (f : Bool) (hr : role p f = role (s.m.pc a) (s.m.flag a))
    (K : VC) (hK : ∀ i, s.clk a i ≤ K i) (P : Nat → VC) (m' : Mutex.State)
    (e : Shape m' (Mutex.upd s.m.pc a p) (Mutex.upd s.m.flag a f) s.m.req s.m.queue) (hmi : Mutex.Inv c m') :
    Inv c { s with m := m', clk := upd s.clk a K, pacq := P } k := by
  simp only [role, Prod.mk.injEq, decide_eq_decide] at hr
  have hle : ∀ m : Meta, m.le (s.clk a) → m.le K := fun m hm => Meta.le_mono hm hK
  generalize hpa : s.m.pc a = pa at hr
  generalize hfa : s.m.flag a = fa at hr
  obtain ⟨mi, ow, nr, guard, node, wk⟩ := h
  cases k with
  | none => cinv_close
  | some o => cinv_close

theorem inv_role0 (h : Inv c s k) (p : Pc) (hr : role p (s.m.flag a) = role (s.m.pc a) (s.m.flag a)) (m' : Mutex.State)
    (e : Shape m' (Mutex.upd s.m.pc a p) s.m.flag s.m.req s.m.queue) (hmi : Mutex.Inv c m') : Inv c { s with m := m' } k := by
  have := inv_role h p _ hr (s.clk a) (fun _ => Nat.le_refl _) s.pacq m' (by rwa [Mutex.upd_self]) hmi
  rwa [upd_self] at this

theorem inv_casFail (ord : Order) (h : Inv c s k) : Inv c (casFail ord s a) k :=
  inv_role h (s.m.pc a) (s.m.flag a) rfl _ (le_acqVc ord _ _) _ s.m ⟨(Mutex.upd_self _ _).symm, (Mutex.upd_self _ _).symm, rfl, rfl⟩ h.mi

theorem inv_ready (ord : Order) (ho : ord.isAcq = true) (h : Inv c s k) (hpc : s.m.pc a = Pc.top) (hr : s.m.req = []) (m' : Mutex.State)
    (e : Shape m' (Mutex.upd s.m.pc a Pc.crit) s.m.flag [Elem.door] s.m.queue)
    (hmi : Mutex.Inv c m') : Inv c { rmw ord s a with m := m' } (some a) := by
  obtain ⟨rfl, hq, hs⟩ := h.free_facts hr
  obtain ⟨mi, ow, nr, guard, node, wk⟩ := h
  cinv_close

/-- the publishing CAS finds the mutex free: the requester will run `build_queue(self)` -/
theorem inv_subNull (ord : Order) (ho : ord.isRel = true) (h : Inv c s k) (q : Seen) (hpc : s.m.pc a = Pc.sub q) (hr : s.m.req = [])
    (kk : Nat) (m' : Mutex.State)
    (e : Shape m' (Mutex.upd s.m.pc a Pc.build) s.m.flag [Elem.node a kk] s.m.queue)
    (hmi : Mutex.Inv c m') : Inv c { rmw ord s a with m := m' } (some a) := by
  obtain ⟨rfl, hq, hs⟩ := h.free_facts hr
  obtain ⟨mi, ow, nr, guard, node, wk⟩ := h
  cinv_close

/-- the publishing CAS pushes the request behind an owner: the requester waits (suspended, or at its flag) -/
theorem inv_subPush (ord : Order) (ho : ord.isRel = true) (h : Inv c s k) (q : Seen) (hpc : s.m.pc a = Pc.sub q) (p : Pc)
    (hp' : p = Pc.parked ∨ (p = Pc.waitFlag ∧ s.m.flag a = false)) (kk : Nat) (m' : Mutex.State)
    (e : Shape m' (Mutex.upd s.m.pc a p) s.m.flag (Elem.node a kk :: s.m.req) s.m.queue)
    (hmi : Mutex.Inv c m') : Inv c { rmw ord s a with m := m' } k := by
  obtain ⟨hk, hq, hs, _⟩ := h.quiet (a := a) (by simp [hpc, qt])
  obtain ⟨mi, ow, nr, guard, node, wk⟩ := h
  cases k with
  | none => cinv_close
  | some o => cinv_close

/-- `build_queue(self)`: the exchange -/
theorem inv_build (ord : Order) (ho : ord.isAcq = true) (h : Inv c s k) (hpc : s.m.pc a = Pc.build) (m' : Mutex.State)
    (e : Shape m' (Mutex.upd s.m.pc a Pc.crit) s.m.flag [Elem.door] (((nodesOf s.m.req).filter (· ≠ a)).reverse ++ s.m.queue))
    (hmi : Mutex.Inv c m') :
    Inv c { rmw ord s a with walk := upd s.walk a (some ((nodesOf s.m.req).filter (· ≠ a))), m := m' } (some a) := by
  obtain rfl : k = some a := (h.ow a).1 (.of_pc hpc)
  obtain ⟨hin, hq⟩ := h.mi.bld a hpc
  obtain ⟨mi, ow, nr, guard, node, wk⟩ := h
  cinv_close

/-- `flag.wait(false)` returns: the waiter owns the mutex -/
theorem inv_waitPass (ord : Order) (ho : ord.isAcq = true) (h : Inv c s k) (hpc : s.m.pc a = Pc.waitFlag ∨ s.m.pc a = Pc.blocked)
    (hf : s.m.flag a = true) (m' : Mutex.State)
    (e : Shape m' (Mutex.upd s.m.pc a Pc.crit) s.m.flag s.m.req s.m.queue)
    (hmi : Mutex.Inv c m') : Inv c { flagWait ord s a with m := m' } (some a) := by
  obtain rfl : k = some a := (h.ow a).1 (by rcases hpc with e | e <;> simp [Mutex.Owner, e, hf, Mutex.isOwner])
  obtain ⟨mi, ow, nr, guard, node, wk⟩ := h
  cinv_close

/-- `unlock`, fast path: the CAS doorman → nullptr succeeds -/
theorem inv_unlockOk (ord : Order) (ho : ord.isRel = true) (h : Inv c s k) (hpc : s.m.pc a = Pc.afterCs ∨ s.m.pc a = Pc.asg)
    (hr : s.m.req = [Elem.door]) (m' : Mutex.State)
    (e : Shape m' (Mutex.upd s.m.pc a Pc.relDone) s.m.flag [] s.m.queue)
    (hmi : Mutex.Inv c m') : Inv c { rmw ord s a with m := m' } none := by
  obtain rfl := h.owner (hpc.elim (ownPc_of_pc ·) (ownPc_of_pc ·))
  have hs : nodesOf s.m.req = [] := by rw [hr]; rfl
  obtain ⟨mi, ow, nr, guard, node, wk⟩ := h
  cinv_close

/-- `build_queue(doorman)`: the exchange -/
theorem inv_relBuild (ord : Order) (ho : ord.isAcq = true) (h : Inv c s k) (hpc : s.m.pc a = Pc.relBuild) (m' : Mutex.State)
    (e : Shape m' (Mutex.upd s.m.pc a Pc.relHand) s.m.flag [Elem.door] ((nodesOf s.m.req).reverse ++ s.m.queue))
    (hmi : Mutex.Inv c m') : Inv c { rmw ord s a with walk := upd s.walk a (some (nodesOf s.m.req)), m := m' } k := by
  obtain rfl := h.owner (ownPc_of_pc hpc)
  obtain ⟨mi, ow, nr, guard, node, wk⟩ := h
  cinv_close

/-- hand-over to a suspended coroutine: it is resumed on the releasing contender's thread -/
theorem inv_handCo (h : Inv c s k) (hpc : s.m.pc a = Pc.afterCs ∨ s.m.pc a = Pc.asg ∨ s.m.pc a = Pc.relHand) (hwa : s.walk a = none)
    (b : Nat) (rest : List Nat) (hq : s.m.queue = b :: rest) (hb : s.m.pc b = Pc.parked) (m' : Mutex.State)
    (e : Shape m' (Mutex.upd (Mutex.upd s.m.pc b Pc.crit) a Pc.relDone) s.m.flag s.m.req rest)
    (hmi : Mutex.Inv c m') : Inv c { resume (rdBody (wrNext (wrQueue s a) a b) a b) a b with m := m' } (some b) := by
  obtain rfl := h.owner (by rcases hpc with q | q | q <;> exact ownPc_of_pc q)
  obtain ⟨hba, hnr, hns, hw⟩ := head_facts' h.mi hq hpc
  have hg := h.guard
  have hnb := h.node b
  obtain ⟨mi, ow, nr, guard, node, wk⟩ := h
  cinv_close

/-- hand-over to a blocking waiter: its flag is stored -/
theorem inv_handFlag (ord : Order) (ho : ord.isRel = true) (h : Inv c s k) (hpc : s.m.pc a = Pc.afterCs ∨ s.m.pc a = Pc.asg ∨ s.m.pc a = Pc.relHand)
    (hwa : s.walk a = none)
    (b : Nat) (rest : List Nat) (hq : s.m.queue = b :: rest) (hb : (s.m.pc b = Pc.waitFlag ∨ s.m.pc b = Pc.blocked) ∧ s.m.flag b = false)
    (m' : Mutex.State)
    (e : Shape m' (Mutex.upd s.m.pc a Pc.relDone) (Mutex.upd s.m.flag b true) s.m.req rest)
    (hmi : Mutex.Inv c m') : Inv c { flagStore ord (rdBody (wrNext (wrQueue s a) a b) a b) a b with m := m' } (some b) := by
  obtain rfl := h.owner (by rcases hpc with q | q | q <;> exact ownPc_of_pc q)
  obtain ⟨hba, hnr, hns, hw⟩ := head_facts' h.mi hq hpc
  have hg := h.guard
  have hnb := h.node b
  obtain ⟨mi, ow, nr, guard, node, wk⟩ := h
  cinv_close

/-- the critical section, after the loop of a pending `build_queue(self)`: the datum is read and written -/
theorem inv_crit (h : Inv c s k) (hpc : s.m.pc a = Pc.crit ∨ s.m.pc a = Pc.critS) (m' : Mutex.State)
    (e : Shape m' (Mutex.upd s.m.pc a Pc.afterCs) s.m.flag s.m.req s.m.queue)
    (hmi : Mutex.Inv c m') : Inv c { iCrit s a with m := m' } k := by
  obtain ⟨h, hm, hwa⟩ := inv_flush h a
  rw [← hm] at hpc e
  obtain rfl := h.owner (hpc.elim (ownPc_of_pc ·) (ownPc_of_pc ·))
  have hg := h.guard
  obtain ⟨mi, ow, nr, guard, node, wk⟩ := h
  unfold iCrit
  cinv_close

/-- the hand-over part of `unlock`, whichever path led to it -/
theorem inv_hand (o : MutexOrders) (hFs : o.flagStore.isRel = true) {C : Mutex.Cfg} {s1 : St} {a : Nat} (h : Inv C s1 k)
    (hpc : s1.m.pc a = Pc.afterCs ∨ s1.m.pc a = Pc.asg ∨ s1.m.pc a = Pc.relHand) (hw : s1.walk a = none)
    (b : Nat) (rest : List Nat) (hq : s1.m.queue = b :: rest) (m2 : Mutex.State) (t : Nat)
    (f : Shape m2 s1.m.pc s1.m.flag s1.m.req s1.m.queue) (f5 : m2.round = s1.m.round)
    (hmi' : Mutex.Inv C (Mutex.handOver C m2 t a).1) :
    Inv C { iHand o C s1 a with m := (Mutex.handOver C m2 t a).1 } (some b) := by
  obtain ⟨f2, f3, f4, f1⟩ := f
  have g := Mutex.handOver_cons C m2 t a b rest (f1.trans hq)
  have hfl : Mutex.flOf C m2 b = Mutex.flOf C s1.m b := by simp only [Mutex.flOf_eq, f5]
  by_cases hco : Mutex.flOf C s1.m b = some Mutex.Flavour.co
  · rw [iHand_co o C s1 a b rest hq hco]
    rw [hfl, if_pos hco, if_pos hco, Mutex.upd_self, f2, f3, f4] at g
    exact inv_handCo h hpc hw b rest hq ((h.mi.head_wait hq).1 hco) _ (by rw [g]; exact .rfl) hmi'
  · rw [iHand_flag o C s1 a b rest hq hco]
    rw [hfl, if_neg hco, if_neg hco, Mutex.upd_self, f2, f3, f4] at g
    exact inv_handFlag o.flagStore hFs h hpc hw b rest hq ((h.mi.head_wait hq).2 hco) _
      (by rw [g]; exact .rfl) hmi'

/-- `unlock` entered through the ownership object: fast path (CAS succeeds / fails) or hand-over -/
theorem inv_unlockStart (o : MutexOrders) (hUnl : o.unlockOk.isRel = true) (hFs : o.flagStore.isRel = true) {C : Mutex.Cfg}
    {s : St} {a : Nat} (h : Inv C s k) (hpc : s.m.pc a = Pc.afterCs ∨ s.m.pc a = Pc.asg) (m1 : Mutex.State)
    (f : Shape m1 s.m.pc s.m.flag s.m.req s.m.queue) (f5 : m1.round = s.m.round) (hheld : m1.held (Mutex.objOf C m1 a) = true)
    (hmi' : Mutex.Inv C (Mutex.unlockStart C m1 a a).1) :
    ∃ k', Inv C { iUnlock o C s a with m := (Mutex.unlockStart C m1 a a).1 } k' := by
  have ⟨f2, f3, f4, f1⟩ := f
  have hr := inv_rdQueue h (h.gcl_owner (hpc.elim (ownPc_of_pc ·) (ownPc_of_pc ·)))
  have hw : (rdQueue s a).walk a = none := by
    cases hx : s.walk a with
    | none => exact hx
    | some l => have := (h.wk a l hx).1; rcases hpc with e | e <;> simp [e] at this
  cases hq : s.m.queue with
  | nil =>
    by_cases hreq : s.m.req = [Elem.door]
    · simp only [iUnlock, hq, hreq, if_true]
      exact ⟨_, inv_unlockOk (s := rdQueue s a) o.unlockOk hUnl hr hpc hreq _
        (by simp [Shape, Mutex.unlockStart, hheld, f1, hq, f4, hreq, Mutex.setPc, f2, f3, rdQueue]) hmi'⟩
    · simp only [iUnlock, hq, hreq, if_false]
      exact ⟨_, inv_role0 (a := a) (inv_casFail o.unlockFail hr) Pc.relBuild
        (by rcases hpc with q | q <;> (simp only [casFail, rdQueue, q]; rfl)) _
        (by simp [Shape, Mutex.unlockStart, hheld, f1, hq, f4, hreq, Mutex.setPc, f2, f3, rdQueue, casFail]) hmi'⟩
  | cons b rest =>
    rw [Mutex.unlockStart_cons C m1 a a b rest hheld (f1.trans hq)] at hmi' ⊢
    simp only [iUnlock, hq]
    exact ⟨_, inv_hand o hFs hr (hpc.imp_right fun e => Or.inl e) hw b rest hq _ a f f5 hmi'⟩

def MutexOrders.sufficient (o : MutexOrders) : Bool :=
  o.unlockOk.isRel && o.ready.isAcq && o.build.isAcq && o.subOk.isRel && o.flagStore.isRel && o.flagWait.isAcq

/-- every move of `Mutex.agentStep`, with the clock step `instr` under it -/
theorem inv_move (o : MutexOrders) (hs : o.sufficient = true) (c : Cfg) {s : St} {a : Nat}
    {r : Mutex.State × List Mutex.Ev × Mutex.Outcome} (hst : Mutex.Step c.toMutex s.m a a r) (h : Inv c.toMutex s k)
    (hg : Mutex.canRun s.m a = true) : ∃ k', Inv c.toMutex { instr o c.toMutex s a with m := r.1 } k' := by
  have hmi' : Mutex.Inv c.toMutex r.1 := hst.eq ▸ Mutex.inv_step h.mi a hg
  simp only [MutexOrders.sufficient, Bool.and_eq_true] at hs
  obtain ⟨⟨⟨⟨⟨hUnl, hRdy⟩, hBld⟩, hSub⟩, hFs⟩, hFw⟩ := hs
  have hcb := flOf_toMutex c s.m a
  cases hst with
  | done hpc | parked hpc => simp [Mutex.canRun, hpc] at hg
  | topNone hpc hr =>
    simp only [instr, hpc, iTop, hr]
    exact ⟨_, inv_role0 h Pc.done (by rw [hpc]; rfl) _ .rfl hmi'⟩
  | topAcq hpc hr hq =>
    simp only [instr, hpc, iTop, hr, hq]
    exact ⟨_, inv_ready o.ready hRdy h hpc hq _ .rfl hmi'⟩
  | @topFail hpc r hr hq =>
    obtain ⟨e, es, hreq⟩ := List.exists_cons_of_ne_nil hq
    have hq0 : qt (s.m.pc a) = true := by simp [hpc, qt]
    have hc := inv_casFail (a := a) o.readyFail h
    cases hfl : r.fl with
    | co =>
      simp only [instr, hpc, iTop, hr, hreq, hfl] at hmi' ⊢
      exact ⟨_, inv_role0 (a := a) (inv_wrBody hc a (hc.quiet hq0).2.2.2) (Pc.sub Seen.null) (by simp only [wrBody, casFail, hpc]; rfl) _ .rfl hmi'⟩
    | try_ =>
      simp only [instr, hpc, iTop, hr, hreq, hfl] at hmi' ⊢
      exact ⟨_, inv_role0 (a := a) hc Pc.tryFail (by simp only [casFail, hpc]; rfl) _ .rfl hmi'⟩
    | lock =>
      simp only [instr, hpc, iTop, hr, hreq, hfl] at hmi' ⊢
      exact ⟨_, inv_role0 (a := a) hc Pc.subInit (by simp only [casFail, hpc]; rfl) _ .rfl hmi'⟩
    | cb => exact absurd hfl (curRound_toMutex c s.m a hr).1
  | tryFail hpc | relDone hpc =>
    simp only [instr, hpc]
    exact ⟨_, inv_role0 (a := a) h Pc.top (by rw [hpc]; rfl) _ .rfl hmi'⟩
  | subInitCb _ hfl => exact absurd hfl hcb
  | subInit hpc =>
    simp only [instr, hpc, iSubInit]
    have := inv_role (inv_wrBody h a (h.quiet (by simp [hpc, qt])).2.2.2) (Pc.sub Seen.null) false (by simp only [wrBody, hpc]; rfl)
      _ (fun _ => Nat.le_refl _) s.pacq _ .rfl hmi'
    rw [upd_self] at this
    exact ⟨_, this⟩
  | @subOk prev hpc hseen =>
    have hn := inv_wrNext h a (h.quiet (by simp [hpc, qt])).2.2.2
    simp only [instr, hpc, iSub, hseen, if_true]
    by_cases hp : prev = Seen.null
    · have hreq : s.m.req = [] := Mutex.seenOf_eq_null.1 (hseen.trans hp)
      rw [if_pos hp, hreq] at hmi' ⊢
      exact ⟨_, inv_subNull (s := wrNext s a a) o.subOk hSub hn prev hpc hreq _ _ .rfl hmi'⟩
    · rw [if_neg hp] at hmi' ⊢
      refine ⟨_, inv_subPush (s := wrNext s a a) o.subOk hSub hn prev hpc _ ?_ _ _ .rfl hmi'⟩
      by_cases hco : Mutex.flOf c.toMutex s.m a = some Mutex.Flavour.co
      · rw [hco]; exact Or.inl rfl
      · refine Or.inr ⟨?_, h.mi.subF a prev hpc hco⟩
        split <;> first | rfl | contradiction
  | @subRetry prev hpc hseen =>
    simp only [instr, hpc, iSub, hseen, if_false]
    exact ⟨_, inv_role0 (a := a) (inv_casFail o.subFail (inv_wrNext h a (h.quiet (by simp [hpc, qt])).2.2.2)) (Pc.sub (seenOf s.m.req))
      (by simp only [casFail, wrNext, hpc]; rfl) _ .rfl hmi'⟩
  | build hpc =>
    simp only [instr, hpc, iBuild]
    exact ⟨_, inv_build o.build hBld h hpc _ .rfl hmi'⟩
  | waitPass hpc hf =>
    rw [if_neg hcb] at hmi' ⊢
    simp only [instr, hpc, iWait, hf, if_true]
    exact ⟨_, inv_waitPass o.flagWait hFw h (Or.inl hpc) hf _ .rfl hmi'⟩
  | waitBlock hpc hf =>
    simp only [instr, hpc, iWait, hf]
    exact ⟨_, inv_role0 h Pc.blocked (by rw [hpc]; rfl) _ .rfl hmi'⟩
  | blocked hpc =>
    have hf : s.m.flag a = true := by simpa [Mutex.canRun, hpc] using hg
    rw [if_neg hcb] at hmi' ⊢
    simp only [instr, hpc, iWait, hf, if_true]
    exact ⟨_, inv_waitPass o.flagWait hFw h (Or.inr hpc) hf _ .rfl hmi'⟩
  | crit hpc =>
    simp only [instr, hpc]
    exact ⟨_, inv_crit h (Or.inl hpc) _ .rfl hmi'⟩
  | critS hpc =>
    simp only [instr, hpc]
    exact ⟨_, inv_crit h (Or.inr hpc) _ .rfl hmi'⟩
  | afterCsG _ hrel | relDoneG _ hrel => exact absurd hrel (relOf_toMutex c s.m a)
  | afterCs hpc =>
    simp only [instr, hpc]
    exact inv_unlockStart o hUnl hFs h (Or.inl hpc) { s.m with incs := s.m.incs - 1 } .rfl rfl
      (h.mi.unlock_facts (Or.inl hpc)).1 hmi'
  | asg hpc =>
    simp only [instr, hpc]
    exact inv_unlockStart o hUnl hFs h (Or.inr hpc) s.m .rfl rfl (h.mi.unlock_facts (Or.inr hpc)).1 hmi'
  | relBuild hpc =>
    simp only [instr, hpc, iRelBuild]
    exact ⟨_, inv_relBuild o.build hBld h hpc _ .rfl hmi'⟩
  | relHand hpc =>
    obtain ⟨hfl, hm, hw⟩ := inv_flush h a
    simp only [instr, hpc, iRelHand]
    obtain ⟨b, rest, hq⟩ := List.exists_cons_of_ne_nil (h.mi.relH a hpc)
    exact ⟨_, inv_hand o hFs hfl (by rw [hm]; exact Or.inr (Or.inr hpc)) hw b rest (by rw [hm]; exact hq) s.m a
      (by rw [hm]; exact .rfl) (by rw [hm]) hmi'⟩

theorem inv_step (o : MutexOrders) (hs : o.sufficient = true) (c : Cfg) {s : St} (h : Inv c.toMutex s k) (a : Nat) :
    ∃ k', Inv c.toMutex (step o c s a) k' := by
  unfold step
  split
  case isFalse => exact ⟨k, h⟩
  rename_i hg
  exact inv_move o hs c (Mutex.agentStep_step ..) h hg

theorem inv_init (c : Cfg) : Inv c.toMutex (St.init c) none := by
  have hpc : ∀ x, (Mutex.init c.toMutex).pc x = Pc.top ∨ (Mutex.init c.toMutex).pc x = Pc.done := by
    intro x; simp only [Mutex.init]; split <;> simp
  refine ⟨Mutex.inv_init _, fun x => ?_, rfl, ⟨Meta.init_le _, Meta.init_le _⟩, fun x => ⟨Meta.init_le _, Meta.init_le _⟩, ?_⟩
  · rcases hpc x with e | e <;> simp [Mutex.Owner, St.init, e, Mutex.isOwner]
  · intro a l hl; simp [St.init] at hl

theorem inv_run (o : MutexOrders) (hs : o.sufficient = true) (c : Cfg) (sched : List Nat) : ∃ k, Inv c.toMutex (run o c sched) k :=
  List.foldlRecOn (motive := fun s => ∃ k, Inv c.toMutex s k) sched (step o c) ⟨_, inv_init c⟩ (fun _ h a _ => h.elim fun _ h => inv_step o hs c h a)

/-- Under sufficient orders the whole mutex protocol — any number of contenders, any number of rounds of any flavour, every
schedule — never races: not on the protected datum, not on `_queue`, not on `_next` or the handle / resume function of any
request node. -/
theorem mutex_race_free (o : MutexOrders) (hs : o.sufficient = true) :
    ∀ (cfg : Cfg) (sched : List Nat), (run o cfg sched).raced = false :=
  fun cfg sched => (inv_run o hs cfg sched).elim fun _ h => h.nr

/-- the failure orders of the three CAS sites do not occur in `sufficient` -/
theorem mutex_failure_orders_irrelevant (o : MutexOrders) (hs : o.sufficient = true) (x y z : Order) :
    ∀ (cfg : Cfg) (sched : List Nat), (run { o with readyFail := x, subFail := y, unlockFail := z } cfg sched).raced = false :=
  mutex_race_free _ hs

/-- Whoever is about to enter the critical section — having taken the lock by `ready()`, by subscribe-found-null +
`build_queue`, by being resumed, or by its flag — has the previous critical section's last write of the datum (`data.wr`: the
datum is written in critical sections only) in its clock. -/
theorem mutex_handoff_ordered (o : MutexOrders) (hs : o.sufficient = true) (cfg : Cfg) (sched : List Nat) (a : Nat)
    (hpc : (run o cfg sched).m.pc a = Pc.crit) :
    (run o cfg sched).data.wr.2 ≤ (run o cfg sched).clk a (run o cfg sched).data.wr.1 :=
  (inv_run o hs cfg sched).elim fun _ h => (h.data_le (ownPc_of_pc hpc)).1

/-- … and everything else the mutex guards: the owner's clock covers every recorded access to the datum, to `_queue` and to the
nodes waiting in the queue (for an owner that has not yet synchronised — flag stored but `wait` not returned, or found-free before
its exchange — the clock it is about to acquire does) -/
theorem mutex_owner_dominates (o : MutexOrders) (hs : o.sufficient = true) (cfg : Cfg) (sched : List Nat) (a : Nat)
    (hown : Mutex.Owner (run o cfg sched).m a) : Dom (run o cfg sched) (car (run o cfg sched) a) :=
  (inv_run o hs cfg sched).elim fun _ h => h.dom hown

/-! ### the bridge: erasing the clocks

`step` advances `St.m` by `Mutex.agentStep` whatever the clocks say.  What is projected away: `clk pacq rs fvc` (clocks),
`data queue next body` (FastTrack metadata), `walk` (which nodes a pending `build_queue` loop will touch — at list level the
exchange has already moved them), `raced`.  Nothing of `Mutex.State` is projected away; the schedule is the same list of
contenders, a contender that cannot run (`Mutex.canRun`) stutters, the OS-thread argument of `agentStep` (event labels and
executor bookkeeping only: `Mutex.agentStep_exec_irrel`) is the contender itself. -/

def mstep (c : Mutex.Cfg) (m : Mutex.State) (a : Nat) : Mutex.State :=
  if Mutex.canRun m a then (Mutex.agentStep c m a a).1 else m

theorem step_erase (o : MutexOrders) (c : Cfg) (s : St) (a : Nat) : (step o c s a).m = mstep c.toMutex s.m a := by
  unfold step mstep
  rw [runnable_eq]
  split <;> rfl

/-- erasing the clocks from a run gives the run of `Mutex.lean` on the same schedule (whatever the orders are) -/
theorem run_erase (o : MutexOrders) (c : Cfg) (sched : List Nat) :
    (run o c sched).m = sched.foldl (mstep c.toMutex) (Mutex.init c.toMutex) :=
  (List.foldl_hom St.m (g₁ := step o c) (g₂ := mstep c.toMutex) (fun s a => (step_erase o c s a).symm)).symm

/-- the activities of a schedule that actually run (a contender that cannot run stutters), as `(thread, agent)` pairs of `Mutex.arun` -/
def acts (c : Mutex.Cfg) : Mutex.State → List Nat → List (Nat × Nat)
  | _, [] => []
  | m, a :: as => if Mutex.canRun m a then (a, a) :: acts c (Mutex.agentStep c m a a).1 as else acts c m as

theorem acts_spec (c : Mutex.Cfg) : ∀ (sched : List Nat) (m : Mutex.State),
    Mutex.Guarded c m (acts c m sched) ∧ sched.foldl (mstep c) m = Mutex.arun c m (acts c m sched) := by
  intro sched
  induction sched with
  | nil => intro m; exact ⟨trivial, rfl⟩
  | cons a as ih =>
    intro m
    simp only [acts, List.foldl_cons, mstep]
    split
    · rename_i hg
      obtain ⟨i1, i2⟩ := ih (Mutex.agentStep c m a a).1
      exact ⟨⟨hg, i1⟩, by rw [i2]; rfl⟩
    · exact ih m

/-- `run_erase` in terms of `Mutex.arun` -/
theorem run_is_arun (o : MutexOrders) (c : Cfg) (sched : List Nat) :
    Mutex.Guarded c.toMutex (Mutex.init c.toMutex) (acts c.toMutex (Mutex.init c.toMutex) sched) ∧
    (run o c sched).m = Mutex.arun c.toMutex (Mutex.init c.toMutex) (acts c.toMutex (Mutex.init c.toMutex) sched) := by
  obtain ⟨i1, i2⟩ := acts_spec c.toMutex sched (Mutex.init c.toMutex)
  exact ⟨i1, by rw [run_erase, i2]⟩

/-- … so all the C07/C08 theorems about `Mutex.Reachable` states apply to it -/
theorem run_reachable (o : MutexOrders) (c : Cfg) (sched : List Nat) : Mutex.Reachable c.toMutex (run o c sched).m :=
  ⟨_, (run_is_arun o c sched).1, congrArg Mutex.core (run_is_arun o c sched).2⟩

/-! ### necessity: one racing run per clause of `sufficient` (all other orders as in the current source) -/

/-- the orders of the current source -/
def ordersNow : MutexOrders :=
  { ready := Order.seq_cst, readyFail := Order.seq_cst, subOk := Order.release, subFail := Order.relaxed, build := Order.acquire,
    unlockOk := Order.release, unlockFail := Order.relaxed, flagStore := Order.seq_cst, flagWait := Order.seq_cst }

/-- two `try_lock` contenders -/
def cfgTry : Cfg := { n := 2, rounds := fun a => if a < 2 then [Fl.tryLock] else [] }
/-- contender 0: `try_lock`, 1: `co_await lock()`, 2: blocking `lock().wait()` -/
def cfg3 : Cfg :=
  { n := 3, rounds := fun a => if a = 0 then [Fl.tryLock] else if a = 1 then [Fl.coAwait] else if a = 2 then [Fl.blocking] else [] }
/-- 0 locks, critical section, unlocks (fast path); 1 locks, critical section -/
def schedTry : List Nat := [0, 0, 0, 1, 1]
/-- 0 locks and runs its critical section; 1 (coroutine) fails `ready()`, subscribes (second CAS attempt) and is suspended;
0 unlocks: its CAS fails; 2 (blocking) fails `ready()`, constructs its `sync_awaiter`, subscribes: a request pushed between the failed
CAS and the exchange; 0: `build_queue(doorman)` exchange, loop, hand-over to 1 (resumed); 1: critical section, unlock: hand-over
to 2 (flag store); 2: `flag.wait` returns, critical section, unlock (fast path) -/
def sched3 : List Nat := [0, 0, 1, 1, 1, 0, 2, 2, 2, 2, 0, 0, 1, 1, 2, 2, 2]
/-- 0 locks; 1 (coroutine) fails `ready()`; 0 runs its critical section and unlocks (fast path); 1 subscribes, finds the mutex free,
`build_queue(self)`, critical section -/
def schedFree : List Nat := [0, 1, 0, 0, 1, 1, 1]

theorem sufficient_now : ordersNow.sufficient = true := by decide

theorem mutex_needs_unlock_release : (run { ordersNow with unlockOk := Order.relaxed } cfgTry schedTry).raced = true := by decide
theorem mutex_needs_ready_acquire : (run { ordersNow with ready := Order.relaxed } cfgTry schedTry).raced = true := by decide
theorem mutex_needs_subscribe_release : (run { ordersNow with subOk := Order.relaxed } cfg3 sched3).raced = true := by decide
/-- the seeded change `r5-c08-unlock-relaxed-build-queue`: `unlock`'s failing CAS acquires, the exchange of `build_queue` on the slow
path is relaxed — the request of contender 2, pushed between the two, is walked without synchronisation -/
theorem mutex_needs_build_acquire :
    (run { ordersNow with build := Order.relaxed, unlockFail := Order.acquire } cfg3 sched3).raced = true := by decide
/-- … the race is on the late request only: without it (contender 2 stays away until the hand-over is over) that table does not race -/
example : (run { ordersNow with build := Order.relaxed, unlockFail := Order.acquire } cfg3 [0, 0, 1, 1, 1, 0, 0, 0, 1, 1]).raced = false := by
  decide
/-- the exchange of a requester that found the mutex free is what orders it after the previous owners -/
theorem mutex_needs_build_acquire_found_free :
    (run { ordersNow with build := Order.relaxed } cfg3 schedFree).raced = true := by decide
theorem mutex_needs_flag_release : (run { ordersNow with flagStore := Order.relaxed } cfg3 sched3).raced = true := by decide
theorem mutex_needs_flag_acquire : (run { ordersNow with flagWait := Order.relaxed } cfg3 sched3).raced = true := by decide

/-- non-vacuity: on `sched3` all three contenders get through their critical sections in the order 0, 1, 2 — `unlock` takes the slow
path, the coroutine is resumed, the blocking waiter is woken through its flag — and nothing races -/
example : (run ordersNow cfg3 sched3).raced = false ∧ (run ordersNow cfg3 sched3).m.grantLog = [0, 1, 2]
    ∧ (run ordersNow cfg3 sched3).data.wr.1 = 2 ∧ (run ordersNow cfg3 sched3).m.req = [] := by decide

/-! ### what the machine sees of an order; general necessity of the CAS hand-over clauses

The machine looks at an order only through `isAcq` / `isRel` (a failing CAS and a wait only through `isAcq`, a plain store only
through `isRel`): `run_norm`.  For the two clauses of the pure CAS hand-over (`ready()` acquire, `unlock` release) the racing run is
exhibited for EVERY table that violates the clause (finite case analysis over the bits the witness schedule exercises); for the other
four clauses the witnesses are the `decide`d runs `mutex_needs_*` above (all other orders as in the source): the case analysis over
the seven orders their schedules exercise is out of reach of the elaborator's evaluator. -/

/-- the same table up to what the machine can see of it -/
def MutexOrders.norm (o : MutexOrders) : MutexOrders :=
  { ready := Clock.ofBits o.ready.isAcq o.ready.isRel, readyFail := Clock.ofBits o.readyFail.isAcq false,
    subOk := Clock.ofBits o.subOk.isAcq o.subOk.isRel, subFail := Clock.ofBits o.subFail.isAcq false,
    build := Clock.ofBits o.build.isAcq o.build.isRel,
    unlockOk := Clock.ofBits o.unlockOk.isAcq o.unlockOk.isRel, unlockFail := Clock.ofBits o.unlockFail.isAcq false,
    flagStore := Clock.ofBits false o.flagStore.isRel, flagWait := Clock.ofBits o.flagWait.isAcq false }

theorem rmw_ofBits (x : Order) : rmw (Clock.ofBits x.isAcq x.isRel) = rmw x := by
  funext s a; simp only [rmw, Clock.relVc_ofBits, Clock.acqVc_ofBits, Clock.tickIf_ofBits]
theorem casFail_ofBits (x : Order) : casFail (Clock.ofBits x.isAcq false) = casFail x := by
  funext s a; simp only [casFail, Clock.acqVc_ofBits]
theorem flagStore_ofBits (x : Order) : flagStore (Clock.ofBits false x.isRel) = flagStore x := by
  funext s a b; simp only [flagStore, Clock.relVc_ofBits, Clock.tickIf_ofBits]
theorem flagWait_ofBits (x : Order) : flagWait (Clock.ofBits x.isAcq false) = flagWait x := by
  funext s a; simp only [flagWait, Clock.acqVc_ofBits]

theorem step_norm (o : MutexOrders) (c : Cfg) : step o c = step o.norm c := by
  funext s a
  simp only [step, instr, iTop, iSub, iBuild, iWait, iUnlock, iHand, iRelBuild, iRelHand, MutexOrders.norm, rmw_ofBits,
    casFail_ofBits, flagStore_ofBits, flagWait_ofBits]

theorem run_norm (o : MutexOrders) (c : Cfg) (sched : List Nat) : run o c sched = run o.norm c sched := by
  unfold run; rw [step_norm]

/-- two `try_lock` contenders exercise the `ready()` CAS and the `unlock` CAS only: the run does not look at the other seven orders -/
theorem run_try_irrel (o : MutexOrders) :
    run o cfgTry schedTry = run { ordersNow with ready := o.ready, unlockOk := o.unlockOk } cfgTry schedTry := by
  cases o  -- `rfl` alone is slow on a variable record
  rfl

theorem mutex_ready_acquire_necessary (o : MutexOrders) (h : o.ready.isAcq = false) : (run o cfgTry schedTry).raced = true := by
  rw [run_try_irrel, run_norm]
  simp only [MutexOrders.norm, h]
  generalize o.ready.isRel = b1; generalize o.unlockOk.isAcq = b2; generalize o.unlockOk.isRel = b3
  cases b1 <;> cases b2 <;> cases b3 <;> decide

theorem mutex_unlock_release_necessary (o : MutexOrders) (h : o.unlockOk.isRel = false) : (run o cfgTry schedTry).raced = true := by
  rw [run_try_irrel, run_norm]
  simp only [MutexOrders.norm, h]
  generalize o.ready.isRel = b1; generalize o.unlockOk.isAcq = b2; generalize o.ready.isAcq = b3
  cases b1 <;> cases b2 <;> cases b3 <;> decide

end Cocls.MutexClock
