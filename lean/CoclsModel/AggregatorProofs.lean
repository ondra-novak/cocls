import CoclsModel.Aggregator
/-!
Invariant of the generator-aggregator model (`CoclsModel/Aggregator.lean`): `Inv` = `Ctl` + `Srcs` + `AgArgs`, preserved by
every step (`inv_run`) for every configuration (`Cfg`: any number of sources, any scripts).  What a step can do is listed
once, as record updates (`step_cases`, with `srcRun_eq` for the source that runs inside the step); each part walks that list.

* `Ctl`, the control structure.  `SrcInv` holds what is counted over the sources (`nWith`): the queue lists the queued ones,
  `count` the active ones, `drained` the dropped ones; one source's move (`SrcInv.move`) carries all of them.  `AgInv` says,
  by cases on the aggregator's state, which sources may be fresh, current or dropped there, where the aggregator can be
  parked and what an ended one has stored; a branch of `step` reads one case and establishes one case.  The same facts as
  implications guarded by the aggregator's state: `Inv1` (`Ctl.inv1`).
* `Srcs`, every source by itself: `view s k` is all that the model keeps of source `k`, `Loc.OK` what holds of it (values:
  delivered ++ waiting = yielded; exceptions: logged ↔ found throwing; argument storage: the object a source's argument
  reference points to holds the argument it was charged with last).  A step touches one source: `Srcs.at` splits the
  sources into that one and the others, what the step does to it is a lemma about a `Loc` (`Loc.OK.run`, `charge`,
  `lateRead`, `retire`, `caught`, `popVal`); the view does not show the aggregator's own registers, so a branch that touches
  no source leaves `Srcs` as it is (`Srcs.frame`).  The argument storage clauses as implications: `Inv6` (`Srcs.cells`).
* `AgArgs`, argument routing, by cases on the aggregator's state; it is inductive by itself.  As implications: `Inv4`
  (`AgArgs.inv4`).
-/
namespace Cocls.Agg

def active : SSt → Bool
  | SSt.fin | SSt.dropped => false
  | _ => true

def isDropped : SSt → Bool
  | SSt.dropped => true
  | _ => false

def nWith (p : SSt → Bool) (st : Nat → SSt) : Nat → Nat
  | 0 => 0
  | n + 1 => nWith p st n + (if p (st n) then 1 else 0)

theorem active_fresh : active SSt.fresh = true := rfl
theorem active_queued : active SSt.queued = true := rfl
theorem active_inflight : active SSt.inflight = true := rfl
theorem active_cur : active SSt.cur = true := rfl
theorem active_fin : active SSt.fin = false := rfl
theorem active_dropped : active SSt.dropped = false := rfl

theorem upd_apply {α : Type} (f : Nat → α) (k j : Nat) (x : α) : upd f k x j = if j = k then x else f j := rfl

theorem nWith_upd (p : SSt → Bool) (st : Nat → SSt) (k : Nat) (x : SSt) (n : Nat) :
    nWith p (upd st k x) n + (if k < n ∧ p (st k) then 1 else 0)
      = nWith p st n + (if k < n ∧ p x then 1 else 0) := by
  induction n with
  | zero => simp [nWith]
  | succ n ih =>
    simp only [nWith, upd_apply]
    by_cases h : n = k
    · subst h
      have : ¬ (n < n) := Nat.lt_irrefl n
      simp only [this, false_and, if_false, Nat.add_zero] at ih
      simp only [if_true, Nat.lt_succ_self, true_and]
      omega
    · have h1 : (k < n + 1) = (k < n) := by
        apply propext; constructor <;> intro hh <;> omega
      simp only [h, if_false, h1]
      omega

theorem nWith_pos_iff (p : SSt → Bool) (st : Nat → SSt) (n : Nat) :
    0 < nWith p st n ↔ ∃ k, k < n ∧ p (st k) = true := by
  induction n with
  | zero => simp [nWith]
  | succ n ih => simp only [nWith, Nat.lt_succ_iff_lt_or_eq]; grind

theorem nWith_eq_zero_iff (p : SSt → Bool) (st : Nat → SSt) (n : Nat) :
    nWith p st n = 0 ↔ ∀ k, k < n → p (st k) = false := by
  rw [← Nat.le_zero, ← Nat.not_lt, nWith_pos_iff]
  simp

theorem nWith_two (p : SSt → Bool) (st : Nat → SSt) (j k n : Nat) (hj : j < n) (hk : k < n) (hjk : j ≠ k)
    (pj : p (st j) = true) (pk : p (st k) = true) : 2 ≤ nWith p st n := by
  induction n with
  | zero => omega
  | succ n ih =>
    have := nWith_pos_iff p st n
    simp only [nWith]; grind

theorem nWith_all (p : SSt → Bool) (st : Nat → SSt) (n : Nat) (h : ∀ k, k < n → p (st k) = true) :
    nWith p st n = n := by
  induction n with
  | zero => rfl
  | succ n ih =>
    simp only [nWith, h n (by omega), if_true]
    rw [ih (fun k hk => h k (by omega))]

theorem lateRead_eq (c : Cfg) (s : State) (k : Nat) : ∃ l, lateRead c s k = { s with late := l } := by
  unfold lateRead
  split
  · exact ⟨_, rfl⟩
  · exact ⟨s.late, rfl⟩

def pcAfter (c : Cfg) (pc : Nat → Nat) (k : Nat) : Nat → Nat :=
  match c.script k (pc k) with
  | some _ => upd pc k (pc k + 1)
  | none => pc

def resAfter (c : Cfg) (pc : Nat → Nat) (res : Nat → SRes) (k : Nat) : Nat → SRes :=
  match c.script k (pc k) with
  | some (Act.yield v) => upd res k (SRes.val v)
  | some (Act.throw e) => upd res k (SRes.exc e)
  | some _ => res
  | none => upd res k SRes.done

/-- only a source in one of these states is resumed: it holds no value and has not ended -/
def runnable (x : SSt) : Prop := x = SSt.fresh ∨ x = SSt.cur ∨ x = SSt.inflight

/-- a push wakes a parked popper -/
def wake : Ag → Ag
  | Ag.parkedPop => Ag.woken
  | Ag.drainWait => Ag.draining
  | a => a

theorem srcRun_eq (c : Cfg) (s : State) (k : Nat) :
    srcRun c s k = { s with pc := pcAfter c s.pc k, res := resAfter c s.pc s.res k, st := upd s.st k SSt.inflight }
    ∨ srcRun c s k = { s with pc := pcAfter c s.pc k, res := resAfter c s.pc s.res k, st := upd s.st k SSt.queued,
                              q := s.q ++ [k], ag := wake s.ag } := by
  unfold srcRun push pcAfter resAfter
  split <;> rename_i h <;> simp only [h, true_or] <;> exact Or.inr rfl

theorem srcRun_other (c : Cfg) (s : State) {k j : Nat} (hj : j ≠ k) :
    (srcRun c s k).pc j = s.pc j ∧ (srcRun c s k).res j = s.res j ∧ (srcRun c s k).st j = s.st j := by
  unfold srcRun push
  split <;> simp [hj]

theorem srcRun_ghost (c : Cfg) (s : State) (k : Nat) :
    (srcRun c s k).got = s.got ∧ (srcRun c s k).calls = s.calls ∧ (srcRun c s k).out = s.out
    ∧ (srcRun c s k).exp = s.exp ∧ (srcRun c s k).thrown = s.thrown
    ∧ (srcRun c s k).cell = s.cell ∧ (srcRun c s k).late = s.late := by
  rcases srcRun_eq c s k with e | e <;> rw [e] <;> exact ⟨rfl, rfl, rfl, rfl, rfl, rfl, rfl⟩

theorem charge_eq (c : Cfg) (s : State) (k a : Nat) :
    charge c s k a = srcRun c { s with got := upd s.got k (s.got k ++ [a]), cell := upd s.cell k (some a) } k := rfl

theorem charge_ctl (c : Cfg) (s : State) (k a : Nat) :
    ∃ x, (x = SSt.inflight ∨ x = SSt.queued) ∧ (charge c s k a).st = upd s.st k x
      ∧ (charge c s k a).started = s.started ∧ (charge c s k a).dcur = s.dcur := by
  rcases srcRun_eq c { s with got := upd s.got k (s.got k ++ [a]), cell := upd s.cell k (some a) } k with e | e <;>
    rw [charge_eq, e]
  · exact ⟨_, Or.inl rfl, rfl, rfl, rfl⟩
  · exact ⟨_, Or.inr rfl, rfl, rfl, rfl⟩

theorem charge_ghost (c : Cfg) (s : State) (k a : Nat) :
    (charge c s k a).got = upd s.got k (s.got k ++ [a]) ∧ (charge c s k a).calls = s.calls
      ∧ (charge c s k a).out = s.out :=
  ⟨(srcRun_ghost c _ k).1, (srcRun_ghost c _ k).2.1, (srcRun_ghost c _ k).2.2.1⟩

/-- what a step can do, as record updates: the branches of `step`, `aggStep`, `popHandle` and `finish` listed once
(the two branches of `popHandle` that change nothing are `idle`).  A goal that mentions `s` outside `step c s op` needs
the motive spelt out: `apply step_cases c s op (P := fun t => …)`. -/
theorem step_cases (c : Cfg) (s : State) (op : Op) {P : State → Prop}
    (idle : P s)
    (first : ∀ a, s.ag = Ag.init →
      P { s with ag := Ag.charging 0 a, count := c.n, started := true, calls := [a], aggArg := some a })
    (again : ∀ k a, s.ag = Ag.parkedYield k →
      P { s with ag := Ag.recharge k a, calls := s.calls ++ [a], aggArg := some a })
    (dropHeld : ∀ k coro, s.ag = Ag.parkedYield k → P { s with ag := Ag.draining, dcur := some k, dcoro := coro })
    (drop : ∀ coro, (s.ag = Ag.init ∨ s.ag = Ag.done ∨ ∃ e, s.ag = Ag.failed e) →
      P { s with ag := Ag.draining, dcoro := coro })
    (resolve : ∀ k l, s.st k = SSt.inflight → lateRead c s k = { s with late := l } →
      P (srcRun c { s with late := l } k))
    (start : ∀ i a, s.ag = Ag.charging i a → i < c.n → P { charge c s i a with ag := Ag.charging (i + 1) a })
    (started : ∀ i a, s.ag = Ag.charging i a → ¬ i < c.n → P { s with ag := Ag.loop, aggArg := none })
    (recharge : ∀ k a, s.ag = Ag.recharge k a → P { charge c s k a with ag := Ag.loop, aggArg := none })
    (done : s.ag = Ag.loop → s.count = 0 → s.exp = none → P { s with ag := Ag.done })
    (failed : ∀ e, s.ag = Ag.loop → s.count = 0 → s.exp = some e → P { s with ag := Ag.failed e })
    (park : s.ag = Ag.loop → s.count ≠ 0 → s.q = [] → P { s with ag := Ag.parkedPop })
    (popDone : ∀ k r, s.ag = Ag.loop ∨ s.ag = Ag.woken → s.q = k :: r → s.res k = SRes.done →
      P { s with q := r, st := upd s.st k SSt.fin, count := s.count - 1, ag := Ag.loop })
    (popExc : ∀ k r e, s.ag = Ag.loop ∨ s.ag = Ag.woken → s.q = k :: r → s.res k = SRes.exc e →
      P { s with q := r, st := upd s.st k SSt.fin, count := s.count - 1, exp := some e,
                 thrown := s.thrown ++ [(k, e)], ag := Ag.loop })
    (popVal : ∀ k r v, s.ag = Ag.loop ∨ s.ag = Ag.woken → s.q = k :: r → s.res k = SRes.val v →
      P { s with q := r, st := upd s.st k SSt.cur, out := s.out ++ [(k, v)], ag := Ag.parkedYield k })
    (drainWait : s.ag = Ag.draining → 1 < s.count → s.q = [] → P { s with ag := Ag.drainWait })
    (drainPop : ∀ k r, s.ag = Ag.draining → 1 < s.count → s.q = k :: r →
      P { s with q := r, st := upd s.st k SSt.dropped, count := s.count - 1, drained := s.drained + 1 })
    (destroyed : s.ag = Ag.draining → ¬ 1 < s.count →
      P { s with ag := Ag.destroyed, badDestroy := inflightList s c.n }) :
    P (step c s op) := by
  have pop : s.ag = Ag.loop ∨ s.ag = Ag.woken → P (popHandle s) := by
    intro hag
    unfold popHandle
    split
    · exact idle
    · split
      · exact popDone _ _ hag ‹_› ‹_›
      · exact popExc _ _ _ hag ‹_› ‹_›
      · exact popVal _ _ _ hag ‹_› ‹_›
      · exact idle
  cases op with
  | next a =>
    simp only [step, stepNext]
    split
    · exact first a ‹_›
    · exact again _ a ‹_›
    · exact idle
  | destroy coro =>
    simp only [step, stepDestroy]
    split
    · exact dropHeld _ coro ‹_›
    · exact drop coro (Or.inl ‹_›)
    · exact drop coro (Or.inr (Or.inl ‹_›))
    · exact drop coro (Or.inr (Or.inr ⟨_, ‹_›⟩))
    · exact idle
  | resolve k =>
    simp only [step, stepResolve]
    split
    · obtain ⟨l, hl⟩ := lateRead_eq c s k
      rw [hl]
      exact resolve k l ‹_› hl
    · exact idle
  | agg =>
    simp only [step, aggStep]
    split
    · split
      · exact start _ _ ‹_› ‹_›
      · exact started _ _ ‹_› ‹_›
    · exact recharge _ _ ‹_›
    · split
      · unfold finish
        split
        · exact done ‹_› ‹_› ‹_›
        · exact failed _ ‹_› ‹_› ‹_›
      · split
        · exact park ‹_› ‹_› ‹_›
        · exact pop (Or.inl ‹_›)
    · exact pop (Or.inr ‹_›)
    · split
      · split
        · exact drainWait ‹_› ‹_› ‹_›
        · exact drainPop _ _ ‹_› ‹_› ‹_›
      · exact destroyed ‹_› ‹_›
    · exact idle

theorem inflightList_nil (s : State) (n : Nat) (h : ∀ k, k < n → s.st k ≠ SSt.inflight) : inflightList s n = [] := by
  induction n with
  | zero => rfl
  | succ n ih =>
    simp only [inflightList]
    rw [ih (fun k hk => h k (by omega))]
    simp [h n (by omega)]

def ended (s : State) : Prop := s.ag = Ag.done ∨ ∃ e, s.ag = Ag.failed e

theorem popHandle_not_ended (s : State) (h : ¬ ended s) : ¬ ended (popHandle s) := by
  unfold popHandle
  split
  · exact h
  · split <;> first | exact h | (unfold ended; simp)

theorem loop_ended_iff (c : Cfg) (s : State) (hl : s.ag = Ag.loop) : ended (aggStep c s) ↔ s.count = 0 := by
  have hne : ¬ ended s := by unfold ended; simp [hl]
  unfold aggStep
  by_cases hc : s.count = 0
  · simp only [hl, hc, if_true, finish, ended]
    cases s.exp <;> simp
  · simp only [hl, hc, if_false, iff_false]
    split
    · unfold ended; simp
    · exact popHandle_not_ended s hne

section
variable {c : Cfg} {s s' : State}

structure SrcInv (c : Cfg) (s : State) : Prop where
  oob : ∀ k, c.n ≤ k → s.st k = SSt.fresh
  qcount : ∀ k, s.q.count k = if s.st k = SSt.queued then 1 else 0
  cntc : s.started = true → s.count = nWith active s.st c.n
  unstarted : s.started = false → (∀ k, s.st k = SSt.fresh) ∧ s.count = 0
  cur_unique : ∀ j k, s.st j = SSt.cur → s.st k = SSt.cur → j = k
  bad : s.badDestroy = []
  drained_eq : s.drained = nWith isDropped s.st c.n
  out_src : ∀ p, p ∈ s.out → p.1 < c.n

def Charged (c : Cfg) (s : State) : Prop := ∀ k, k < c.n → s.st k ≠ SSt.fresh

def Settled (c : Cfg) (s : State) : Prop :=
  s.started = true ∧ Charged c s ∧ (∀ k, s.st k ≠ SSt.dropped) ∧ s.dcur = none

def NoCur (s : State) : Prop := ∀ k, s.st k ≠ SSt.cur

/-- the controller destructor is at work: it remembers the source whose value the consumer held, and without one
nothing is outstanding -/
def Drain (c : Cfg) (s : State) : Prop :=
  (s.started = true → Charged c s) ∧ (∀ k, s.dcur = some k → s.st k = SSt.cur) ∧ (s.dcur = none → s.count = 0)

def AgInv (c : Cfg) (s : State) : Ag → Prop
  | .init => s.started = false ∧ s.dcur = none
  | .charging i _ => s.started = true ∧ i ≤ c.n ∧ (∀ k, s.st k = SSt.fresh ↔ i ≤ k) ∧ NoCur s
      ∧ (∀ k, s.st k ≠ SSt.dropped) ∧ s.dcur = none
  | .recharge k _ | .parkedYield k => Settled c s ∧ s.st k = SSt.cur
  | .loop => Settled c s ∧ NoCur s
  | .parkedPop => Settled c s ∧ NoCur s ∧ s.q = [] ∧ 0 < s.count
  | .woken => Settled c s ∧ NoCur s ∧ s.q ≠ []
  | .done => Settled c s ∧ NoCur s ∧ s.count = 0 ∧ s.exp = none
  | .failed e => Settled c s ∧ NoCur s ∧ s.count = 0 ∧ s.exp = some e
  | .draining => Drain c s
  | .drainWait => Drain c s ∧ s.q = [] ∧ 1 < s.count
  | .destroyed => s.started = true → Charged c s
  | .aborted => False

structure Ctl (c : Cfg) (s : State) : Prop where
  src : SrcInv c s
  ag : AgInv c s s.ag

theorem SrcInv.live (hb : SrcInv c s) {k : Nat} (hk : s.st k ≠ SSt.fresh) :
    k < c.n ∧ s.started = true :=
  ⟨Nat.lt_of_not_le fun h => hk (hb.oob k h), by
    cases hs : s.started with
    | true => rfl
    | false => exact absurd ((hb.unstarted hs).1 k) hk⟩

theorem SrcInv.head (hb : SrcInv c s) {k : Nat} {r : List Nat} (hq : s.q = k :: r) :
    s.st k = SSt.queued ∧ k < c.n ∧ ∀ j, r.count j + (if j = k then 1 else 0) = s.q.count j := by
  have := hb.qcount k
  rw [hq] at this ⊢
  have hkq : s.st k = SSt.queued := by grind
  refine ⟨hkq, (hb.live (by rw [hkq]; nofun)).1, fun j => ?_⟩
  rw [List.count_cons]; grind

/-- source `k` moves from one state to another: the three counts follow -/
theorem SrcInv.move (hb : SrcInv c s) {k : Nat} {x : SSt} (hk : k < c.n)
    (hs : s.started = true) (hx : x = SSt.cur → NoCur s)
    (hst : s'.st = upd s.st k x) (hsd : s'.started = s.started) (hbd : s'.badDestroy = s.badDestroy)
    (hq : ∀ j, s'.q.count j + (if j = k ∧ s.st k = SSt.queued then 1 else 0)
      = s.q.count j + (if j = k ∧ x = SSt.queued then 1 else 0))
    (hn : s'.count + (if active (s.st k) then 1 else 0) = s.count + (if active x then 1 else 0))
    (hd : s'.drained + (if isDropped (s.st k) then 1 else 0) = s.drained + (if isDropped x then 1 else 0))
    (ho : ∀ p, p ∈ s'.out → p ∈ s.out ∨ p.1 = k) :
    SrcInv c s' where
  oob j hj := by rw [hst, upd_other _ _ _ _ (by omega)]; exact hb.oob j hj
  qcount j := by
    have := hq j; have := hb.qcount j
    rw [hst, upd_apply]
    by_cases hjk : j = k
    · subst hjk; simp only [true_and, if_true] at *; grind
    · simp only [hjk, false_and, if_false] at *; omega
  cntc _ := by
    have := nWith_upd active s.st k x c.n
    have := hb.cntc hs
    simp only [hk, true_and] at *
    rw [hst]; omega
  unstarted h := by rw [hsd, hs] at h; cases h
  cur_unique i j hi hj := by
    rw [hst, upd_apply] at hi hj
    by_cases hc : x = SSt.cur
    · have := hx hc; grind [NoCur]
    · exact hb.cur_unique i j (by grind) (by grind)
  bad := hbd ▸ hb.bad
  drained_eq := by
    have := nWith_upd isDropped s.st k x c.n
    have := hb.drained_eq
    simp only [hk, true_and] at *
    rw [hst]; omega
  out_src p hp := (ho p hp).elim (hb.out_src p) fun e => e ▸ hk

theorem SrcInv.pop (hb : SrcInv c s) {k : Nat} {r : List Nat} (hq : s.q = k :: r) {x : SSt}
    (hxq : x ≠ SSt.queued) (hx : x = SSt.cur → NoCur s) (hst : s'.st = upd s.st k x)
    (hsd : s'.started = s.started) (hbd : s'.badDestroy = s.badDestroy) (hq' : s'.q = r)
    (hn : s'.count = s.count - (if active x then 0 else 1))
    (hd : s'.drained = s.drained + (if isDropped x then 1 else 0))
    (ho : ∀ p, p ∈ s'.out → p ∈ s.out ∨ p.1 = k) : SrcInv c s' := by
  obtain ⟨hkq, hkn, hr⟩ := hb.head hq
  have hs := (hb.live (k := k) (by rw [hkq]; nofun)).2
  -- the head of the queue is still counted
  have hpos : 0 < s.count := by rw [hb.cntc hs]; exact (nWith_pos_iff active s.st c.n).2 ⟨k, hkn, by rw [hkq]; rfl⟩
  exact hb.move hkn hs hx hst hsd hbd
    (fun j => by rw [hq']; simpa [hkq, hxq] using hr j) (by rw [hkq, hn]; cases active x <;> simp [active] <;> omega) (by rw [hkq]; exact hd) ho

theorem SrcInv.resume (hb : SrcInv c s) {k : Nat} (hkn : k < c.n) (hs : s.started = true)
    (hq : runnable (s.st k)) : SrcInv c (srcRun c s k) := by
  have hact : active (s.st k) = true ∧ isDropped (s.st k) = false ∧ s.st k ≠ SSt.queued := by
    rcases hq with e | e | e <;> rw [e] <;> exact ⟨rfl, rfl, nofun⟩
  rcases srcRun_eq c s k with e | e <;> rw [e]
  · exact hb.move (x := .inflight) hkn hs nofun rfl rfl rfl (fun j => by simp [hact.2.2]) (by rw [hact.1]; rfl)
      (by rw [hact.2.1]; rfl) fun _ => Or.inl
  · exact hb.move (x := .queued) hkn hs nofun rfl rfl rfl (fun j => by grind [List.count_singleton])
      (by rw [hact.1]; rfl) (by rw [hact.2.1]; rfl) fun _ => Or.inl

theorem SrcInv.charge (hb : SrcInv c s) {k : Nat} (a : Nat) (hk : k < c.n) (hs : s.started = true)
    (hq : runnable (s.st k)) : SrcInv c (charge c s k a) :=
  SrcInv.resume (s := { s with got := upd s.got k (s.got k ++ [a]), cell := upd s.cell k (some a) }) { hb with } hk hs hq

theorem SrcInv.inflight (hb : SrcInv c s) (hq : s.q = []) {k : Nat} (hf : s.st k ≠ SSt.fresh)
    (hc : s.st k ≠ SSt.cur) (ha : active (s.st k) = true) : s.st k = SSt.inflight := by
  have hn := hb.qcount k
  cases hst : s.st k <;> simp_all [active]

theorem Drain.quiet (hb : SrcInv c s) (ha : Drain c s) (hc : s.count ≤ 1) {j : Nat}
    (hj : j < c.n) (hw : s.st j = SSt.inflight ∨ s.st j = SSt.queued) : False := by
  have hact : active (s.st j) = true := by rcases hw with e | e <;> rw [e] <;> rfl
  have hcnt := hb.cntc (hb.live (k := j) (by rcases hw with e | e <;> rw [e] <;> nofun)).2
  cases hd : s.dcur with
  | none =>
    have := (nWith_eq_zero_iff active s.st c.n).1 (by have := ha.2.2 hd; omega) j hj
    rw [hact] at this; cases this
  | some k =>
    have hk := ha.2.1 k hd
    have := nWith_two active s.st j k c.n hj (hb.live (by rw [hk]; nofun)).1
      (fun e => by rw [e, hk] at hw; rcases hw with e | e <;> cases e) hact (by rw [hk]; rfl)
    omega

theorem AgInv.atLoop (ha : AgInv c s s.ag) (hag : s.ag = Ag.loop ∨ s.ag = Ag.woken) : AgInv c s Ag.loop := by
  rcases hag with hag | hag <;> rw [hag] at ha
  · exact ha
  · exact ⟨ha.1, ha.2.1⟩

/-- `AgInv` asks of a source only whether it is fresh, current or dropped: moves among the other states
(in flight, queued, finished) go unnoticed -/
theorem AgInv.congr {a : Ag} (ha : AgInv c s a)
    (hst : ∀ j, (s'.st j = SSt.fresh ↔ s.st j = SSt.fresh) ∧ (s'.st j = SSt.cur ↔ s.st j = SSt.cur)
      ∧ (s'.st j = SSt.dropped ↔ s.st j = SSt.dropped))
    (hsd : s'.started = s.started) (hd : s'.dcur = s.dcur) (hn : s'.count = s.count) (hq : s'.q = s.q)
    (he : s'.exp = s.exp) : AgInv c s' a := by
  cases a <;> simp_all [AgInv, Settled, Charged, NoCur, Drain]

theorem upd_waiting {st : Nat → SSt} {k : Nat} {x : SSt} (hk : st k = SSt.inflight ∨ st k = SSt.queued)
    (hx : x = SSt.inflight ∨ x = SSt.queued ∨ x = SSt.fin) (j : Nat) :
    (upd st k x j = SSt.fresh ↔ st j = SSt.fresh) ∧ (upd st k x j = SSt.cur ↔ st j = SSt.cur)
      ∧ (upd st k x j = SSt.dropped ↔ st j = SSt.dropped) := by
  rw [upd_apply]; split
  · subst j; rcases hk with h | h <;> rcases hx with rfl | rfl | rfl <;> simp [h]
  · simp

theorem AgInv.resume {k : Nat} (ha : AgInv c s s.ag) (hk : s.st k = SSt.inflight) :
    AgInv c (srcRun c s k) (srcRun c s k).ag := by
  rcases srcRun_eq c s k with e | e <;> rw [e]
  · exact ha.congr (upd_waiting (Or.inl hk) (Or.inl rfl)) rfl rfl rfl rfl rfl
  · have key : ∀ {a}, AgInv c s a → AgInv c { s with st := upd s.st k SSt.queued } a := fun ha =>
      ha.congr (upd_waiting (Or.inl hk) (Or.inr (Or.inl rfl))) rfl rfl rfl rfl rfl
    show AgInv c _ (wake s.ag)
    cases hag : s.ag <;> rw [hag] at ha
    case parkedPop | woken =>
      obtain ⟨h1, h2⟩ := key (a := .loop) ⟨ha.1, ha.2.1⟩
      exact ⟨h1, h2, by simp⟩
    case drainWait => exact key (a := .draining) ha.1
    all_goals exact key ha

theorem Settled.move (h : Settled c s) {k : Nat} {x : SSt} (hx : x ≠ SSt.fresh)
    (hx' : x ≠ SSt.dropped) (hst : s'.st = upd s.st k x) (hsd : s'.started = s.started) (hd : s'.dcur = s.dcur) :
    Settled c s' := by
  simp only [Settled, Charged, hst, hsd, hd] at h ⊢
  grind [upd_apply]

theorem AgInv.start {i b : Nat} (ha : AgInv c s (Ag.charging i b)) (hi : i < c.n) (a : Nat) :
    AgInv c (charge c s i a) (Ag.charging (i + 1) b) := by
  obtain ⟨x, hx, hst, hsd, hd⟩ := charge_ctl c s i a
  simp only [AgInv, NoCur, hst, hsd, hd] at ha ⊢
  grind [upd_apply]

theorem AgInv.recharge {k b : Nat} (ha : AgInv c s (Ag.recharge k b)) (hu : ∀ j, s.st j = SSt.cur → j = k) (a : Nat) :
    AgInv c (charge c s k a) Ag.loop := by
  obtain ⟨x, hx, hst, hsd, hd⟩ := charge_ctl c s k a
  simp only [AgInv, Settled, Charged, NoCur, hst, hsd, hd] at ha ⊢
  grind [upd_apply]

theorem ctl_step (c : Cfg) (s : State) (op : Op) (h : Ctl c s) : Ctl c (step c s op) := by
  obtain ⟨hb, ha⟩ := h
  have retire : ∀ {k r}, s.q = k :: r → (s.ag = Ag.loop ∨ s.ag = Ag.woken) →
      AgInv c { s with st := upd s.st k SSt.fin } Ag.loop := fun {k r} hq hag =>
    (ha.atLoop hag).congr (upd_waiting (Or.inr (hb.head hq).1) (Or.inr (Or.inr rfl))) rfl rfl rfl rfl rfl
  apply step_cases c s op
  case idle => exact ⟨hb, ha⟩
  case first =>
    intro a hag
    rw [hag] at ha
    obtain ⟨hf, _⟩ := hb.unstarted ha.1
    exact ⟨{ hb with
        cntc := fun _ => (nWith_all active s.st c.n fun k _ => by rw [hf k]; rfl).symm, unstarted := nofun },
      rfl, Nat.zero_le _, fun k => by simp [hf k], fun k => by simp [hf k], fun k => by simp [hf k], ha.2⟩
  case again =>
    intro k a hag
    rw [hag] at ha
    exact ⟨{ hb with }, ha⟩
  case dropHeld =>
    intro k coro hag
    rw [hag] at ha
    exact ⟨{ hb with }, fun _ => ha.1.2.1, fun j hj => Option.some.inj hj ▸ ha.2, nofun⟩
  case drop =>
    intro coro hag
    refine ⟨{ hb with }, ?_⟩
    rcases hag with hag | hag | ⟨e, hag⟩ <;> rw [hag] at ha
    · exact ⟨fun h => absurd (ha.1 ▸ h) nofun, fun k hk => absurd (ha.2 ▸ hk) nofun, fun _ => (hb.unstarted ha.1).2⟩
    all_goals exact ⟨fun _ => ha.1.2.1, fun k hk => absurd (ha.1.2.2.2 ▸ hk) nofun, fun _ => ha.2.2.1⟩
  case resolve =>
    intro k l hk _
    obtain ⟨hkn, hs⟩ := hb.live (k := k) (by rw [hk]; nofun)
    exact ⟨SrcInv.resume (s := { s with late := l }) { hb with } hkn hs (Or.inr (Or.inr hk)),
      AgInv.resume (s := { s with late := l }) ha hk⟩
  case start =>
    intro i a hag hi
    rw [hag] at ha
    exact ⟨{ hb.charge a hi ha.1 (Or.inl ((ha.2.2.1 i).2 (Nat.le_refl i))) with }, ha.start hi a⟩
  case started =>
    intro i a hag hi
    rw [hag] at ha
    obtain ⟨h1, _, h3, h4, h5, h6⟩ := ha
    exact ⟨{ hb with }, ⟨h1, fun k hk hf => hi (Nat.lt_of_le_of_lt ((h3 k).1 hf) hk), h5, h6⟩, h4⟩
  case recharge =>
    intro k a hag
    rw [hag] at ha
    exact ⟨{ hb.charge a (hb.live (by rw [ha.2]; nofun)).1 ha.1.1 (Or.inr (Or.inl ha.2)) with },
      ha.recharge (fun j hj => hb.cur_unique j k hj ha.2) a⟩
  case done =>
    intro hag hc he
    rw [hag] at ha
    exact ⟨{ hb with }, ha.1, ha.2, hc, he⟩
  case failed =>
    intro e hag hc he
    rw [hag] at ha
    exact ⟨{ hb with }, ha.1, ha.2, hc, he⟩
  case park =>
    intro hag hc hq
    rw [hag] at ha
    exact ⟨{ hb with }, ha.1, ha.2, hq, Nat.pos_of_ne_zero hc⟩
  case drainWait =>
    intro hag hc hq
    rw [hag] at ha
    exact ⟨{ hb with }, ha, hq, hc⟩
  case popDone =>
    intro k r hag hq _
    exact ⟨hb.pop hq (x := .fin) nofun nofun rfl rfl rfl rfl rfl rfl fun _ => Or.inl, retire hq hag⟩
  case popExc =>
    intro k r e hag hq _
    exact ⟨hb.pop hq (x := .fin) nofun nofun rfl rfl rfl rfl rfl rfl fun _ => Or.inl, retire hq hag⟩
  case popVal =>
    intro k r v hag hq _
    have hL := ha.atLoop hag
    exact ⟨hb.pop hq (x := .cur) nofun (fun _ => hL.2) rfl rfl rfl rfl rfl rfl (fun p hp => by simp at hp; exact hp.imp id (congrArg Prod.fst)),
      hL.1.move (x := .cur) nofun nofun rfl rfl rfl, upd_same _ _ _⟩
  case drainPop =>
    intro k r hag hc hq
    rw [hag] at ha
    have hkq := (hb.head hq).1
    refine ⟨hb.pop hq (x := .dropped) nofun nofun rfl rfl rfl rfl rfl rfl fun _ => Or.inl, ?_⟩
    show AgInv c _ s.ag
    rw [hag]
    simp only [AgInv, Drain, Charged] at ha ⊢
    grind [upd_apply]
  case destroyed =>
    intro hag hc
    rw [hag] at ha
    exact ⟨{ hb with bad := inflightList_nil s c.n fun j hj hst => Drain.quiet hb ha (by omega) hj (Or.inl hst) }, ha.1⟩

theorem ctl_init (c : Cfg) : Ctl c init :=
  ⟨by constructor <;> first | exact ((nWith_eq_zero_iff isDropped _ c.n).2 fun _ _ => rfl).symm | simp [init], rfl, rfl⟩

theorem Ctl.done_exp (h : Ctl c s) (hd : s.ag = Ag.done) : s.exp = none := by
  have ha := h.ag
  rw [hd] at ha
  exact ha.2.2.2

theorem Ctl.failed_exp (h : Ctl c s) {e : Nat} (hf : s.ag = Ag.failed e) : s.exp = some e := by
  have ha := h.ag
  rw [hf] at ha
  exact ha.2.2.2

theorem Settled.count_zero_iff (hb : SrcInv c s) (hs : Settled c s) :
    s.count = 0 ↔ ∀ k, k < c.n → s.st k = SSt.fin := by
  rw [hb.cntc hs.1, nWith_eq_zero_iff]
  refine forall_congr' fun k => imp_congr_right fun _ => ?_
  have := hs.2.2.1 k
  cases hst : s.st k <;> simp_all [active]

theorem ended_all_fin (h : Ctl c s) (he : ended s) (k : Nat) (hk : k < c.n) :
    s.st k = SSt.fin := by
  obtain ⟨hb, ha⟩ := h
  rcases he with e | ⟨x, e⟩ <;> rw [e] at ha <;> exact (ha.1.count_zero_iff hb).1 ha.2.2.1 k hk

def curAllowed : Ag → Nat → Prop
  | Ag.parkedYield j, k => j = k
  | Ag.recharge j _, k => j = k
  | Ag.draining, _ | Ag.drainWait, _ | Ag.destroyed, _ => True
  | _, _ => False

def isCharging : Ag → Nat → Prop
  | Ag.charging i _, k => i ≤ k
  | _, _ => False

def destructing : Ag → Prop
  | Ag.draining | Ag.drainWait | Ag.destroyed => True
  | _ => False

structure Inv1 (c : Cfg) (s : State) : Prop where
  oob : ∀ k, c.n ≤ k → s.st k = SSt.fresh
  qcount : ∀ k, s.q.count k = if s.st k = SSt.queued then 1 else 0
  cntc : s.started = true → s.count = nWith active s.st c.n
  unstarted : s.started = false → (∀ k, s.st k = SSt.fresh) ∧ s.count = 0 ∧ (s.ag = Ag.init ∨ destructing s.ag)
  init_calls : s.ag = Ag.init → s.started = false
  fresh_only : ∀ k, k < c.n → s.st k = SSt.fresh → s.started = false ∨ isCharging s.ag k
  cur_only : ∀ k, s.st k = SSt.cur → curAllowed s.ag k
  cur_unique : ∀ j k, s.st j = SSt.cur → s.st k = SSt.cur → j = k
  yield_cur : ∀ k, s.ag = Ag.parkedYield k → s.st k = SSt.cur
  recharge_cur : ∀ k a, s.ag = Ag.recharge k a → s.st k = SSt.cur
  charging_le : ∀ i a, s.ag = Ag.charging i a → i ≤ c.n
  charging_fresh : ∀ i a, s.ag = Ag.charging i a → ∀ k, i ≤ k → s.st k = SSt.fresh
  park_pop : s.ag = Ag.parkedPop → s.q = [] ∧ 0 < s.count
  woken_q : s.ag = Ag.woken → s.q ≠ []
  drain_wait : s.ag = Ag.drainWait → s.q = [] ∧ 1 < s.count
  drain_cur : ∀ k, s.dcur = some k → s.ag = Ag.draining ∨ s.ag = Ag.drainWait → s.st k = SSt.cur
  dcur_only : ∀ k, s.dcur = some k → destructing s.ag
  drain_none : s.dcur = none → s.ag = Ag.draining ∨ s.ag = Ag.drainWait → s.count = 0
  ended_cnt : (s.ag = Ag.done ∨ ∃ e, s.ag = Ag.failed e) → s.count = 0
  dropped_only : ∀ k, s.st k = SSt.dropped → destructing s.ag
  bad : s.badDestroy = []
  no_abort : s.ag ≠ Ag.aborted

theorem Ctl.inv1 (h : Ctl c s) : Inv1 c s := by
  obtain ⟨hb, ha⟩ := h
  have hf := fun hs k => (hb.unstarted hs).1 k
  have key : (s.started = false → s.ag = Ag.init ∨ destructing s.ag)
      ∧ (∀ k, k < c.n → s.st k = SSt.fresh → s.started = true → isCharging s.ag k)
      ∧ (∀ k, s.st k = SSt.cur → curAllowed s.ag k)
      ∧ (∀ k, s.dcur = some k → destructing s.ag) ∧ (∀ k, s.st k = SSt.dropped → destructing s.ag) := by
    have hu := hb.cur_unique
    generalize s.ag = a at ha
    cases a <;> simp only [AgInv, Settled, Charged, NoCur, Drain, destructing, isCharging, curAllowed] at ha ⊢ <;> grind
  exact { hb with
    unstarted hs := ⟨hf hs, (hb.unstarted hs).2, key.1 hs⟩
    init_calls h := by rw [h] at ha; exact ha.1
    fresh_only k hk hf := by
      cases hs : s.started with
      | false => exact Or.inl rfl
      | true => exact Or.inr (key.2.1 k hk hf hs)
    cur_only := key.2.2.1
    yield_cur k h := by rw [h] at ha; exact ha.2
    recharge_cur k a h := by rw [h] at ha; exact ha.2
    charging_le i a h := by rw [h] at ha; exact ha.2.1
    charging_fresh i a h k := by rw [h] at ha; exact (ha.2.2.1 k).2
    park_pop h := by rw [h] at ha; exact ha.2.2
    woken_q h := by rw [h] at ha; exact ha.2.2
    drain_wait h := by rw [h] at ha; exact ha.2
    drain_cur k hk h := by
      rcases h with h | h <;> rw [h] at ha
      · exact ha.2.1 k hk
      · exact ha.1.2.1 k hk
    dcur_only := key.2.2.2.1
    drain_none hk h := by
      rcases h with h | h <;> rw [h] at ha
      · exact ha.2.2 hk
      · exact ha.1.2.2 hk
    ended_cnt h := by rcases h with h | ⟨e, h⟩ <;> rw [h] at ha <;> exact ha.2.2.1
    dropped_only := key.2.2.2.2
    no_abort h := by rw [h] at ha; exact ha }

end

def consumed (s : State) (k : Nat) : List Nat := (s.out.filter (fun p => p.1 == k)).map (·.2)

def held (s : State) (k : Nat) : List Nat :=
  match s.st k, s.res k with
  | SSt.queued, SRes.val v => [v]
  | SSt.dropped, SRes.val v => [v]
  | _, _ => []

def yieldsUpTo (f : Nat → Option Act) : Nat → List Nat
  | 0 => []
  | n + 1 => yieldsUpTo f n ++ (match f n with | some (Act.yield v) => [v] | _ => [])

def isEnd : SRes → Bool
  | SRes.done | SRes.exc _ => true
  | _ => false

theorem consumed_snoc (s : State) (k v j : Nat) (out' : List (Nat × Nat)) (h : out' = s.out ++ [(k, v)]) :
    (((out'.filter (fun p => p.1 == j)).map (·.2)) = consumed s j ++ (if k = j then [v] else [])) := by
  subst h
  by_cases hkj : k = j <;> simp [consumed, List.filter_append, hkj]

theorem consumed_other {s s' : State} {k j v : Nat} (h : s'.out = s.out ++ [(k, v)]) (hj : j ≠ k) :
    consumed s' j = consumed s j := by
  have := consumed_snoc s k v j s'.out h
  rw [if_neg (Ne.symm hj), List.append_nil] at this
  exact this

theorem yieldsUpTo_succ (f : Nat → Option Act) (n : Nat) :
    yieldsUpTo f (n + 1) = yieldsUpTo f n ++ (match f n with | some (Act.yield v) => [v] | _ => []) := rfl

/-- all that the model keeps of one source -/
structure Loc where
  st : SSt
  res : SRes
  pc : Nat
  cons : List Nat
  got : List Nat
  cell : Option Nat
  late : List (Nat × Option Nat)
  exc : List Nat

def Loc.held (l : Loc) : List Nat :=
  match l.st, l.res with
  | SSt.queued, SRes.val v => [v]
  | SSt.dropped, SRes.val v => [v]
  | _, _ => []

def thrownBy (s : State) (k : Nat) : List Nat := (s.thrown.filter (fun p => p.1 == k)).map (·.2)

def view (s : State) (k : Nat) : Loc :=
  ⟨s.st k, s.res k, s.pc k, consumed s k, s.got k, s.cell k, s.late k, thrownBy s k⟩

theorem mem_thrownBy {s : State} {k e : Nat} : e ∈ thrownBy s k ↔ (k, e) ∈ s.thrown := by
  simp [thrownBy]

def Loc.run (f : Nat → Option Act) (l : Loc) : Loc :=
  match f l.pc with
  | some (Act.yield v) => { l with pc := l.pc + 1, res := SRes.val v, st := SSt.queued }
  | some (Act.throw e) => { l with pc := l.pc + 1, res := SRes.exc e, st := SSt.queued }
  | some Act.await | some Act.awaitRead => { l with pc := l.pc + 1, st := SSt.inflight }
  | none => { l with res := SRes.done, st := SSt.queued }

structure Loc.OK (f : Nat → Option Act) (l : Loc) : Prop where
  eqn : l.cons ++ l.held = yieldsUpTo f l.pc
  queued_res : l.st = SSt.queued → l.res ≠ SRes.none
  fin_res : l.st = SSt.fin → isEnd l.res = true
  ended_st : isEnd l.res = true → l.st = SSt.queued ∨ l.st = SSt.fin ∨ l.st = SSt.dropped
  res_done : l.res = SRes.done → f l.pc = none
  res_exc : ∀ e, l.res = SRes.exc e → 0 < l.pc ∧ f (l.pc - 1) = some (Act.throw e)
  prev_yield : ∀ v, 0 < l.pc → f (l.pc - 1) = some (Act.yield v) → l.res = SRes.val v ∨ isEnd l.res = true
  exc_iff : ∀ e, e ∈ l.exc ↔ l.st = SSt.fin ∧ l.res = SRes.exc e
  cell_last : l.cell = l.got.getLast?
  charged : l.st ≠ SSt.fresh → l.got ≠ []
  late_ok : ∀ p, p ∈ l.late → ∃ a, p.2 = some a ∧ 0 < p.1 ∧ l.got[p.1 - 1]? = some a

theorem view_srcRun (c : Cfg) (s : State) (k : Nat) : view (srcRun c s k) k = (view s k).run (c.script k) := by
  unfold srcRun push Loc.run view
  split <;> simp_all [consumed, thrownBy]

theorem view_srcRun_other (c : Cfg) (s : State) {k j : Nat} (hj : j ≠ k) : view (srcRun c s k) j = view s j := by
  obtain ⟨g1, _, g3, _, g5, g6, g7⟩ := srcRun_ghost c s k
  simp only [view, consumed, thrownBy, srcRun_other c s hj, g1, g3, g5, g6, g7]

theorem Loc.OK.not_ended {f : Nat → Option Act} {l : Loc} (h : l.OK f) (hr : runnable l.st) : isEnd l.res = false := by
  cases hh : isEnd l.res with
  | false => rfl
  | true => rcases hr with e | e | e <;> simpa [e] using h.ended_st hh

theorem Loc.OK.run {f : Nat → Option Act} {l : Loc} (h : l.OK f) (hr : runnable l.st) (hg : l.got ≠ []) :
    (l.run f).OK f := by
  have hne := h.not_ended hr
  have hh : l.held = [] := by unfold Loc.held; rcases hr with e | e | e <;> simp [e]
  have hx : ∀ e, e ∉ l.exc := fun e he => by
    have := ((h.exc_iff e).1 he).1
    rcases hr with e | e | e <;> simp [e] at this
  have hd : l.res ≠ SRes.done := fun e => by rw [e] at hne; cases hne
  have hxe : ∀ e, l.res ≠ SRes.exc e := fun _ e => by rw [e] at hne; cases hne
  have e1 := h.eqn
  rw [hh, List.append_nil] at e1
  unfold Loc.run
  split <;> rename_i hv <;>
    refine { h with eqn := ?_, queued_res := ?_, fin_res := ?_, ended_st := ?_, res_done := ?_, res_exc := ?_,
                    prev_yield := ?_, exc_iff := ?_, charged := fun _ => hg } <;>
    simp [Loc.held, yieldsUpTo_succ, isEnd, hv, e1, hd, hxe, hx]

/-- `gcb->charge(a)`: earlier fetches keep pointing at earlier entries -/
theorem Loc.OK.charge {f : Nat → Option Act} {l : Loc} (h : l.OK f) (a : Nat) :
    ({ l with got := l.got ++ [a], cell := some a } : Loc).OK f :=
  { h with
    cell_last := by simp
    charged := by simp
    late_ok := fun p hp => by
      obtain ⟨b, hb, hpos, hget⟩ := h.late_ok p hp
      have hlt : p.1 - 1 < l.got.length := (List.getElem?_eq_some_iff.mp hget).1
      exact ⟨b, hb, hpos, by simpa [List.getElem?_append_left hlt] using hget⟩ }

theorem Loc.OK.lateRead {f : Nat → Option Act} {l : Loc} (h : l.OK f) (hst : l.st = SSt.inflight) :
    ({ l with late := l.late ++ [(l.got.length, l.cell)] } : Loc).OK f :=
  { h with
    late_ok := fun p hp => by
      have hne : l.got ≠ [] := h.charged (by simp [hst])
      simp only [List.mem_append, List.mem_singleton] at hp
      rcases hp with hp | rfl
      · exact h.late_ok p hp
      · obtain ⟨a, ha⟩ := Option.ne_none_iff_exists'.mp (mt List.getLast?_eq_none_iff.mp hne)
        exact ⟨a, by rw [h.cell_last, ha], List.length_pos_iff.mpr hne, by rw [← ha, List.getLast?_eq_getElem?]⟩ }

/-- the head of the queue is taken off as ended, or dropped: what it holds stays held -/
theorem Loc.OK.retire {f : Nat → Option Act} {l : Loc} {x : SSt} (h : l.OK f) (hq : l.st = SSt.queued)
    (hx : x = SSt.fin ∧ l.res = SRes.done ∨ x = SSt.dropped) : ({ l with st := x } : Loc).OK f := by
  have hh : ({ l with st := x } : Loc).held = l.held := by
    unfold Loc.held
    rcases hx with ⟨rfl, he⟩ | rfl <;> cases hr : l.res <;> simp_all
  have he := h.exc_iff
  refine { h with eqn := hh ▸ h.eqn, queued_res := ?_, fin_res := ?_, ended_st := ?_, exc_iff := ?_, charged := fun _ => h.charged (by simp [hq]) } <;>
    rcases hx with ⟨rfl, hd⟩ | rfl <;> simp_all [isEnd]

theorem Loc.OK.caught {f : Nat → Option Act} {l : Loc} {e : Nat} (h : l.OK f) (hq : l.st = SSt.queued)
    (hr : l.res = SRes.exc e) : ({ l with st := SSt.fin, exc := l.exc ++ [e] } : Loc).OK f := by
  have hh : ({ l with st := SSt.fin, exc := l.exc ++ [e] } : Loc).held = l.held := by unfold Loc.held; simp [hq, hr]
  have he := h.exc_iff
  refine { h with eqn := hh ▸ h.eqn, queued_res := ?_, fin_res := ?_, ended_st := ?_, exc_iff := ?_, charged := fun _ => h.charged (by simp [hq]) } <;>
    simp_all [isEnd, eq_comm]

theorem Loc.OK.popVal {f : Nat → Option Act} {l : Loc} {v : Nat} (h : l.OK f) (hq : l.st = SSt.queued)
    (hr : l.res = SRes.val v) : ({ l with st := SSt.cur, cons := l.cons ++ [v] } : Loc).OK f := by
  have e1 := h.eqn
  have he := h.exc_iff
  refine { h with eqn := ?_, queued_res := ?_, fin_res := ?_, ended_st := ?_, exc_iff := ?_, charged := fun _ => h.charged (by simp [hq]) } <;>
    simp_all [Loc.held, isEnd]

structure Srcs (c : Cfg) (s : State) : Prop where
  loc : ∀ k, (view s k).OK (c.script k)
  exp_last : s.exp = (s.thrown.getLast?).map (·.2)

theorem view_congr {s t : State} {j : Nat} (h1 : t.st j = s.st j) (h2 : t.res j = s.res j) (h3 : t.pc j = s.pc j)
    (h4 : consumed t j = consumed s j) (h5 : t.got j = s.got j) (h6 : t.cell j = s.cell j) (h7 : t.late j = s.late j)
    (h8 : thrownBy t j = thrownBy s j) : view t j = view s j := by
  simp only [view, h1, h2, h3, h4, h5, h6, h7, h8]

theorem Srcs.at {c : Cfg} {s t : State} (h : Srcs c s) (k : Nat) {l : Loc} (hv : view t k = l)
    (hk : l.OK (c.script k)) (ho : ∀ j, j ≠ k → view t j = view s j)
    (he : t.exp = (t.thrown.getLast?).map (·.2)) : Srcs c t :=
  ⟨fun j => if hj : j = k then hj ▸ hv ▸ hk else ho j hj ▸ h.loc j, he⟩

theorem thrownBy_other {s t : State} {k j e : Nat} (h : t.thrown = s.thrown ++ [(k, e)]) (hj : j ≠ k) :
    thrownBy t j = thrownBy s j := by
  simp [thrownBy, h, List.filter_append, Ne.symm hj]

theorem Srcs.resume {c : Cfg} {s : State} (h : Srcs c s) {k : Nat} (hr : runnable (s.st k)) (hg : s.got k ≠ []) :
    Srcs c (srcRun c s k) :=
  h.at k (view_srcRun c s k) ((h.loc k).run hr hg) (fun _ hj => view_srcRun_other c s hj) (by
    obtain ⟨_, _, _, g4, g5, _⟩ := srcRun_ghost c s k
    rw [g4, g5]; exact h.exp_last)

theorem Srcs.frame {c : Cfg} {s t : State} (h : Srcs c s) (hv : ∀ k, view t k = view s k) (he : t.exp = s.exp)
    (ht : t.thrown = s.thrown) : Srcs c t :=
  ⟨fun k => hv k ▸ h.loc k, by rw [he, ht]; exact h.exp_last⟩

theorem srcs_step (c : Cfg) (s : State) (op : Op) (h : Srcs c s) (h1 : Ctl c s) : Srcs c (step c s op) := by
  have o : ∀ k x j, j ≠ k → upd s.st k x j = s.st j := fun k x j hj => upd_other _ _ _ _ hj
  have charge : ∀ k a, runnable (s.st k) → Srcs c (charge c s k a) := fun k a hr =>
    Srcs.resume (s := { s with got := upd s.got k (s.got k ++ [a]), cell := upd s.cell k (some a) })
      (h.at k (by simp [view, consumed, thrownBy]) ((h.loc k).charge a)
        (fun j hj => view_congr rfl rfl rfl rfl (upd_other _ _ _ _ hj) (upd_other _ _ _ _ hj) rfl rfl) h.exp_last)
      hr (by simp)
  have retire : ∀ {k r} x, s.q = k :: r → x = SSt.fin ∧ s.res k = SRes.done ∨ x = SSt.dropped →
      Srcs c { s with st := upd s.st k x } := fun {k r} x hq hx =>
    h.at k (by simp [view, consumed, thrownBy]) ((h.loc k).retire (h1.src.head hq).1 hx)
      (fun j hj => view_congr (o k x j hj) rfl rfl rfl rfl rfl rfl rfl) h.exp_last
  apply step_cases c s op
  case idle => exact h
  case resolve =>
    intro k l hk hl
    have hL : Srcs c (lateRead c s k) := by
      unfold lateRead
      split
      · exact h.at k (by simp [view, consumed, thrownBy]) ((h.loc k).lateRead hk)
          (fun j hj => view_congr rfl rfl rfl rfl rfl rfl (upd_other _ _ _ _ hj) rfl) h.exp_last
      · exact h
    rw [hl] at hL
    exact hL.resume (Or.inr (Or.inr hk)) ((h.loc k).charged (by simp [view, hk]))
  case start => exact fun i a hag _ => (charge i a (Or.inl (h1.inv1.charging_fresh i a hag i (Nat.le_refl i)))).frame (fun _ => rfl) rfl rfl
  case recharge => exact fun k a hag => (charge k a (Or.inr (Or.inl (h1.inv1.recharge_cur k a hag)))).frame (fun _ => rfl) rfl rfl
  case popDone => exact fun k r _ hq hr => (retire _ hq (Or.inl ⟨rfl, hr⟩)).frame (fun _ => rfl) rfl rfl
  case drainPop => exact fun k r _ _ hq => (retire _ hq (Or.inr rfl)).frame (fun _ => rfl) rfl rfl
  case popExc =>
    exact fun k r e _ hq hr => h.at k (by simp [view, consumed, thrownBy, List.filter_append]) ((h.loc k).caught (h1.src.head hq).1 hr)
      (fun j hj => view_congr (o k _ j hj) rfl rfl rfl rfl rfl rfl (thrownBy_other rfl hj)) (by simp)
  case popVal =>
    exact fun k r v _ hq hr => h.at k (by simp [view, consumed, thrownBy, List.filter_append]) ((h.loc k).popVal (h1.src.head hq).1 hr)
      (fun j hj => view_congr (o k _ j hj) rfl rfl (consumed_other rfl hj) rfl rfl rfl rfl) h.exp_last
  all_goals intros; exact h.frame (fun _ => rfl) rfl rfl

theorem srcs_init (c : Cfg) : Srcs c init :=
  ⟨fun k => by constructor <;> simp [view, init, consumed, thrownBy, Loc.held, yieldsUpTo, isEnd], rfl⟩

/-- the `SRes.none` branch of `popHandle` is never taken -/
theorem Inv2.queued_res {c : Cfg} {s : State} (h : Srcs c s) (k : Nat) (hk : s.st k = SSt.queued) :
    s.res k ≠ SRes.none := (h.loc k).queued_res hk

theorem Srcs.eqn {c : Cfg} {s : State} (h : Srcs c s) (k : Nat) :
    consumed s k ++ held s k = yieldsUpTo (c.script k) (s.pc k) := (h.loc k).eqn

theorem Srcs.not_ended {c : Cfg} {s : State} (h : Srcs c s) {k : Nat} (hr : runnable (s.st k)) :
    isEnd (s.res k) = false := (h.loc k).not_ended hr

theorem Srcs.prev_yield {c : Cfg} {s : State} (h : Srcs c s) (k v : Nat) (hp : 0 < s.pc k)
    (hy : c.script k (s.pc k - 1) = some (Act.yield v)) : s.res k = SRes.val v ∨ isEnd (s.res k) = true :=
  (h.loc k).prev_yield v hp hy

theorem Srcs.thrown_iff {c : Cfg} {s : State} (h : Srcs c s) (k e : Nat) :
    (k, e) ∈ s.thrown ↔ s.st k = SSt.fin ∧ s.res k = SRes.exc e := mem_thrownBy.symm.trans ((h.loc k).exc_iff e)

structure Inv6 (s : State) : Prop where
  cell_last : ∀ k, s.cell k = (s.got k).getLast?
  charged : ∀ k, s.st k ≠ SSt.fresh → s.got k ≠ []
  late_ok : ∀ k p, p ∈ s.late k → ∃ a, p.2 = some a ∧ 0 < p.1 ∧ (s.got k)[p.1 - 1]? = some a

theorem Srcs.cells {c : Cfg} {s : State} (h : Srcs c s) : Inv6 s :=
  ⟨fun k => (h.loc k).cell_last, fun k => (h.loc k).charged, fun k => (h.loc k).late_ok⟩

/-- the coroutine of source `k` has run to completion: end of its script, or its last act was a throw -/
def srcEnded (c : Cfg) (s : State) (k : Nat) : Prop :=
  c.script k (s.pc k) = none ∨ (0 < s.pc k ∧ ∃ e, c.script k (s.pc k - 1) = some (Act.throw e))

theorem fin_complete {c : Cfg} {s : State} (h : Srcs c s) {k : Nat} (hf : s.st k = SSt.fin) :
    consumed s k = yieldsUpTo (c.script k) (s.pc k) ∧ srcEnded c s k := by
  have he := h.eqn k
  have hr : isEnd (s.res k) = true := (h.loc k).fin_res hf
  have hh : held s k = [] := by unfold held; simp [hf]
  rw [hh, List.append_nil] at he
  refine ⟨he, ?_⟩
  cases hres : s.res k with
  | done => exact Or.inl ((h.loc k).res_done hres)
  | exc e => exact Or.inr ⟨((h.loc k).res_exc e hres).1, e, ((h.loc k).res_exc e hres).2⟩
  | _ => simp [hres, isEnd] at hr

theorem count_out_consumed (out : List (Nat × Nat)) (k v : Nat) :
    out.count (k, v) = (((out.filter (fun p => p.1 == k)).map (·.2))).count v := by
  induction out with
  | nil => rfl
  | cons p out ih =>
    by_cases ha : p.1 = k <;> by_cases hb : p.2 = v <;> simp [List.count_cons, ih, ha, hb, Prod.ext_iff]

/-- the arguments source `k` must have received: the first access's argument, then the argument of every access
made right after a value of source `k` was returned -/
def routed (calls : List Nat) (out : List (Nat × Nat)) (k : Nat) : List Nat :=
  match calls with
  | [] => []
  | a0 :: rest => a0 :: ((out.zip rest).filter (fun p => p.1.1 == k)).map (·.2)

theorem routed_out_snoc (calls : List Nat) (out : List (Nat × Nat)) (x : Nat × Nat) (k : Nat)
    (h : calls.length = out.length + 1) : routed calls (out ++ [x]) k = routed calls out k := by
  cases calls with
  | nil => rfl
  | cons a0 rest =>
    simp only [routed]
    have hl : out.length = rest.length := by simp at h; omega
    have := List.zip_append (l₁ := out) (l₂ := rest) (r₁ := [x]) (r₂ := []) hl
    simp only [List.append_nil, List.zip_nil_right] at this
    rw [this]

theorem routed_calls_snoc (cs : List Nat) (o : List (Nat × Nat)) (j v a k : Nat)
    (h : cs.length = o.length + 1) :
    routed (cs ++ [a]) (o ++ [(j, v)]) k = routed cs (o ++ [(j, v)]) k ++ (if j = k then [a] else []) := by
  cases cs with
  | nil => simp at h
  | cons a0 rest =>
    simp only [routed, List.cons_append]
    have hl : o.length = rest.length := by simp at h; omega
    have h1 := List.zip_append (l₁ := o) (l₂ := rest) (r₁ := [(j, v)]) (r₂ := [a]) hl
    have h2 := List.zip_append (l₁ := o) (l₂ := rest) (r₁ := [(j, v)]) (r₂ := []) hl
    simp only [List.append_nil, List.zip_nil_right] at h2
    rw [h1, h2]
    by_cases hjk : j = k <;> simp [List.filter_append, hjk]

def Routed (c : Cfg) (s : State) : Prop := ∀ k, k < c.n → s.got k = routed s.calls s.out k

def AgArgs (c : Cfg) (s : State) : Ag → Prop
  | .init => s.calls = [] ∧ s.out = [] ∧ Routed c s
  | .charging i a => s.calls = [a] ∧ s.out = [] ∧ ∀ k, k < c.n → s.got k = if k < i then [a] else []
  | .recharge j a => ∃ cs o v, s.calls = cs ++ [a] ∧ s.out = o ++ [(j, v)] ∧ cs.length = o.length + 1
      ∧ ∀ k, k < c.n → s.got k = routed cs s.out k
  | .loop | .parkedPop | .woken => Routed c s ∧ s.calls.length = s.out.length + 1
  | .parkedYield k => Routed c s ∧ s.calls.length = s.out.length ∧ ∃ o v, s.out = o ++ [(k, v)]
  | _ => Routed c s

theorem AgArgs.congr {c : Cfg} {s s' : State} {a : Ag} (ha : AgArgs c s a) (h1 : s'.calls = s.calls)
    (h2 : s'.out = s.out) (h3 : s'.got = s.got) : AgArgs c s' a := by
  cases a <;> simp only [AgArgs, Routed, h1, h2, h3] <;> exact ha

theorem AgArgs.wake {c : Cfg} {s : State} {a : Ag} (ha : AgArgs c s a) : AgArgs c s (wake a) := by
  cases a <;> exact ha

theorem AgArgs.resume {c : Cfg} {s : State} (ha : AgArgs c s s.ag) (k : Nat) :
    AgArgs c (srcRun c s k) (srcRun c s k).ag := by
  rcases srcRun_eq c s k with e | e <;> rw [e]
  · exact ha.congr rfl rfl rfl
  · exact ha.wake.congr rfl rfl rfl

theorem agArgs_step (c : Cfg) (s : State) (op : Op) (ha : AgArgs c s s.ag) :
    AgArgs c (step c s op) (step c s op).ag := by
  have hL : s.ag = Ag.loop ∨ s.ag = Ag.woken → AgArgs c s Ag.loop := fun hag => by
    rcases hag with hag | hag <;> rw [hag] at ha <;> exact ha
  apply step_cases c s op (P := fun t => AgArgs c t t.ag)
  case idle => exact ha
  case first =>
    intro a hag
    rw [hag] at ha
    exact ⟨rfl, ha.2.1, fun k hk => by rw [ha.2.2 k hk, ha.1]; rfl⟩
  case again =>
    intro k a hag
    rw [hag] at ha
    obtain ⟨hs, hl, o, v, ho⟩ := ha
    exact ⟨s.calls, o, v, rfl, ho, by rw [hl, ho]; simp, hs⟩
  case dropHeld => exact fun k _ hag => by rw [hag] at ha; exact ha.1
  case drop =>
    intro _ hag
    rcases hag with hag | hag | ⟨e, hag⟩ <;> rw [hag] at ha
    · exact ha.2.2
    · exact ha
    · exact ha
  case resolve => exact fun k l _ _ => AgArgs.resume (s := { s with late := l }) ha k
  case start =>
    intro i a hag hi
    rw [hag] at ha
    obtain ⟨hc, ho, hg⟩ := ha
    obtain ⟨g1, g2, g3⟩ := charge_ghost c s i a
    refine ⟨g2.trans hc, g3.trans ho, fun k hk => ?_⟩
    show (charge c s i a).got k = _
    rw [g1, upd_apply]
    split
    · subst k; simp [hg i hk]
    · rw [hg k hk]; split <;> split <;> first | rfl | omega
  case started =>
    intro i a hag hi
    rw [hag] at ha
    obtain ⟨hc, ho, hg⟩ := ha
    exact ⟨fun k hk => by rw [hg k hk, hc, ho, if_pos (by omega)]; rfl, by rw [hc, ho]; rfl⟩
  case recharge =>
    intro j a hag
    rw [hag] at ha
    obtain ⟨cs, o, v, hc, ho, hl, hg⟩ := ha
    obtain ⟨g1, g2, g3⟩ := charge_ghost c s j a
    refine ⟨fun k hk => ?_, ?_⟩
    · show (charge c s j a).got k = routed (charge c s j a).calls (charge c s j a).out k
      rw [g1, g2, g3, hc, ho, routed_calls_snoc cs o j v a k hl, upd_apply]
      split
      · subst k; simp [hg j hk, ho]
      · rw [if_neg (Ne.symm ‹_›), List.append_nil, hg k hk, ho]
    · show (charge c s j a).calls.length = (charge c s j a).out.length + 1
      rw [g2, g3, hc, ho]; simp; omega
  case done => exact fun hag _ _ => (hL (Or.inl hag)).1
  case failed => exact fun _ hag _ _ => (hL (Or.inl hag)).1
  case popDone => exact fun _ _ hag _ _ => hL hag
  case popExc => exact fun _ _ _ hag _ _ => hL hag
  case popVal =>
    exact fun k r v hag _ _ =>
      ⟨fun j hj => ((hL hag).1 j hj).trans (routed_out_snoc _ _ _ _ (hL hag).2).symm, by simpa using (hL hag).2, _, _, rfl⟩
  case drainPop => exact fun _ _ _ _ _ => ha.congr rfl rfl rfl
  -- `park`, `drainWait`, `destroyed`: to a state of which `AgArgs` says the same
  all_goals intro hag; intros; rw [hag] at ha; exact ha

theorem agArgs_init (c : Cfg) : AgArgs c init init.ag :=
  ⟨rfl, rfl, fun _ _ => rfl⟩

structure Inv4 (c : Cfg) (s : State) : Prop where
  init_empty : s.ag = Ag.init → s.calls = [] ∧ s.out = []
  charging : ∀ i a, s.ag = Ag.charging i a →
    s.calls = [a] ∧ s.out = [] ∧ ∀ k, k < c.n → s.got k = if k < i then [a] else []
  recharge : ∀ j a, s.ag = Ag.recharge j a →
    ∃ cs o v, s.calls = cs ++ [a] ∧ s.out = o ++ [(j, v)] ∧ cs.length = o.length + 1
      ∧ ∀ k, k < c.n → s.got k = routed cs s.out k
  settled : (∀ i a, s.ag ≠ Ag.charging i a) → (∀ j a, s.ag ≠ Ag.recharge j a) →
    ∀ k, k < c.n → s.got k = routed s.calls s.out k
  len_wait : s.ag = Ag.loop ∨ s.ag = Ag.parkedPop ∨ s.ag = Ag.woken → s.calls.length = s.out.length + 1
  len_yield : ∀ k, s.ag = Ag.parkedYield k → s.calls.length = s.out.length ∧ ∃ o v, s.out = o ++ [(k, v)]

theorem AgArgs.inv4 {c : Cfg} {s : State} (ha : AgArgs c s s.ag) : Inv4 c s where
  init_empty h := by rw [h] at ha; exact ⟨ha.1, ha.2.1⟩
  charging i a h := by rw [h] at ha; exact ha
  recharge j a h := by rw [h] at ha; exact ha
  settled hc hr := by
    generalize s.ag = a at ha hc hr
    cases a with
    | charging i b => exact absurd rfl (hc i b)
    | recharge j b => exact absurd rfl (hr j b)
    | init => exact ha.2.2
    | loop => exact ha.1
    | parkedPop => exact ha.1
    | woken => exact ha.1
    | parkedYield k => exact ha.1
    | _ => exact ha
  len_wait h := by rcases h with h | h | h <;> rw [h] at ha <;> exact ha.2
  len_yield k h := by rw [h] at ha; exact ha.2

structure Inv (c : Cfg) (s : State) : Prop where
  ctl : Ctl c s
  srcs : Srcs c s
  args : AgArgs c s s.ag

theorem inv_init (c : Cfg) : Inv c init := ⟨ctl_init c, srcs_init c, agArgs_init c⟩

theorem inv_step (c : Cfg) (s : State) (op : Op) (h : Inv c s) : Inv c (step c s op) :=
  ⟨ctl_step c s op h.ctl, srcs_step c s op h.srcs h.ctl, agArgs_step c s op h.args⟩

theorem inv_run (c : Cfg) (s : State) (ops : List Op) (h : Inv c s) : Inv c (run c s ops) := by
  induction ops generalizing s with
  | nil => exact h
  | cons op ops ih => exact ih (step c s op) (inv_step c s op h)

end Cocls.Agg
