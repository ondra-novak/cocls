/-
Micro-step model of the callback adapters of cocls (C18):

* `callback_await` / `callback_await_alloc` (callback_awaiter.h): a detached coroutine whose frame is the helper block; it
  constructs the awaitable, checks `ready()` (load), subscribes (CAS), and after the resolution calls the callback with
  the `await_result` and destroys its frame;
* `make_promise` (future.h): heap / storage `future_with_cb` whose awaiter slot is pre-loaded with its own node; the
  resume function calls the callback and deletes the object;
* `future_with_cb::operator<<` (future.h, `mkCb`): the same self-owning object attached to the future a source factory
  returns: the pre-loaded registration is taken out, the future is re-created from the factory's result (`result_of`) and
  the object subscribes to it like any awaiter (CAS); refused = already resolved: it resumes itself at once;
* `discard` (future.h): heap awaiter owning the future; subscribes in its constructor or runs its finaliser itself;
* `future_conv` (future_conv.h): member future + parked outer promise; the resume function reads the source (`*_fut`),
  runs the converter and resolves the outer promise (value, source exception, converter exception, dropped);
* `call_fn_future_awaiter` (future.h): member future, resume function calls a member function with the future;
* `call_fn_awaiter` (awaiter.h): a bare awaiter whose resume function calls a member function with the awaiter; it owns no
  future and has no registration function of its own — the user drives the subscription protocol of
  `co_awaiter::subscribe` by hand: `await_ready()` (load), `subscribe(&awt)` (CAS), and on "already resolved" completes
  it himself (`awt.resume()`); the node is a member object re-used for one operation after the other.

One awaited operation = one source future (slot + payload) + one shared promise (`owner`) + exactly one adapter.
Agents: agent 0 is the *registrar* (runs the registration, optionally invokes the promise itself afterwards:
"resolves later on the same thread"), the other agents are resolver calls (`promise::operator()(value|exception|drop)`)
or destructor agents (`~promise`, enabled once every invocation returned) on other threads.  `pre` = the awaited
operation resolves its promise inside the factory, i.e. before the registration ("already resolved at registration").

One agent step = the plain code up to and including the agent's next operation on one of the two *shared* atomics
(`slot` = `future::_awaiter`, `owner` = `promise::_owner`) — exactly the step of `harness/h_callback.cpp` under the baton
scheduler in `track_only` mode.  Whoever detaches the adapter's node from the slot (or is refused by it) holds the
*completion* and runs it: `nloads` further loads of the slot (`ready()` in `*_fut`, `pending()` inside `value()` of a
future without value), then callback / converter / release of the helper block.

Re-use: `future_conv` and `call_fn_future_awaiter` objects serve one operation after the other; the adapter's awaiter
node is the same every time, and its `_next` link (`nxt`) is the expected value of the next subscribing CAS.  `initWith`
starts an operation with the link the previous one left behind, `runOps` chains operations.

A callback of `callback_await` may throw (`cbThrows`): the helper coroutine remembers that the outcome has been
delivered, its catch branch does not call the callback again and the exception is ignored like any result of a detached
coroutine.  Starting the awaited operation may throw (`startThrew`): the `<<` adapters re-create their future resolved
with the exception (`future::result_of`), `callback_await` constructs the awaitable inside its try block and hands the
exception to the callback.  The callbacks of the other adapters are invoked from `noexcept` resume functions (a throw is
`std::terminate`: not a behaviour of the adapter, not modelled).

`astepAsIs` / `runAsIs` keep the three behaviours the pinned code had instead (repaired in /repo by 963fa92,
42a8746, edcba93); `Props/C18.lean` has a witness run for each.

Ghost fields (never consulted by the control flow): `calls`, `saw`, `convIn`, `outerSets`, `allocs`, `frees`, `tok`,
`wins`, `winner`, `tmpLive`, `built`, `builtLive`.
-/
namespace Cocls.Callback

inductive Outcome where
  | none                 -- resolved without value (drop / destruction of the promise)
  | val (v : Nat)
  | exc (c : Nat)
  deriving DecidableEq, Repr, Inhabited

/-- kind of a promise invocation -/
inductive RK where
  | value (v : Nat) | exc (c : Nat) | drop
  deriving DecidableEq, Repr, Inhabited

def RK.payload : RK → Outcome
  | RK.value v => Outcome.val v
  | RK.exc c => Outcome.exc c
  | RK.drop => Outcome.none

/-- what a callback sees when it reads the result (`await_result::get`, `future::value`) -/
inductive Obs where
  | val (v : Nat) | exc (c : Nat) | canceled
  deriving DecidableEq, Repr, Inhabited

def Outcome.obs : Outcome → Obs
  | Outcome.val v => Obs.val v
  | Outcome.exc c => Obs.exc c
  | Outcome.none => Obs.canceled

inductive Adapter where
  | cbAwait | mkProm | discard | conv | callFn | callAwt | mkCb
  deriving DecidableEq, Repr, Inhabited

/-- behaviour of the user's converter (`future_conv`): returns the converted value, throws, or (promise-taking shapes
only) returns without resolving the promise it was handed -/
inductive ConvB where
  | ret | throw (c : Nat) | leave
  deriving DecidableEq, Repr, Inhabited

/-- final state of the outer future of a converter -/
inductive OuterRes where
  | val (v : Nat)        -- the converted value
  | exc (c : Nat)        -- exception of the source or of the converter
  | canceledExc          -- source was dropped: `*_fut` threw await_canceled_exception, stored as exception
  | noValue              -- the converter left the promise unresolved: broken promise
  deriving DecidableEq, Repr, Inhabited

inductive Slot where
  | null | node | ready
  deriving DecidableEq, Repr, Inhabited

/-- who runs a completion, i.e. how the thread continues afterwards -/
inductive Who where
  | reg      -- the registrar, inline during the registration (refused subscribe / ready at `await_ready`)
  | res      -- a promise invocation (prints its `true` result afterwards)
  | dt       -- a destructor agent
  deriving DecidableEq, Repr, Inhabited

inductive Pc where
  | gStart                     -- registrar: allocate the helper, call the factory, first operation on the slot
  | gCas                       -- registrar (callback_await, call_fn_awaiter): `ready()` said no, now the subscribing CAS
  | gParked                    -- registrar: subscribed; returns from the registration
  | rArrive | rBlocked         -- resolver thread: waits until the promise exists
  | rFinLost                   -- lost the claim: returns false
  | rResolve (dt : Bool)       -- winner (or destructor): `set`, `resolve()` exchange
  | rRet (dt : Bool)           -- the exchange found no awaiter: return
  | dArrive | dBlocked | dFin  -- destructor agent
  | comp (k : Nat) (w : Who)   -- holds the completion: `k` loads of the slot, then callback/converter/free
  | done
  deriving DecidableEq, Repr, Inhabited

/-- the ghost completion token: exactly one party is responsible for running the completion -/
inductive Tok where
  | slot                 -- parked in the awaiter slot
  | agent (t : Nat)      -- held by an agent (registrar before its decision, or whoever detached / was refused)
  | used                 -- the completion ran
  deriving DecidableEq, Repr, Inhabited

inductive Win where
  | factory | agent (t : Nat)
  deriving DecidableEq, Repr, Inhabited

inductive Ev where
  | opLoadSlot (t : Nat) (s : Slot)
  | opCas (t : Nat) (ok : Bool) (s : Slot)
  | opXchgOwner (t : Nat) (had : Bool)
  | opLoadOwner (t : Nat) (had : Bool)
  | opXchgSlot (t : Nat) (s : Slot)
  | rBlock (t : Nat)
  | dBlock (t : Nat)
  | fin (t : Nat)
  | alloc
  | free
  | cb (o : Obs)
  | conv (i : Option Nat)
  | ret (t : Nat) (b : Bool)
  | callerCont           -- the code that called `callback_await` carries on (its full expression is over)
  | deadArg              -- the awaited operation was constructed from an argument that no longer exists
  deriving DecidableEq, Repr, Inhabited

structure Cfg where
  adapter : Adapter
  n : Nat                          -- number of agents; agent 0 = registrar
  rk : Nat → Option RK             -- agent i ≥ 1: `some k` = promise invocation, `none` = destructor agent
  pre : Option RK := none          -- the factory resolves the operation before it returns
  selfRes : Option RK := none      -- the registrar invokes the promise itself after registering
  cvb : ConvB := ConvB.ret
  cvf : Option Nat → Nat := fun i => match i with | some x => x + 1000 | none => 7000
  srcVoid : Bool := false          -- the source is a future<void>: the converter gets no argument
  convReads : Bool := true         -- the converter glue reads the source (`*_fut`); false = pinned void-source shapes
  cbThrows : Option Nat := none    -- (callback_await) the user's callback throws this exception once it has looked at its result
  startThrew : Bool := false       -- `pre` is the exception thrown by the start of the operation itself (factory / constructor of the awaitable)
  inCoro : Bool := false           -- the registration is made from inside a running coroutine (active `coro_queue`)
  argsByRef : Bool := false        -- NOT the code: `callback_await_coro` taking `Args && ...` (frame holds references)

structure State where
  owner : Bool
  slot : Slot
  payload : Outcome
  published : Bool := false
  pc : Nat → Pc
  outer : Option OuterRes := none
  nxt : Slot := Slot.null        -- `_next` of the adapter's awaiter node = expected value of its next subscribing CAS
  -- ghost: construction of the awaited operation (`Awt awt(args...)` in the helper's body / `_fut << fn`)
  tmpLive : Bool := true         -- the caller's full expression (and its temporary arguments) is still alive
  built : Bool := false          -- the awaited operation has been constructed
  builtLive : Bool := true       -- ... from argument storage that was alive at that moment
  -- ghost
  tok : Tok
  calls : Nat := 0
  saw : List Obs := []
  convIn : List (Option Nat) := []
  outerSets : Nat := 0
  allocs : Nat := 0
  frees : Nat := 0
  wins : Nat
  winner : Option Win

def upd {α} (f : Nat → α) (i : Nat) (v : α) : Nat → α := fun j => if j = i then v else f j

@[simp] theorem upd_same {α} (f : Nat → α) (i : Nat) (v : α) : upd f i v i = v := by simp [upd]
@[simp] theorem upd_other {α} (f : Nat → α) (i j : Nat) (v : α) (h : j ≠ i) : upd f i v j = f j := by
  simp [upd, h]

def initPc (c : Cfg) (i : Nat) : Pc :=
  if i = 0 then Pc.gStart
  else match c.rk i with
    | some _ => Pc.rArrive
    | none => Pc.dArrive

/-- initial state of one awaited operation; `nx` is the `_next` link the adapter's awaiter node carries over from the
previous operation on the same helper object (`future_conv`, `call_fn_future_awaiter` are re-armed with `<<`) -/
def initWith (c : Cfg) (nx : Slot) : State :=
  { owner := c.pre.isNone
    nxt := nx
    slot := if c.pre.isSome then Slot.ready else Slot.null
    payload := match c.pre with | some k => k.payload | none => Outcome.none
    pc := fun i => if i < c.n then initPc c i else Pc.done
    tok := Tok.agent 0
    wins := if c.pre.isSome then 1 else 0
    winner := if c.pre.isSome then some Win.factory else none }

/-- first operation on a helper object: the node's `_next` is null -/
def init (c : Cfg) : State := initWith c Slot.null

/-- does the adapter own a heap / storage block -/
def Adapter.allocates : Adapter → Bool
  | Adapter.cbAwait => true
  | Adapter.mkProm => true
  | Adapter.discard => true
  | Adapter.mkCb => true
  | _ => false

/-- does the completion read the result (`value()`), which costs a `pending()` load when there is no value -/
def readsValue (c : Cfg) : Bool :=
  match c.adapter with
  | Adapter.discard => false
  | Adapter.conv => c.convReads
  | _ => true

/-- operations on the slot a completion performs before its final plain segment -/
def nloads (c : Cfg) (p : Outcome) : Nat :=
  (if c.adapter = Adapter.conv ∧ c.convReads = true then 1 else 0) +
  (if readsValue c = true ∧ p = Outcome.none then 1 else 0)

/-- the payload agent `t` supplies when it wins the promise -/
def payloadOf (c : Cfg) (t : Nat) : Outcome :=
  if t = 0 then (match c.selfRes with | some k => k.payload | none => Outcome.none)
  else (match c.rk t with | some k => k.payload | none => Outcome.none)

/-- argument handed to the converter, if it is invoked at all -/
def convArg (c : Cfg) (p : Outcome) : Option (Option Nat) :=
  if c.convReads = false then some none
  else match p with
    | Outcome.val v => some (if c.srcVoid then none else some v)
    | _ => none

/-- what the outer future of a converter ends up with -/
def convRes (c : Cfg) (p : Outcome) : OuterRes :=
  match convArg c p with
  | some a =>
      (match c.cvb with
       | ConvB.ret => OuterRes.val (c.cvf a)
       | ConvB.throw e => OuterRes.exc e
       | ConvB.leave => OuterRes.noValue)
  | none =>
      (match p with
       | Outcome.exc e => OuterRes.exc e
       | _ => OuterRes.canceledExc)

def setPc (s : State) (t : Nat) (p : Pc) : State := { s with pc := upd s.pc t p }

/-- every promise invocation has returned and the promise exists: `~promise` may run -/
def dtorReady (c : Cfg) (s : State) : Bool :=
  s.published &&
  ((List.range c.n).all fun i =>
    if i = 0 then (c.selfRes.isNone || s.pc 0 == Pc.done)
    else match c.rk i with
      | some _ => s.pc i == Pc.done
      | none => true)

def enabled (c : Cfg) (s : State) (t : Nat) : Bool :=
  match s.pc t with
  | Pc.done => false
  | Pc.rBlocked => s.published
  | Pc.dBlocked => dtorReady c s
  | _ => true

/-- `promise::claim()`: exchange on the owner -/
def claimStep (s : State) (t : Nat) : State × List Ev :=
  if s.owner then
    ({ setPc s t (Pc.rResolve false) with owner := false, wins := s.wins + 1, winner := some (Win.agent t) },
     [Ev.opXchgOwner t true])
  else (setPc s t Pc.rFinLost, [Ev.opXchgOwner t false])

/-- `~promise`: load of the owner -/
def dtorStep (s : State) (t : Nat) : State × List Ev :=
  if s.owner then
    ({ setPc s t (Pc.rResolve true) with owner := false, wins := s.wins + 1, winner := some (Win.agent t) },
     [Ev.opLoadOwner t true])
  else (setPc s t Pc.dFin, [Ev.opLoadOwner t false])

/-- the registrar returns from the registration: either it invokes the promise itself or its thread ends -/
def contReg (c : Cfg) (s : State) : State × List Ev :=
  match c.selfRes with
  | some _ => claimStep s 0
  | none => (setPc s 0 Pc.done, [Ev.fin 0])

/-- what the callback of `callback_await_coro` is shown: the operation's result, once — whether or not it throws
(`cbThrows`): `delivered` is set before the call, so the `catch (...)` branch (which serves a failed operation) does not
call it again; the callback's own exception ends in `unhandled_exception` of the detached coroutine, which ignores it -/
def cbAwaitSees (_c : Cfg) (p : Outcome) : List Obs := [p.obs]

/-- what the user's callbacks are shown when the completion runs with result `p` -/
def sawOf (c : Cfg) (p : Outcome) : List Obs :=
  match c.adapter with
  | Adapter.cbAwait => cbAwaitSees c p
  | Adapter.mkProm => [p.obs]
  | Adapter.callFn => [p.obs]
  | Adapter.callAwt => [p.obs]
  | Adapter.mkCb => [p.obs]
  | _ => []

/-- the converter invocations of a completion (at most one) with their argument -/
def convInOf (c : Cfg) (p : Outcome) : List (Option Nat) :=
  if c.adapter = Adapter.conv then (convArg c p).toList else []

/-- the final plain segment of a completion: callback(s) / converter + resolution of the outer promise / release of the
helper block, in this order -/
def complete (c : Cfg) (s : State) : State × List Ev :=
  ({ s with calls := s.calls + 1, tok := Tok.used,
            saw := s.saw ++ sawOf c s.payload,
            convIn := s.convIn ++ convInOf c s.payload,
            outer := if c.adapter = Adapter.conv then some (convRes c s.payload) else s.outer,
            outerSets := s.outerSets + (if c.adapter = Adapter.conv then 1 else 0),
            frees := s.frees + (if c.adapter.allocates then 1 else 0) },
   (sawOf c s.payload).map Ev.cb ++ (convInOf c s.payload).map Ev.conv ++ (if c.adapter.allocates then [Ev.free] else []))

/-- a promise invocation / destructor returns (`ret` is the line the harness prints for an invocation's result) -/
def retStep (s : State) (t : Nat) (dt : Bool) : State × List Ev :=
  (setPc s t Pc.done, (if dt then [] else [Ev.ret t true]) ++ [Ev.fin t])

/-- where an agent stands once the completion it ran is over -/
def afterPc : Who → Pc
  | Who.reg => Pc.gParked
  | Who.res => Pc.rRet false
  | Who.dt => Pc.rRet true

/-- the agent that holds the completion runs it; after the final plain segment the thread simply carries on to its next
operation (the registrar returns from the registration, an invocation returns `true`) within the same step -/
def compStep (c : Cfg) (s : State) (t : Nat) (k : Nat) (w : Who) : State × List Ev :=
  match k with
  | k + 1 => (setPc s t (Pc.comp k w), [Ev.opLoadSlot t Slot.ready])
  | 0 =>
    let r := complete c s
    let s1 := setPc r.1 t (afterPc w)
    let r2 := match w with
      | Who.reg => contReg c s1
      | Who.res => retStep s1 t false
      | Who.dt => retStep s1 t true
    (r2.1, r.2 ++ r2.2)

/-- the subscribing CAS of the registrar (`subscribe_check_ready`): expected value = the node's `_next`.  Success links
the node in; a failure stores the observed head into `_next`; on seeing "ready" the node is unlinked again
(`_next = nullptr`) and the subscription is refused, otherwise the CAS is retried -/
def casStep (c : Cfg) (s : State) : State × List Ev :=
  if s.slot = s.nxt then
    ({ setPc s 0 Pc.gParked with slot := Slot.node, tok := Tok.slot }, [Ev.opCas 0 true s.slot])
  else if s.slot = Slot.ready then
    ({ setPc s 0 (Pc.comp (nloads c s.payload) Who.reg) with nxt := Slot.null }, [Ev.opCas 0 false Slot.ready])
  else ({ setPc s 0 Pc.gCas with nxt := s.slot }, [Ev.opCas 0 false s.slot])

/-- the helper coroutine of `callback_await` does not start inside the call when the calling thread has an active
coroutine queue: `detach()`'s suspend point only queues it, it starts once the caller suspended / finished -/
def deferred (c : Cfg) : Bool := c.inCoro && decide (c.adapter = Adapter.cbAwait)

/-- is the storage the awaited operation is constructed from alive at that moment?  `callback_await_coro` takes its
arguments by value: the coroutine frame (allocated in this very segment, released only after the completion) owns copies.
With references in the frame (`argsByRef`, not the code) it would be the caller's temporaries, which are gone when the
start was deferred.  The other adapters construct the operation inside the caller's full expression. -/
def argStorageLive (c : Cfg) (s : State) : Bool :=
  if c.adapter = Adapter.cbAwait then
    (if c.argsByRef then !deferred c else decide (s.frees < s.allocs + 1))
  else true

/-- the plain prefix of the registration: helper allocation, (deferred start: the caller carries on first,) construction
of the awaited operation = factory call (the promise becomes available) -/
def prep (c : Cfg) (s : State) : State :=
  { s with published := true, allocs := s.allocs + (if c.adapter.allocates then 1 else 0),
           -- a freshly allocated helper has a fresh awaiter node; the member-object adapters re-use theirs
           nxt := if c.adapter.allocates then Slot.null else s.nxt,
           tmpLive := !deferred c, built := true, builtLive := argStorageLive c s }

/-- plain events of the registrar's first segment, in program order -/
def prepEvs (c : Cfg) (s : State) : List Ev :=
  (if c.adapter.allocates then [Ev.alloc] else []) ++ (if deferred c then [Ev.callerCont] else [])
    ++ (if argStorageLive c s then [] else [Ev.deadArg])

/-- first step of the registrar: `prep`, then the first operation on a shared atomic.  `callback_await` asks `ready()`
first, and so does the hand-driven `call_fn_awaiter`; `make_promise` pre-loads the slot with its own node and touches
nothing shared; the others (`future_with_cb::operator<<` among them: the registration it took out of its own, not yet
shared slot is private) subscribe at once.

`callback_await` whose awaited operation throws at its start (`startThrew`; the operation is over, `slot = ready` and
`payload` = that exception stand for its outcome, no future exists): the awaitable is constructed inside the helper's try
block, so the catch branch runs the completion — callback with the exceptional state, then the frame is released — within
this same segment, without any operation on a shared atomic. -/
def startStep (c : Cfg) (s : State) : State × List Ev :=
  let evs := prepEvs c s
  match c.adapter with
  | Adapter.cbAwait =>
      (match s.slot with
       | Slot.ready =>
           if c.startThrew then
             let r := compStep c (setPc (prep c s) 0 (Pc.comp 0 Who.reg)) 0 0 Who.reg
             (r.1, evs ++ r.2)
           else (setPc (prep c s) 0 (Pc.comp (nloads c s.payload) Who.reg), evs ++ [Ev.opLoadSlot 0 Slot.ready])
       | sl => (setPc (prep c s) 0 Pc.gCas, evs ++ [Ev.opLoadSlot 0 sl]))
  | Adapter.callAwt =>
      (match s.slot with
       | Slot.ready => (setPc (prep c s) 0 (Pc.comp (nloads c s.payload) Who.reg), evs ++ [Ev.opLoadSlot 0 Slot.ready])
       | sl => (setPc (prep c s) 0 Pc.gCas, evs ++ [Ev.opLoadSlot 0 sl]))
  | Adapter.mkProm =>
      let r := contReg c (setPc { prep c s with slot := Slot.node, tok := Tok.slot } 0 Pc.gParked)
      (r.1, evs ++ r.2)
  | _ =>
      let r := casStep c (setPc (prep c s) 0 Pc.gCas)
      (r.1, evs ++ r.2)

/-- `future::set` + `resolve()`: the exchange on the slot -/
def resolveStep (c : Cfg) (s : State) (t : Nat) (dt : Bool) : State × List Ev :=
  let pay := if dt then s.payload else payloadOf c t
  match s.slot with
  | Slot.node =>
      ({ setPc s t (Pc.comp (nloads c pay) (if dt then Who.dt else Who.res)) with
          payload := pay, slot := Slot.ready, tok := Tok.agent t, nxt := Slot.null },   -- walker: `y->_next = nullptr`
       [Ev.opXchgSlot t Slot.node])
  | sl => ({ setPc s t (Pc.rRet dt) with payload := pay, slot := Slot.ready }, [Ev.opXchgSlot t sl])

/-- one micro-step of agent `t` -/
def astep (c : Cfg) (s : State) (t : Nat) : State × List Ev :=
  match s.pc t with
  | Pc.done => (s, [])
  | Pc.gStart => startStep c s
  | Pc.gCas => casStep c s
  | Pc.gParked => contReg c s
  | Pc.rArrive => if s.published then claimStep s t else (setPc s t Pc.rBlocked, [Ev.rBlock t])
  | Pc.rBlocked => claimStep s t
  | Pc.rFinLost => (setPc s t Pc.done, [Ev.ret t false, Ev.fin t])
  | Pc.rResolve dt => resolveStep c s t dt
  | Pc.rRet dt => retStep s t dt
  | Pc.dArrive => if dtorReady c s then dtorStep s t else (setPc s t Pc.dBlocked, [Ev.dBlock t])
  | Pc.dBlocked => dtorStep s t
  | Pc.dFin => (setPc s t Pc.done, [Ev.fin t])
  | Pc.comp k w => compStep c s t k w

/-- run a schedule of agent ids (an entry naming a disabled agent is a stutter here; the driver implements the
harness's fall-through rule on top) -/
def run (c : Cfg) (s : State) (sched : List Nat) : State :=
  sched.foldl (fun s t => if enabled c s t then (astep c s t).1 else s) s

def allDone (c : Cfg) (s : State) : Bool := (List.range c.n).all fun i => s.pc i == Pc.done

/-! ## The pinned code (AS-IS): the three behaviours repaired in /repo by `fix:` commits

`astepAsIs` is `astep` with the three segments below in place of the repaired ones; everything else is unchanged. -/

/-- AS-IS, before /repo 963fa92 "callback_await called the callback a second time when it threw": the callback was invoked
inside the try block that guards the `co_await`, so when it threw while holding a *value* the coroutine's `catch (...)` —
meant for a failed operation — called it again, with an exceptional state carrying the callback's own exception (a throw
from inside the catch block escapes into `unhandled_exception`, which ignores it) -/
def cbAwaitSeesAsIs (c : Cfg) (p : Outcome) : List Obs :=
  match c.cbThrows, p with
  | some e, Outcome.val v => [Obs.val v, Obs.exc e]
  | _, _ => [p.obs]

def sawOfAsIs (c : Cfg) (p : Outcome) : List Obs :=
  match c.adapter with
  | Adapter.cbAwait => cbAwaitSeesAsIs c p
  | _ => sawOf c p

/-- AS-IS (before 963fa92): the final plain segment of a completion -/
def completeAsIs (c : Cfg) (s : State) : State × List Ev :=
  ({ s with calls := s.calls + 1, tok := Tok.used,
            saw := s.saw ++ sawOfAsIs c s.payload,
            convIn := s.convIn ++ convInOf c s.payload,
            outer := if c.adapter = Adapter.conv then some (convRes c s.payload) else s.outer,
            outerSets := s.outerSets + (if c.adapter = Adapter.conv then 1 else 0),
            frees := s.frees + (if c.adapter.allocates then 1 else 0) },
   (sawOfAsIs c s.payload).map Ev.cb ++ (convInOf c s.payload).map Ev.conv ++ (if c.adapter.allocates then [Ev.free] else []))

def compStepAsIs (c : Cfg) (s : State) (t : Nat) (k : Nat) (w : Who) : State × List Ev :=
  match k with
  | k + 1 => (setPc s t (Pc.comp k w), [Ev.opLoadSlot t Slot.ready])
  | 0 =>
    let r := completeAsIs c s
    let s1 := setPc r.1 t (afterPc w)
    let r2 := match w with
      | Who.reg => contReg c s1
      | Who.res => retStep s1 t false
      | Who.dt => retStep s1 t true
    (r2.1, r.2 ++ r2.2)

/-- AS-IS, before /repo 42a8746 "callback_await lost the completion when starting the awaited operation threw": the
awaitable was constructed *outside* of the helper's try block.  The exception left the coroutine body, went to
`unhandled_exception` of a coroutine without future (dropped), the frame was released at the final suspend point and the
registration returned normally: the callback is never called and nobody holds the completion any more.  (With assertions
enabled the half-constructed `future` additionally tripped "Destroy of pending future" while the exception propagated.) -/
def startThrowsAsIs (c : Cfg) (s : State) : State × List Ev :=
  let r := contReg c (setPc { prep c s with frees := s.frees + 1 } 0 Pc.gParked)
  (r.1, prepEvs c s ++ [Ev.free] ++ r.2)

/-- AS-IS, before /repo edcba93 "future_with_cb::operator<< lost the callback": the operator only forwarded to
`future<T>::operator<<`, which destroys the future and constructs the factory's result over it — the registration the
constructor had pre-loaded (`_awaiter = this`) was overwritten and nothing subscribed again.  The registrar touches no
shared atomic and returns; whoever resolves the operation finds no awaiter: the callback is never called and the object
never released.  (With assertions enabled "Destroy of pending future" fired at the first use.) -/
def lshiftAsIs (c : Cfg) (s : State) : State × List Ev :=
  let r := contReg c (setPc (prep c s) 0 Pc.gParked)
  (r.1, prepEvs c s ++ r.2)

def startStepAsIs (c : Cfg) (s : State) : State × List Ev :=
  match c.adapter with
  | Adapter.cbAwait => if c.startThrew ∧ s.slot = Slot.ready then startThrowsAsIs c s else startStep c s
  | Adapter.mkCb => lshiftAsIs c s
  | _ => startStep c s

/-- one micro-step of agent `t` on the pinned code -/
def astepAsIs (c : Cfg) (s : State) (t : Nat) : State × List Ev :=
  match s.pc t with
  | Pc.gStart => startStepAsIs c s
  | Pc.comp k w => compStepAsIs c s t k w
  | _ => astep c s t

def runAsIs (c : Cfg) (s : State) (sched : List Nat) : State :=
  sched.foldl (fun s t => if enabled c s t then (astepAsIs c s t).1 else s) s

/-- one awaited operation on a helper object: its configuration and the schedule it runs under -/
structure OpRun where
  c : Cfg
  sched : List Nat

/-- successive operations on one helper object (`future_conv` / `call_fn_future_awaiter` re-armed with `<<`): each
operation has its own source future, promise, agents and ghost counters, and starts with the `_next` link the previous
operation left in the adapter's awaiter node; returns the final state of every operation -/
def runOps : Slot → List OpRun → List State
  | _, [] => []
  | nx, o :: rest => (run o.c (initWith o.c nx) o.sched) :: runOps (run o.c (initWith o.c nx) o.sched).nxt rest

/-! ## How the operation's value is stored in the source future and read back by the adapter

The machines above carry the operation's outcome as `payload` (`val v`).  Below that abstraction the adapter's
`future<T>` may have been constructed *in place* from a `future<T&>` returned by the source factory (`ReturnsFuture`
admits it): both share one layout, and the state tag decides how `future<T>::value()` reads the union. -/

inductive FState where
  | notValue | value | valueRef | exception
  deriving DecidableEq, Repr, Inhabited

inductive SrcFlavour where
  | byValue        -- the factory returns a `future<T>`
  | refPromise     -- a `future<T&>` resolved through its promise (`future::set_ref`)
  | refStatic      -- an already resolved `future<T&>::set_value(x)` (`__SetReferenceTag` constructor)
  deriving DecidableEq, Repr, Inhabited

/-- the state tag a source holding a value ends up with; `asIs` = the pinned `__SetReferenceTag` constructor, which
stored the address under `State::value` -/
def storedState (asIs : Bool) : SrcFlavour → FState
  | SrcFlavour.byValue => FState.value
  | SrcFlavour.refPromise => FState.valueRef
  | SrcFlavour.refStatic => if asIs then FState.value else FState.valueRef

/-- `future<T>::value()` on the adapter's future: `v` = the operation's value, `a` = the bits of the address of the cell a
reference source refers to.  `State::value` reads the union as an inline `T` (for a reference source those are the
pointer bits), `State::value_ref` dereferences the stored pointer. -/
def readBack (fl : SrcFlavour) (st : FState) (v a : Nat) : Option Nat :=
  match st with
  | FState.value => some (match fl with | SrcFlavour.byValue => v | _ => a)
  | FState.valueRef => some v
  | _ => none

end Cocls.Callback
