/-
Micro-step model of `cocls::thread_pool` (thread_pool.h; the job closure type of function.h only matters through
*when the closure is destroyed*).

Threads `0 .. nw-1` are the pool's workers (`worker()`), threads `nw .. nt-1` are clients running a script of
submissions / `stop()` / destruction.  A unit of work (job) gets its id when it is submitted (`nextJob`); when it runs
on a worker its body may itself call `stop()`, submit nested work, or delete the pool.

One small step = one piece of straight-line code of one thread; its `Outcome` says whether the piece ended with a
synchronising operation of the harness (`op`: end of a critical section on `_mx`, a join), blocked the thread, finished
it, or goes on (`cont`).  `threadStep` (below) runs small steps up to the next scheduling point, which is exactly one
step of a thread under the baton scheduler of `harness/h_pool.cpp`.  Critical sections on `_mx` are atomic steps
(mutual exclusion) with one exception: a worker whose wait predicate was false keeps the mutex across a step boundary
(`Pc.wCvEnter`: inside `_cond.wait`, not yet registered); `State.mx` is the owner, a thread that wants the mutex then
blocks in `lock()`.  An optional second pool instance B (`Cfg.hasB`, one worker, never a submission) can be stopped or
destroyed by clients and by jobs of A.

The model follows the code as it is, including the three repairs (`Cfg.raOwns`, `Cfg.dtorOutside`, `Cfg.curNullOk`); with
the flags off it is the pinned code (witness theorems in `Props/C11.lean`).

Ghost fields (`ran dropped cancelled valued lost ranOn owner loc deferOn detached awake`) are never consulted by control flow.
-/
namespace Cocls.Pool

inductive Kind where
  | co    -- coroutine doing `co_await pool` (closure owns the awaiter through a unique_ptr whose deleter resumes it)
  | fn    -- `run(fn)`: closure owns fn and the promise
  | det   -- `run_detached(fn)`
  | rh    -- `resume(suspend_point)`: closure holds a bare coroutine handle
  | ra    -- `run(async<T>)`
  | aw    -- `co_await pool(awaitable)`: bare handle, enqueued by whoever resolves the awaitable
  deriving DecidableEq, Repr, Inhabited

/-- what the body of a unit of work does when it runs -/
inductive Prim where
  | stop | subFn | subDet | destroy
  | wait (f : Nat)   -- block (user-level, e.g. on another job's future) until event `f` has been signalled
  | set (f : Nat)    -- signal event `f`
  | curStopped       -- `thread_pool::current::is_stopped()`
  | curEnq           -- `thread_pool::current::any_enqueued()`
  | resub            -- `co_await thread_pool::current()`: the rest of the body is handed to the pool of this worker thread
  | stopB | destroyB -- `stop()` / delete of the *other* pool instance B (see `Cfg.hasB`)
  | resolveNow (n : Nat)   -- resolve the operation a coroutine parked in slot `n` awaits through `pool(awaitable)` (see `Act.park`)
  | throw_           -- not an action of the body either: the function given to `run(fn)` ends by throwing; `run`'s closure
                     -- catches it and resolves the promise with the exception (the future is resolved by the job all the same)
  | react            -- not an action of the body: when the job is *cancelled*, whoever observes it (the coroutine's handler,
                     -- the closure's destructor, the future's watcher) calls back into the pool (`is_stopped()`)
  deriving DecidableEq, Repr, Inhabited

inductive Act where
  | submit (k : Kind) (body : List Prim) (killer : Bool)   -- killer: the destructor of the closure that ran deletes the pool
  | stop
  | destroy
  | wait (f : Nat)
  | set (f : Nat)
  | nop
  | stopB
  | destroyB
  | curStopped
  | curEnq
  | resub
  | park (n : Nat) (body : List Prim)   -- a coroutine does `co_await pool(awaitable)` on a pending operation (slot `n`): it is
                                        -- handed to the pool later, by whoever resolves the operation
  | resolveNow (n : Nat)
  | setHandle (n : Nat)                 -- (seeded order only) `set_handle(h)` after the registration
  deriving DecidableEq, Repr, Inhabited

def Prim.toAct : Prim → Act
  | Prim.stop => Act.stop
  | Prim.subFn => Act.submit Kind.fn [] false
  | Prim.subDet => Act.submit Kind.det [] false
  | Prim.destroy => Act.destroy
  | Prim.wait f => Act.wait f
  | Prim.set f => Act.set f
  | Prim.react => Act.nop
  | Prim.throw_ => Act.nop
  | Prim.resolveNow n => Act.resolveNow n
  | Prim.stopB => Act.stopB
  | Prim.destroyB => Act.destroyB
  | Prim.curStopped => Act.curStopped
  | Prim.curEnq => Act.curEnq
  | Prim.resub => Act.resub

structure Cfg where
  nw : Nat                       -- worker threads 0..nw-1
  nt : Nat                       -- all threads
  script : Nat → List Act        -- client scripts
  raOwns : Bool := true          -- run(async) submits a closure that owns the coroutine and the promise (repaired code)
  dtorOutside : Bool := true     -- worker() destroys the closure it ran before re-locking `_mx` (repaired code)
  hasB : Bool := false           -- there is a second pool instance B with one worker (thread `nw`; clients start at `nw+1`).
                                 -- Nothing is ever submitted to B; it is only stopped / destroyed, from clients and from A's jobs:
                                 -- `_current` is ONE thread-local shared by all instances
  awHandleFirst : Bool := true   -- `enqueue_awaiter::await_suspend` stores the coroutine handle before it registers on the awaited
                                 -- operation (the code as it is; `false`: the seeded reordering)
  curNullOk : Bool := true       -- `current_awaiter` does not form a reference from a null `_current` (repaired code)
  cvYield : Bool := false        -- the harness puts a scheduling point at the entry of `_cond.wait` (predicate evaluated,
                                 -- mutex still held, waiter not yet registered); in the model it is a step of its own anyway

inductive Fut where
  | none | pending | value | broken
  deriving DecidableEq, Repr, Inhabited

/-- what destroying a closure that was never invoked does -/
inductive DropAct where
  | resume        -- the awaiting coroutine is resumed and `await_resume` throws `await_canceled_exception`
  | guard         -- the user's closure is destroyed (observable by its captured state)
  | breakPromise  -- the promise is dropped: the future becomes ready without a value
  | nothing       -- a bare coroutine handle: nothing happens, the coroutine is never resumed nor destroyed
  deriving DecidableEq, Repr, Inhabited

def dropKind (c : Cfg) : Kind → DropAct
  | Kind.co => DropAct.resume
  | Kind.fn => DropAct.breakPromise
  | Kind.det => DropAct.guard
  | Kind.ra => if c.raOwns then DropAct.breakPromise else DropAct.nothing
  | Kind.rh => DropAct.nothing
  | Kind.aw => DropAct.nothing

def hasFut : Kind → Bool
  | Kind.fn => true
  | Kind.ra => true
  | _ => false

/-- the body runs inside a coroutine (resumptions requested from it are queued on the thread's ready queue) -/
def coroKind : Kind → Bool
  | Kind.fn => false
  | Kind.det => false
  | _ => true

/-- ghost: where the closure of a job is -/
inductive Loc where
  | fresh                -- id not handed out yet
  | queued               -- in `_queue`
  | held (t : Nat)       -- dequeued by worker t, not yet invoked
  | rejected (t : Nat)   -- refused by `enqueue`, still owned by the submitting thread t
  | swapped (t : Nat)    -- in the local queue of thread t's `stop()`
  | done                 -- invoked, or destroyed without having been invoked
  deriving DecidableEq, Repr, Inhabited

inductive Ret where
  | script     -- a client's script
  | body       -- the body of the job a worker runs
  | dtorA      -- the destructor of the closure that ran (repaired code: before the `_current` check, lock not held)
  | dtorB      -- the same on the `return` path of the pinned code
  deriving DecidableEq, Repr, Inhabited

/-- the three uses of the thread-local "pool of this worker thread" -/
inductive Peek where
  | stopped | enq | resub
  deriving DecidableEq, Repr, Inhabited

inductive Pc where
  | idle                          -- run the next action of the current activity
  | enqCS (j : Nat)               -- the closure of `j` exists, about to lock `_mx` in `enqueue`
  | afterEnq (j : Nat) (acc : Bool)   -- `enqueue` returned (its critical section is over)
  | stopCS (isD : Bool)           -- `stop()` entered, about to lock `_mx`
  | peekCS (k : Peek)             -- `_current` is this pool: about to lock `_mx` in `is_stopped()` / `any_enqueued()`
  | peekDone (k : Peek) (r : Bool)    -- that critical section is over, `r` was read
  | waitFlag (f : Nat)            -- blocked in a user-level wait for event `f`
  | stopJoin                      -- `stop()`: walk the local copy of the thread list
  | joinBlocked                   -- `stop()`: blocked in `join()`
  | stopDrop                      -- `stop()`: destroy the swapped-out queue, return
  | wRelock                       -- `worker()`: about to lock `_mx` (thread start, after a job, waking up in `_cond.wait`)
  | wLoop                         -- `worker()`: holding the lock, evaluate the wait predicate
  | wCvEnter                      -- predicate was false, lock still held, entering `_cond.wait`: not yet registered
  | wCvCheck                      -- inside `_cond.wait`: registered and unlocked
  | wCvBlocked                    -- inside `_cond.wait`: sleeping
  | wRun (j : Nat)                -- dequeued `j`, lock released, about to invoke it
  | wFlush                        -- body returned: flush the coroutine ready queue of this thread
  | wAfterJob                     -- `if (_current == nullptr) return; lk.lock();`
  | wExit                         -- left the loop through `break`, lock released
  | bLoop | bCvCheck | bCvBlocked | bExitPc     -- the worker of pool B (its queue is always empty)
  | bStopCS (isD : Bool) | bStopJoin | bJoinBlocked   -- `B.stop()` / `delete B` by some thread
  | stuck                         -- self-deadlock on `_mx`
  | done
  deriving DecidableEq, Repr, Inhabited

inductive Outcome where
  | op | blocked | finished | cont
  deriving DecidableEq, Repr, Inhabited

inductive Ev where
  | unlock (t : Nat) | cvEnter (t : Nat) | cvBlock (t : Nat) | joinBlock (t u : Nat) | join (t u : Nat) | fin (t : Nat) | lockBlock (t : Nat)
  | submit (j : Nat) (k : Kind) (t : Nat) (ex : Bool)
  | run (j t : Nat) (cur : Bool)
  | cancel (j t : Nat)
  | value (j t : Nat)
  | exc (j t : Nat)      -- the future was seen resolved with the exception the function threw
  | thrown (j t : Nat)   -- the function throws
  | flagBlock (t f : Nat) | flagSet (f t : Nat)
  | park (n t : Nat) | awReg (t n : Nat)
  | curStopped (t : Nat) (r : Bool) | curEnq (t : Nat) (r : Bool) | curInline (t : Nat) | crash (t : Nat)
  | unlockB (t : Nat) | cvBlockB (t : Nat)
  | stopBBegin (t : Nat) | stopBEnd (t : Nat) | destroyBBegin (t : Nat) | destroyedB (t : Nat) | destroyBSkip (t : Nat)
  | stopBegin (t : Nat) | stopEnd (t : Nat) | destroyBegin (t : Nat) | destroyed (t : Nat) | destroySkip (t : Nat)
  deriving DecidableEq, Repr, Inhabited

structure State where
  -- the pool's members
  q : List Nat := []
  exit : Bool := false
  threads : List Nat
  waitq : List Nat := []             -- condition variable: registered, not yet notified (arrival order)
  woken : Nat → Bool := fun _ => false
  cur : Nat → Bool                   -- thread-local `_current == this`
  destroyed : Bool := false
  mx : Option Nat := none            -- owner of `_mx` between two steps (only a worker inside its loop head keeps it)
  lockWait : Nat → Bool := fun _ => false   -- the thread found `_mx` taken and is blocked in `lock()`
  flag : Nat → Bool := fun _ => false   -- user-level events (not part of the pool)
  -- coroutines parked in `co_await pool(awaitable)`
  slotReg : Nat → Bool := fun _ => false      -- the awaiter is registered on the awaited operation (a resolution wakes it)
  slotHandle : Nat → Bool := fun _ => false   -- `set_handle(h)` done: a wake-up finds the coroutine
  slotBody : Nat → List Prim := fun _ => []
  slotUsed : Nat → Bool := fun _ => false
  -- pool B
  bw : Nat                           -- B's worker thread
  bExit : Bool := false
  bWoken : Bool := false
  bHasThread : Bool                  -- `B._threads` still holds its worker
  bDestroyed : Bool := false
  btmp : Nat → Bool := fun _ => false    -- `B.stop()` of this thread has B's worker in its local list
  bdtor : Nat → Bool := fun _ => false
  -- threads
  pc : Nat → Pc
  todo : Nat → List Act
  ret : Nat → Ret
  job : Nat → Option Nat := fun _ => none
  tmp : Nat → List Nat := fun _ => []     -- stop(): `tmp`, the part not yet processed
  dq : Nat → List Nat := fun _ => []      -- stop(): `q`
  dtor : Nat → Bool := fun _ => false     -- the stop() in progress is the destructor's
  defer : Nat → List Nat := fun _ => []   -- cancelled coroutines waiting in this thread's ready queue
  -- job table
  nextJob : Nat := 0
  kind : Nat → Kind := fun _ => Kind.det
  body : Nat → List Prim := fun _ => []
  acts : Nat → List Act := fun _ => []     -- what the unit of work does when it runs (its body, or the rest of a body that was re-submitted)
  killer : Nat → Bool := fun _ => false
  fut : Nat → Fut := fun _ => Fut.none
  armed : Nat → Bool := fun _ => false     -- the caller of run() has started watching the returned future
  -- ghost
  ran : Nat → Nat := fun _ => 0
  dropped : Nat → Nat := fun _ => 0        -- closure destroyed without having been invoked
  cancelled : Nat → Nat := fun _ => 0      -- cancellation observed (coroutine saw the exception / closure state destroyed / future seen broken)
  valued : Nat → Nat := fun _ => 0         -- value of the future observed
  lost : Nat → Nat := fun _ => 0           -- dropped without any observable effect
  ranOn : Nat → Option Nat := fun _ => none
  owner : Nat → Nat := fun _ => 0
  loc : Nat → Loc := fun _ => Loc.fresh
  deferOn : Nat → Option Nat := fun _ => none
  detached : Nat → Bool := fun _ => false
  awake : List Nat                         -- workers that will look at the queue before they sleep: notified or at the loop head
  touchedAfterDetach : Bool := false       -- a worker executed loop code on the pool after detaching itself

def upd {α} (f : Nat → α) (i : Nat) (v : α) : Nat → α := fun j => if j = i then v else f j

@[simp] theorem upd_same {α} (f : Nat → α) (i : Nat) (v : α) : upd f i v i = v := by simp [upd]
@[simp] theorem upd_other {α} (f : Nat → α) (i j : Nat) (v : α) (h : j ≠ i) : upd f i v j = f j := by
  simp [upd, h]
theorem upd_apply {α} (f : Nat → α) (i j : Nat) (v : α) : upd f i v j = if j = i then v else f j := rfl

def init (c : Cfg) : State :=
  { threads := List.range c.nw,
    awake := List.range c.nw,
    bw := c.nw,
    bHasThread := c.hasB,
    cur := fun t => decide (t < c.nw),
    pc := fun t => if t < c.nw then Pc.wRelock else if t < c.nt then (if c.hasB ∧ t = c.nw then Pc.bLoop else Pc.idle)
                   else Pc.done,
    todo := fun t => if c.nw ≤ t ∧ t < c.nt ∧ ¬ (c.hasB ∧ t = c.nw) then c.script t else [],
    ret := fun t => if t < c.nw then Ret.body else Ret.script }

def setPc (s : State) (t : Nat) (p : Pc) : State := { s with pc := upd s.pc t p }

def inCoro (s : State) (t : Nat) : Bool :=
  match s.job t with
  | some j => s.ret t == Ret.body && coroKind (s.kind j)
  | none => false

/-- `_cond.notify_one()`: one registered waiter (the `k`-th, cyclically; the harness's condition variable takes the
oldest, `k = 0`) is notified -/
def notifyOne (s : State) (k : Nat) : State :=
  match s.waitq[k % s.waitq.length]? with
  | none => s
  | some w => { s with waitq := s.waitq.erase w, woken := upd s.woken w true, awake := w :: s.awake }

/-- the cancellation of job `j` is observed on thread `t`; a reacting job then calls `pool.is_stopped()`: one more
critical section (nothing but its lock/unlock is visible) -/
def cancelEv (s : State) (t j : Nat) : List Ev :=
  if (s.body j).contains Prim.react && !s.destroyed then [Ev.cancel j t, Ev.unlock t] else [Ev.cancel j t]

/-- a small step whose events contain a critical section ends at a scheduling point -/
def outOf (evs : List Ev) (t : Nat) : Outcome := if evs.contains (Ev.unlock t) then Outcome.op else Outcome.cont

/-- the closure of job `j` is destroyed on thread `t` without having been invoked -/
def dropJob (c : Cfg) (s : State) (t j : Nat) : State × List Ev :=
  match dropKind c (s.kind j) with
  | DropAct.resume =>
      if inCoro s t then
        ({ s with dropped := upd s.dropped j (s.dropped j + 1), loc := upd s.loc j Loc.done,
                  defer := upd s.defer t (s.defer t ++ [j]), deferOn := upd s.deferOn j (some t) }, [])
      else
        ({ s with dropped := upd s.dropped j (s.dropped j + 1), loc := upd s.loc j Loc.done,
                  cancelled := upd s.cancelled j (s.cancelled j + 1) }, cancelEv s t j)
  | DropAct.guard =>
      ({ s with dropped := upd s.dropped j (s.dropped j + 1), loc := upd s.loc j Loc.done,
                cancelled := upd s.cancelled j (s.cancelled j + 1) }, cancelEv s t j)
  | DropAct.breakPromise =>
      if s.armed j then
        ({ s with dropped := upd s.dropped j (s.dropped j + 1), loc := upd s.loc j Loc.done,
                  fut := upd s.fut j Fut.broken, cancelled := upd s.cancelled j (s.cancelled j + 1) }, cancelEv s t j)
      else
        ({ s with dropped := upd s.dropped j (s.dropped j + 1), loc := upd s.loc j Loc.done,
                  fut := upd s.fut j Fut.broken }, [])
  | DropAct.nothing =>
      ({ s with dropped := upd s.dropped j (s.dropped j + 1), loc := upd s.loc j Loc.done,
                lost := upd s.lost j (s.lost j + 1) }, [])

/-- what the watcher of the future of job `j` sees once the job has resolved it -/
def valueEv (s : State) (t j : Nat) : List Ev :=
  if (s.body j).contains Prim.throw_ then [Ev.exc j t] else [Ev.value j t]

def thrownEv (s : State) (t j : Nat) : List Ev :=
  if (s.body j).contains Prim.throw_ then [Ev.thrown j t] else []

/-- the caller of `run()` got the future and starts watching it -/
def arm (s : State) (t j : Nat) : State × List Ev :=
  match s.fut j with
  | Fut.value => ({ s with armed := upd s.armed j true, valued := upd s.valued j (s.valued j + 1) }, valueEv s t j)
  | Fut.broken => ({ s with armed := upd s.armed j true, cancelled := upd s.cancelled j (s.cancelled j + 1) }, cancelEv s t j)
  | _ => ({ s with armed := upd s.armed j true }, [])

/-- the job table entry of a new submission and the submitter's program counter -/
def newJob (s : State) (t : Nat) (kd : Kind) (bd : List Prim) (ac : List Act) (kl : Bool) (rest : List Act) : State :=
  { s with nextJob := s.nextJob + 1, kind := upd s.kind s.nextJob kd, body := upd s.body s.nextJob bd,
           acts := upd s.acts s.nextJob ac,
           killer := upd s.killer s.nextJob kl, owner := upd s.owner s.nextJob t,
           fut := upd s.fut s.nextJob (if hasFut kd then Fut.pending else Fut.none),
           todo := upd s.todo t rest, pc := upd s.pc t (Pc.enqCS s.nextJob),
           loc := upd s.loc s.nextJob (Loc.rejected t) }

/-- a submission, first part: the closure is built (a coroutine runs up to its `co_await`, a future is created ...) -/
def stepSubmit (s : State) (t : Nat) (kd : Kind) (bd : List Prim) (kl : Bool) (rest : List Act) :
    State × List Ev × Outcome :=
  (newJob s t kd bd (bd.map Prim.toAct) kl rest, [Ev.submit s.nextJob kd t s.exit], Outcome.cont)

/-- a submission, second part: the critical section of `enqueue` -/
def stepEnqCS (s : State) (t k j : Nat) : State × List Ev × Outcome :=
  if s.exit then (setPc s t (Pc.afterEnq j false), [Ev.unlock t], Outcome.op)
  else
    (notifyOne { s with pc := upd s.pc t (Pc.afterEnq j true), loc := upd s.loc j Loc.queued, q := s.q ++ [j] } k,
     [Ev.unlock t], Outcome.op)

/-- `stop()` / `~thread_pool()` entered -/
def stepStopBegin (s : State) (t : Nat) (rest : List Act) (isD : Bool) : State × List Ev × Outcome :=
  ({ s with todo := upd s.todo t rest, pc := upd s.pc t (Pc.stopCS isD) },
   [if isD then Ev.destroyBegin t else Ev.stopBegin t], Outcome.cont)

/-- the critical section of `stop()` -/
def stepStopCS (s : State) (t : Nat) (isD : Bool) : State × List Ev × Outcome :=
  ({ s with exit := true, woken := fun w => s.woken w || s.waitq.contains w, waitq := [],
            tmp := upd s.tmp t s.threads, threads := [], dq := upd s.dq t s.q, q := [],
            loc := fun j => if s.q.contains j then Loc.swapped t else s.loc j,
            dtor := upd s.dtor t isD, pc := upd s.pc t Pc.stopJoin },
   [Ev.unlock t], Outcome.op)

def stepFin (s : State) (t : Nat) : State × List Ev × Outcome :=
  (setPc s t Pc.done, [Ev.fin t], Outcome.finished)

/-- the body of the job returned: resolve its future -/
def stepBodyEnd (s : State) (t : Nat) : State × List Ev × Outcome :=
  match s.job t with
  | none => (setPc s t Pc.wFlush, [], Outcome.cont)
  | some j =>
    if hasFut (s.kind j) && s.fut j == Fut.pending then
      if s.armed j then
        ({ s with fut := upd s.fut j Fut.value, valued := upd s.valued j (s.valued j + 1), pc := upd s.pc t Pc.wFlush },
         thrownEv s t j ++ valueEv s t j, Outcome.cont)
      else ({ s with fut := upd s.fut j Fut.value, pc := upd s.pc t Pc.wFlush }, thrownEv s t j, Outcome.cont)
    else (setPc s t Pc.wFlush, [], Outcome.cont)

def stepIdle (c : Cfg) (s : State) (t : Nat) : State × List Ev × Outcome :=
  match s.todo t with
  | [] =>
    match s.ret t with
    | Ret.script => stepFin s t
    | Ret.body => stepBodyEnd s t
    | Ret.dtorA => (setPc s t Pc.wAfterJob, [], Outcome.cont)
    | Ret.dtorB => stepFin s t
  | Act.submit kd bd kl :: rest => stepSubmit s t kd bd kl rest
  | Act.stop :: rest => stepStopBegin s t rest false
  | Act.destroy :: rest =>
      if s.destroyed then ({ s with todo := upd s.todo t rest }, [Ev.destroySkip t], Outcome.cont)
      else stepStopBegin s t rest true
  | Act.wait f :: rest =>
      if s.flag f then ({ s with todo := upd s.todo t rest }, [], Outcome.cont)
      else ({ s with todo := upd s.todo t rest, pc := upd s.pc t (Pc.waitFlag f) }, [Ev.flagBlock t f], Outcome.blocked)
  | Act.set f :: rest =>
      ({ s with todo := upd s.todo t rest, flag := upd s.flag f true }, [Ev.flagSet f t], Outcome.cont)
  | Act.nop :: rest => ({ s with todo := upd s.todo t rest }, [], Outcome.cont)
  | Act.curStopped :: rest =>
      if s.cur t then ({ s with todo := upd s.todo t rest, pc := upd s.pc t (Pc.peekCS Peek.stopped) }, [], Outcome.cont)
      else ({ s with todo := upd s.todo t rest }, [Ev.curStopped t true], Outcome.cont)
  | Act.curEnq :: rest =>
      if s.cur t then ({ s with todo := upd s.todo t rest, pc := upd s.pc t (Pc.peekCS Peek.enq) }, [], Outcome.cont)
      else ({ s with todo := upd s.todo t rest }, [Ev.curEnq t false], Outcome.cont)
  | Act.resub :: rest =>
      if s.cur t then ({ s with todo := upd s.todo t rest, pc := upd s.pc t (Pc.peekCS Peek.resub) }, [], Outcome.cont)
      else if c.curNullOk then ({ s with todo := upd s.todo t rest }, [Ev.curInline t], Outcome.cont)
      else (setPc s t Pc.stuck, [Ev.crash t], Outcome.blocked)   -- pinned code: reference bound to `*nullptr`
  | Act.park n bd :: rest =>
      -- `flag (10+n)` is the harness's "registered" signal a resolver waits for. The scheduling point is right after the
      -- registration, still inside `await_suspend`
      if c.awHandleFirst then
        ({ s with todo := upd s.todo t rest, slotReg := upd s.slotReg n true, slotHandle := upd s.slotHandle n true,
                  slotBody := upd s.slotBody n bd, flag := upd s.flag (10 + n) true },
         [Ev.park n t, Ev.awReg t n], Outcome.op)
      else
        ({ s with todo := upd s.todo t (Act.setHandle n :: rest), slotReg := upd s.slotReg n true, slotHandle := upd s.slotHandle n false,
                  slotBody := upd s.slotBody n bd, flag := upd s.flag (10 + n) true },
         [Ev.park n t, Ev.awReg t n], Outcome.op)
  | Act.setHandle n :: rest =>
      ({ s with todo := upd s.todo t rest, slotHandle := upd s.slotHandle n true }, [], Outcome.cont)
  | Act.resolveNow n :: rest =>
      if s.slotReg n && !s.slotUsed n then
        if s.slotHandle n then
          -- `perform_resume` -> `pool.resume(suspend_point)`: a closure with the bare handle is submitted by this thread
          (newJob { s with slotUsed := upd s.slotUsed n true } t Kind.aw (s.slotBody n) ((s.slotBody n).map Prim.toAct) false rest,
           [Ev.submit s.nextJob Kind.aw t s.exit], Outcome.cont)
        else
          -- seeded order only: the awaiter still has its default resume function, nothing is submitted, the coroutine is lost
          ({ s with todo := upd s.todo t rest, slotUsed := upd s.slotUsed n true, nextJob := s.nextJob + 1,
                    kind := upd s.kind s.nextJob Kind.aw, lost := upd s.lost s.nextJob (s.lost s.nextJob + 1),
                    loc := upd s.loc s.nextJob Loc.done },
           [Ev.submit s.nextJob Kind.aw t s.exit], Outcome.cont)
      else ({ s with todo := upd s.todo t rest }, [], Outcome.cont)
  | Act.stopB :: rest =>
      ({ s with todo := upd s.todo t rest, pc := upd s.pc t (Pc.bStopCS false) }, [Ev.stopBBegin t], Outcome.cont)
  | Act.destroyB :: rest =>
      if s.bDestroyed then ({ s with todo := upd s.todo t rest }, [Ev.destroyBSkip t], Outcome.cont)
      else ({ s with todo := upd s.todo t rest, pc := upd s.pc t (Pc.bStopCS true) }, [Ev.destroyBBegin t], Outcome.cont)

def stepAfterEnq (c : Cfg) (s : State) (t j : Nat) (acc : Bool) : State × List Ev × Outcome :=
  if acc then
    if hasFut (s.kind j) then ((arm (setPc s t Pc.idle) t j).1, (arm (setPc s t Pc.idle) t j).2,
                               outOf (arm (setPc s t Pc.idle) t j).2 t)
    else (setPc s t Pc.idle, [], Outcome.cont)
  else
    if hasFut (s.kind j) then
      ((arm (dropJob c (setPc s t Pc.idle) t j).1 t j).1,
       (dropJob c (setPc s t Pc.idle) t j).2 ++ (arm (dropJob c (setPc s t Pc.idle) t j).1 t j).2,
       outOf ((dropJob c (setPc s t Pc.idle) t j).2 ++ (arm (dropJob c (setPc s t Pc.idle) t j).1 t j).2) t)
    else ((dropJob c (setPc s t Pc.idle) t j).1, (dropJob c (setPc s t Pc.idle) t j).2,
          outOf (dropJob c (setPc s t Pc.idle) t j).2 t)

def stepStopJoin (s : State) (t : Nat) : State × List Ev × Outcome :=
  match s.tmp t with
  | [] => (setPc s t Pc.stopDrop, [], Outcome.cont)
  | u :: rest =>
    if u = t then
      ({ s with tmp := upd s.tmp t rest, cur := upd s.cur t false, detached := upd s.detached t true }, [], Outcome.cont)
    else if s.pc u = Pc.done then ({ s with tmp := upd s.tmp t rest }, [Ev.join t u], Outcome.op)
    else (setPc s t Pc.joinBlocked, [Ev.joinBlock t u], Outcome.blocked)

def stepJoinBlocked (s : State) (t : Nat) : State × List Ev × Outcome :=
  match s.tmp t with
  | [] => (setPc s t Pc.stopJoin, [], Outcome.cont)
  | u :: rest => ({ s with tmp := upd s.tmp t rest, pc := upd s.pc t Pc.stopJoin }, [Ev.join t u], Outcome.op)

/-- `stop()` returns: its local queue is destroyed. The order in which a `std::deque` destroys its elements is not
specified (libstdc++ destroys the full middle nodes first), so the next closure is the `k`-th remaining one, cyclically -/
def stepStopDrop (c : Cfg) (s : State) (t k : Nat) : State × List Ev × Outcome :=
  match (s.dq t)[k % (s.dq t).length]? with
  | some j => ((dropJob c { s with dq := upd s.dq t ((s.dq t).erase j) } t j).1,
               (dropJob c { s with dq := upd s.dq t ((s.dq t).erase j) } t j).2,
               outOf (dropJob c { s with dq := upd s.dq t ((s.dq t).erase j) } t j).2 t)
  | none =>
    if s.dtor t then
      ({ s with destroyed := true, dtor := upd s.dtor t false, pc := upd s.pc t Pc.idle }, [Ev.destroyed t], Outcome.cont)
    else (setPc s t Pc.idle, [Ev.stopEnd t], Outcome.cont)

def stepWLoop (c : Cfg) (s : State) (t : Nat) : State × List Ev × Outcome :=
  if s.exit then ({ s with pc := upd s.pc t Pc.wExit, mx := none, awake := s.awake.erase t,
                           touchedAfterDetach := s.touchedAfterDetach || s.detached t },
                  [Ev.unlock t], Outcome.op)
  else
    match s.q with
    | j :: rest =>
        ({ s with q := rest, pc := upd s.pc t (Pc.wRun j), loc := upd s.loc j (Loc.held t), mx := none,
                  awake := s.awake.erase t,
                  touchedAfterDetach := s.touchedAfterDetach || s.detached t }, [Ev.unlock t], Outcome.op)
    | [] =>
        -- the predicate is false: `_cond.wait(lk)` is entered with the mutex held
        ({ s with pc := upd s.pc t Pc.wCvEnter, awake := s.awake.erase t,
                  touchedAfterDetach := s.touchedAfterDetach || s.detached t },
         if c.cvYield then [Ev.cvEnter t] else [], if c.cvYield then Outcome.op else Outcome.cont)

/-- `_cond.wait(lk)`: register as a waiter and release the mutex, atomically -/
def stepWCvEnter (s : State) (t : Nat) : State × List Ev × Outcome :=
  ({ s with waitq := s.waitq ++ [t], pc := upd s.pc t Pc.wCvCheck, mx := none }, [Ev.unlock t], Outcome.op)

/-- `lock()` succeeded -/
def stepWRelock (s : State) (t : Nat) : State × List Ev × Outcome :=
  ({ s with pc := upd s.pc t Pc.wLoop, mx := some t }, [], Outcome.cont)

def stepWCvCheck (s : State) (t : Nat) : State × List Ev × Outcome :=
  if s.woken t then ({ s with woken := upd s.woken t false, pc := upd s.pc t Pc.wRelock }, [], Outcome.cont)
  else (setPc s t Pc.wCvBlocked, [Ev.cvBlock t], Outcome.blocked)

def stepWCvBlocked (s : State) (t : Nat) : State × List Ev × Outcome :=
  ({ s with woken := upd s.woken t false, pc := upd s.pc t Pc.wRelock }, [], Outcome.cont)

def stepWRun (s : State) (t j : Nat) : State × List Ev × Outcome :=
  ({ s with ran := upd s.ran j (s.ran j + 1), ranOn := upd s.ranOn j (some t), loc := upd s.loc j Loc.done,
            job := upd s.job t (some j), todo := upd s.todo t (s.acts j), ret := upd s.ret t Ret.body,
            pc := upd s.pc t Pc.idle },
   [Ev.run j t (s.cur t)], Outcome.cont)

def jobKiller (s : State) (t : Nat) : Bool :=
  match s.job t with
  | some j => s.killer j
  | none => false

def stepWFlush (c : Cfg) (s : State) (t : Nat) : State × List Ev × Outcome :=
  match s.defer t with
  | j :: rest =>
      ({ s with defer := upd s.defer t rest, deferOn := upd s.deferOn j none,
                cancelled := upd s.cancelled j (s.cancelled j + 1) }, cancelEv s t j, outOf (cancelEv s t j) t)
  | [] =>
    if c.dtorOutside then
      -- `h` goes out of scope before the `_current` check, lock not held
      if jobKiller s t then ({ s with ret := upd s.ret t Ret.dtorA, todo := upd s.todo t [Act.destroy], pc := upd s.pc t Pc.idle },
                             [], Outcome.cont)
      else ({ s with ret := upd s.ret t Ret.dtorA, pc := upd s.pc t Pc.wAfterJob }, [], Outcome.cont)
    else ({ s with ret := upd s.ret t Ret.dtorB, pc := upd s.pc t Pc.wAfterJob }, [], Outcome.cont)

def stepWAfterJob (c : Cfg) (s : State) (t : Nat) : State × List Ev × Outcome :=
  if s.cur t then
    -- `lk.lock()`, end of the loop body
    if !c.dtorOutside && jobKiller s t && !s.destroyed then
      -- pinned code: the closure is destroyed with `_mx` held; its destructor deletes the pool: `stop()` locks `_mx` again
      (setPc s t Pc.stuck, [Ev.destroyBegin t, Ev.lockBlock t], Outcome.blocked)
    else ({ s with job := upd s.job t none, pc := upd s.pc t Pc.wRelock, awake := t :: s.awake }, [], Outcome.cont)
  else
    -- `return`: the pool may be gone, nothing of it is touched
    if !c.dtorOutside && jobKiller s t then
      ({ s with todo := upd s.todo t [Act.destroy], pc := upd s.pc t Pc.idle }, [], Outcome.cont)
    else stepFin s t

/-- the critical section of `is_stopped()` / `any_enqueued()` called through `thread_pool::current` -/
def stepPeekCS (s : State) (t : Nat) (k : Peek) : State × List Ev × Outcome :=
  (setPc s t (Pc.peekDone k (match k with
      | Peek.enq => s.exit || !s.q.isEmpty
      | _ => s.exit)), [Ev.unlock t], Outcome.op)

def jobBody (s : State) (t : Nat) : List Prim :=
  match s.job t with
  | some j => s.body j
  | none => []

/-- back from the critical section. `co_await current()`: not stopped, so `await_suspend` hands the coroutine — the rest of
the running body — to the pool as a new unit of work of the `co_await pool` kind; this activity ends here -/
def stepPeekDone (s : State) (t : Nat) (k : Peek) (r : Bool) : State × List Ev × Outcome :=
  match k with
  | Peek.stopped => (setPc s t Pc.idle, [Ev.curStopped t r], Outcome.cont)
  | Peek.enq => (setPc s t Pc.idle, [Ev.curEnq t r], Outcome.cont)
  | Peek.resub =>
      if r then (setPc s t Pc.idle, [Ev.curInline t], Outcome.cont)
      else (newJob s t Kind.co (jobBody s t) (s.todo t) false [], [Ev.submit s.nextJob Kind.co t s.exit], Outcome.cont)

/-! Pool B: one worker, never a submission; only `stop()` / destruction. -/

def stepBLoop (s : State) (t : Nat) : State × List Ev × Outcome :=
  if s.bExit then (setPc s t Pc.bExitPc, [Ev.unlockB t], Outcome.op)
  else (setPc s t Pc.bCvCheck, [Ev.unlockB t], Outcome.op)

def stepBCvCheck (s : State) (t : Nat) : State × List Ev × Outcome :=
  if s.bWoken then (setPc s t Pc.bExitPc, [Ev.unlockB t], Outcome.op)
  else (setPc s t Pc.bCvBlocked, [Ev.cvBlockB t], Outcome.blocked)

def stepBCvBlocked (s : State) (t : Nat) : State × List Ev × Outcome :=
  (setPc s t Pc.bExitPc, [Ev.unlockB t], Outcome.op)

/-- the critical section of `B.stop()`; nothing of it concerns pool A or the caller's `_current` -/
def stepBStopCS (s : State) (t : Nat) (isD : Bool) : State × List Ev × Outcome :=
  ({ s with bExit := true, bWoken := true, btmp := upd s.btmp t s.bHasThread, bHasThread := false,
            bdtor := upd s.bdtor t isD, pc := upd s.pc t Pc.bStopJoin }, [Ev.unlockB t], Outcome.op)

def stepBStopJoin (s : State) (t : Nat) : State × List Ev × Outcome :=
  if s.btmp t then
    if s.pc s.bw = Pc.done then ({ s with btmp := upd s.btmp t false }, [Ev.join t s.bw], Outcome.op)
    else (setPc s t Pc.bJoinBlocked, [Ev.joinBlock t s.bw], Outcome.blocked)
  else
    if s.bdtor t then
      ({ s with bDestroyed := true, bdtor := upd s.bdtor t false, pc := upd s.pc t Pc.idle }, [Ev.destroyedB t], Outcome.cont)
    else (setPc s t Pc.idle, [Ev.stopBEnd t], Outcome.cont)

def stepBJoinBlocked (s : State) (t : Nat) : State × List Ev × Outcome :=
  ({ s with btmp := upd s.btmp t false, pc := upd s.pc t Pc.bStopJoin }, [Ev.join t s.bw], Outcome.op)

/-- the next thing the thread does is `_mx.lock()` -/
def Pc.wantsLock : Pc → Bool
  | Pc.enqCS _ | Pc.stopCS _ | Pc.peekCS _ | Pc.wRelock => true
  | _ => false

def stepPc (c : Cfg) (s : State) (t k : Nat) : State × List Ev × Outcome :=
  match s.pc t with
  | Pc.idle => stepIdle c s t
  | Pc.enqCS j => stepEnqCS s t k j
  | Pc.afterEnq j acc => stepAfterEnq c s t j acc
  | Pc.stopCS isD => stepStopCS s t isD
  | Pc.peekCS pk => stepPeekCS s t pk
  | Pc.peekDone pk r => stepPeekDone s t pk r
  | Pc.waitFlag _ => (setPc s t Pc.idle, [], Outcome.cont)
  | Pc.stopJoin => stepStopJoin s t
  | Pc.joinBlocked => stepJoinBlocked s t
  | Pc.stopDrop => stepStopDrop c s t k
  | Pc.wRelock => stepWRelock s t
  | Pc.wLoop => stepWLoop c s t
  | Pc.wCvEnter => stepWCvEnter s t
  | Pc.wCvCheck => stepWCvCheck s t
  | Pc.wCvBlocked => stepWCvBlocked s t
  | Pc.wRun j => stepWRun s t j
  | Pc.wFlush => stepWFlush c s t
  | Pc.wAfterJob => stepWAfterJob c s t
  | Pc.wExit => stepFin s t
  | Pc.bLoop => stepBLoop s t
  | Pc.bCvCheck => stepBCvCheck s t
  | Pc.bCvBlocked => stepBCvBlocked s t
  | Pc.bExitPc => stepFin s t
  | Pc.bStopCS isD => stepBStopCS s t isD
  | Pc.bStopJoin => stepBStopJoin s t
  | Pc.bJoinBlocked => stepBJoinBlocked s t
  | Pc.stuck => (s, [], Outcome.blocked)
  | Pc.done => (s, [], Outcome.finished)

/-- one small step of thread `t`; `k` resolves the nondeterminism (which waiter `notify_one` wakes, which closure of a
swapped-out queue is destroyed next).  A thread that wants `_mx` while a worker holds it (inside `_cond.wait`'s entry)
blocks in `lock()`. -/
def step (c : Cfg) (s : State) (t k : Nat) : State × List Ev × Outcome :=
  if (s.pc t).wantsLock && s.mx.isSome then
    ({ s with lockWait := upd s.lockWait t true }, [Ev.lockBlock t], Outcome.blocked)
  else stepPc c { s with lockWait := upd s.lockWait t false } t k

def enabledPc (s : State) (t : Nat) : Bool :=
  match s.pc t with
  | Pc.done => false
  | Pc.stuck => false
  | Pc.wCvBlocked => s.woken t
  | Pc.bCvBlocked => s.bWoken
  | Pc.bJoinBlocked => s.pc s.bw == Pc.done
  | Pc.waitFlag f => s.flag f
  | Pc.joinBlocked =>
      match s.tmp t with
      | u :: _ => s.pc u == Pc.done
      | [] => true
  | _ => true

def enabled (s : State) (t : Nat) : Bool :=
  if (s.pc t).wantsLock && s.lockWait t then s.mx.isNone else enabledPc s t

/-- a scheduled step: thread `t` moves if it is enabled; `k` picks the waiter a `notify_one` wakes -/
def sstep (c : Cfg) (s : State) (tk : Nat × Nat) : State :=
  if enabled s tk.1 then (step c s tk.1 tk.2).1 else s

def run (c : Cfg) (s : State) : List (Nat × Nat) → State
  | [] => s
  | tk :: rest => run c (sstep c s tk) rest

/-- what thread `t` does between two scheduling points of the baton harness: small steps up to and including the
first one that ends with a synchronising operation (the harness's condition variable notifies the oldest waiter) -/
def threadStep (c : Cfg) : Nat → State → Nat → State × List Ev
  | 0, s, _ => (s, [])
  | fuel + 1, s, t =>
    if enabled s t then
      match step c s t 0 with
      | (s1, e1, Outcome.cont) => ((threadStep c fuel s1 t).1, e1 ++ (threadStep c fuel s1 t).2)
      | (s1, e1, _) => (s1, e1)
    else (s, [])

/-- a run of the baton scheduler: the threads in the order they are given the baton -/
def batonRun (c : Cfg) (fuel : Nat) (s : State) : List Nat → State
  | [] => s
  | t :: rest => batonRun c fuel (threadStep c fuel s t).1 rest

end Cocls.Pool
