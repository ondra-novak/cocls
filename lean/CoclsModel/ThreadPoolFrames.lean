import CoclsModel.ThreadPoolInv
/-!
How the preservation proofs use the thread-pool invariant: the branches of `notifyOne`, `dropJob` and `arm` as one record
update each; what becomes of one row of the job table (`JobInv.*`) and of what is known of one thread (`Local.*`, the
location clauses) under the updates the steps make; frame lemmas for `Inv`.
-/
namespace Cocls.Pool
variable {c : Cfg} {s : State}

theorem upd_self {α} (f : Nat → α) (i : Nat) : upd f i (f i) = f := by
  funext x; rw [upd_apply]; split
  · rename_i e; rw [e]
  · rfl

theorem upd_upd {α} (f : Nat → α) (i : Nat) (a b : α) : upd (upd f i a) i b = upd f i b := by
  funext x; simp only [upd_apply]; split <;> rfl

theorem th_upd {pc : Nat → Pc} {t : Nat} {p : Pc} (ht : Local c s t p)
    (hx : ∀ x, x ≠ t → Local c s x (pc x)) (x : Nat) : Local c s x (upd pc t p x) := by
  by_cases e : x = t
  · subst e; rw [upd_same]; exact ht
  · rw [upd_other _ _ _ _ e]; exact hx x e

theorem th_at {pc : Nat → Pc} {t : Nat} {p : Pc} (hpc : pc t = p) (ht : Local c s t p)
    (hx : ∀ x, x ≠ t → Local c s x (pc x)) (x : Nat) : Local c s x (pc x) :=
  if e : x = t then e ▸ hpc ▸ ht else hx x e

theorem forall_at {P : Nat → Prop} (t : Nat) (ht : P t) (hx : ∀ x, x ≠ t → P x) (x : Nat) : P x :=
  if e : x = t then e ▸ ht else hx x e

theorem nodup_snoc {l : List Nat} {a : Nat} (h : l.Nodup) (ha : a ∉ l) : (l ++ [a]).Nodup :=
  List.nodup_append.2 ⟨h, List.pairwise_singleton _ a, fun _ hx _ hy e => ha (List.mem_singleton.1 hy ▸ e ▸ hx)⟩

theorem pick_cases (l : List Nat) (k : Nat) :
    (l = [] ∧ l[k % l.length]? = none) ∨ (∃ j, j ∈ l ∧ l[k % l.length]? = some j) := by
  cases hw : l[k % l.length]? with
  | none =>
    left
    refine ⟨?_, rfl⟩
    rw [List.getElem?_eq_none_iff] at hw
    cases l with
    | nil => rfl
    | cons a l =>
      have := Nat.mod_lt k (show 0 < l.length + 1 by omega)
      simp only [List.length_cons] at hw
      omega
  | some w => right; exact ⟨w, List.mem_of_getElem? hw, rfl⟩

theorem notifyOne_cases (s : State) (k : Nat) :
    (s.waitq = [] ∧ notifyOne s k = s) ∨
    (∃ w, w ∈ s.waitq ∧ notifyOne s k = { s with waitq := s.waitq.erase w, woken := upd s.woken w true, awake := w :: s.awake }) := by
  unfold notifyOne
  rcases pick_cases s.waitq k with ⟨h, hp⟩ | ⟨w, h, hp⟩ <;> rw [hp]
  · exact Or.inl ⟨h, rfl⟩
  · exact Or.inr ⟨w, h, rfl⟩

theorem inCoro_ret {t : Nat} (h : inCoro s t = true) : s.ret t = Ret.body := by
  unfold inCoro at h
  split at h
  · simp only [Bool.and_eq_true, beq_iff_eq] at h; exact h.1
  · cases h

theorem dropKind_bp_hasFut {k : Kind} (h : dropKind c k = DropAct.breakPromise) : hasFut k = true := by
  cases k <;> simp_all [dropKind, hasFut]

/-- How the destruction of an un-invoked closure shows: what is added to `cancelled` and to `lost`, the future afterwards, and
whether the cancelled coroutine is parked on the ready queue of the destroying thread (`inCo`: it is inside a coroutine). -/
inductive Dropped (c : Cfg) (kd : Kind) (armed inCo : Bool) (fut : Fut) : Nat → Nat → Fut → Bool → Prop
  | deferred : dropKind c kd = DropAct.resume → inCo = true → Dropped c kd armed inCo fut 0 0 fut true
  | resumed : dropKind c kd = DropAct.resume → Dropped c kd armed inCo fut 1 0 fut false
  | guard : dropKind c kd = DropAct.guard → Dropped c kd armed inCo fut 1 0 fut false
  | watched : dropKind c kd = DropAct.breakPromise → armed = true → Dropped c kd armed inCo fut 1 0 Fut.broken false
  | unwatched : dropKind c kd = DropAct.breakPromise → armed = false → Dropped c kd armed inCo fut 0 0 Fut.broken false
  | lost : dropKind c kd = DropAct.nothing → Dropped c kd armed inCo fut 0 1 fut false

theorem dropJob_fst (c : Cfg) (s : State) (t j : Nat) :
    ∃ dc dl f b, Dropped c (s.kind j) (s.armed j) (inCoro s t) (s.fut j) dc dl f b ∧
      (dropJob c s t j).1 =
        { s with dropped := upd s.dropped j (s.dropped j + 1), loc := upd s.loc j Loc.done,
                 cancelled := upd s.cancelled j (s.cancelled j + dc), lost := upd s.lost j (s.lost j + dl),
                 fut := upd s.fut j f, defer := upd s.defer t (if b then s.defer t ++ [j] else s.defer t),
                 deferOn := upd s.deferOn j (if b then some t else s.deferOn j) } := by
  unfold dropJob
  split
  · rename_i hk
    split
    · rename_i hc; exact ⟨_, _, _, _, .deferred hk hc, by simp [upd_self]⟩
    · exact ⟨_, _, _, _, .resumed hk, by simp [upd_self]⟩
  · rename_i hk; exact ⟨_, _, _, _, .guard hk, by simp [upd_self]⟩
  · rename_i hk
    split
    · rename_i ha; exact ⟨_, _, _, _, .watched hk ha, by simp [upd_self]⟩
    · rename_i ha; exact ⟨_, _, _, _, .unwatched hk (by simpa using ha), by simp [upd_self]⟩
  · rename_i hk; exact ⟨_, _, _, _, .lost hk, by simp [upd_self]⟩

theorem arm_fst (s : State) (t j : Nat) :
    (arm s t j).1 = { s with armed := upd s.armed j true,
                             valued := upd s.valued j (s.valued j + if s.fut j = Fut.value then 1 else 0),
                             cancelled := upd s.cancelled j (s.cancelled j + if s.fut j = Fut.broken then 1 else 0) } := by
  unfold arm
  split
  · rename_i hf; simp [hf, upd_self]
  · rename_i hf; simp [hf, upd_self]
  · rename_i h1 h2; simp only [if_neg h1, if_neg h2, Nat.add_zero, upd_self]

section row
variable {exit armed : Bool} {next j ran dropped cancelled lost valued : Nat} {kd : Kind} {loc : Loc}
  {deferOn ranOn : Option Nat} {fut : Fut}

theorem JobInv.intact
    (h : JobInv c exit next j kd loc ran dropped cancelled lost valued armed deferOn ranOn fut) (hl : loc ≠ Loc.done) :
    ran = 0 ∧ dropped = 0 ∧ cancelled = 0 ∧ lost = 0 ∧ deferOn = none ∧ fut ≠ Fut.broken := by
  have h0 := h.c_once
  rw [if_neg hl] at h0
  obtain ⟨rfl, rfl⟩ : ran = 0 ∧ dropped = 0 := by omega
  have hb := h.b_kind
  have hz : cancelled = 0 ∧ lost = 0 ∧ deferOn = none := by
    split at hb
    · exact ⟨by omega, hb.2, Classical.byContradiction fun e => by rw [if_neg e] at hb; omega⟩
    · exact hb
    · rwa [ite_self] at hb
    · exact hb
  exact ⟨rfl, rfl, hz.1, hz.2.1, hz.2.2, fun e => by have := h.f_broken (h.f_brk e); rw [if_pos e] at this; cases this⟩

theorem JobInv.move {a v : Loc}
    (h : JobInv c exit next j kd loc ran dropped cancelled lost valued armed deferOn ranOn fut) (ha : loc = a)
    (haf : a ≠ Loc.fresh) (had : a ≠ Loc.done) (hvf : v ≠ Loc.fresh) (hvd : v ≠ Loc.done) :
    JobInv c exit next j kd v ran dropped cancelled lost valued armed deferOn ranOn fut :=
  { h with
    l_fresh := ⟨fun e => absurd e hvf, fun e => absurd (ha.symm.trans (h.l_fresh.2 e)) haf⟩
    c_once := by rw [if_neg hvd]; have := h.c_once; rwa [if_neg (ha ▸ had)] at this }

theorem JobInv.fresh {kd' : Kind} {t : Nat}
    (h : JobInv c exit next next kd loc ran dropped cancelled lost valued armed deferOn ranOn fut) :
    JobInv c exit (next + 1) next kd' (Loc.rejected t) ran dropped cancelled lost valued armed deferOn ranOn
      (if hasFut kd' then Fut.pending else Fut.none) := by
  have hfr : loc = Loc.fresh := h.l_fresh.2 (Nat.le_refl _)
  obtain ⟨rfl, rfl, rfl, rfl, rfl, _⟩ := h.intact (by rw [hfr]; nofun)
  obtain ⟨-, -, rfl, rfl, -, -⟩ := h.z_fresh (Nat.le_refl _)
  generalize hfu : (if hasFut kd' = true then Fut.pending else Fut.none) = fu
  have hnb : fu ≠ Fut.broken := by subst hfu; split <;> nofun
  have hnv : fu ≠ Fut.value := by subst hfu; split <;> nofun
  exact {
    l_fresh := ⟨nofun, fun e => absurd e (Nat.not_succ_le_self _)⟩
    c_once := rfl
    z_fresh := fun e => absurd e (Nat.not_succ_le_self _)
    r_on := fun e => absurd e (Nat.lt_irrefl 0)
    x_drop_exit := fun e => absurd e (Nat.lt_irrefl 0)
    b_kind := by split <;> simp
    f_broken := fun _ => (if_neg hnb).symm
    f_brk := fun e => absurd e hnb
    f_some := fun e _ => by subst hfu; rw [if_pos e]; nofun
    f_valued := fun _ => (if_neg fun x => nomatch x.1).symm
    f_value := fun _ e => absurd e hnv }

theorem JobInv.older
    (h : JobInv c exit next j kd loc ran dropped cancelled lost valued armed deferOn ranOn fut) (hj : j ≠ next) :
    JobInv c exit (next + 1) j kd loc ran dropped cancelled lost valued armed deferOn ranOn fut :=
  { h with
    l_fresh := h.l_fresh.trans ⟨fun e => by omega, fun e => by omega⟩
    z_fresh := fun e => h.z_fresh (by omega)
    f_some := fun e e' => h.f_some e (by omega) }

theorem JobInv.resolve {valued' : Nat}
    (h : JobInv c exit next j kd loc ran dropped cancelled lost valued armed deferOn ranOn Fut.pending)
    (hr : 0 < ran) (hv : valued' = if armed = true then valued + 1 else valued) :
    JobInv c exit next j kd loc ran dropped cancelled lost valued' armed deferOn ranOn Fut.value :=
  { h with
    z_fresh := fun e => by cases (h.z_fresh e).2.2.2.2.2
    f_broken := fun e => by have := h.f_broken e; rw [if_neg nofun] at this ⊢; exact this
    f_brk := nofun
    f_some := fun _ _ => nofun
    f_valued := fun e => by
      have := h.f_valued e
      rw [if_neg (fun e => nomatch e.2)] at this
      subst hv; cases armed <;> simp [this]
    f_value := fun _ _ => hr }

theorem JobInv.drop {inCo b : Bool} {t dc dl : Nat} {f : Fut}
    (h : JobInv c exit next j kd loc ran dropped cancelled lost valued armed deferOn ranOn fut)
    (hx : exit = true) (hl : loc ≠ Loc.done) (hj : j < next) (hd : Dropped c kd armed inCo fut dc dl f b) :
    JobInv c exit next j kd Loc.done ran (dropped + 1) (cancelled + dc) (lost + dl) valued armed
      (if b then some t else deferOn) ranOn f := by
  obtain ⟨rfl, rfl, rfl, rfl, rfl, hnb⟩ := h.intact hl
  have hnv : hasFut kd = true → fut ≠ Fut.value := fun e v => Nat.lt_irrefl 0 (h.f_value e v)
  -- the future is broken exactly if the closure owned a promise
  have hf : dropKind c kd = DropAct.breakPromise ∧ f = Fut.broken ∨ dropKind c kd ≠ DropAct.breakPromise ∧ f = fut := by
    cases hd with
    | watched hk _ | unwatched hk _ => exact Or.inl ⟨hk, rfl⟩
    | deferred hk _ | resumed hk | guard hk | lost hk => exact Or.inr ⟨by rw [hk]; nofun, rfl⟩
  exact { h with
    l_fresh := ⟨nofun, fun e => absurd hj (Nat.not_lt.2 e)⟩
    c_once := rfl
    z_fresh := fun e => absurd hj (Nat.not_lt.2 e)
    x_drop_exit := fun _ => hx
    b_kind := by cases hd <;> simp [*]
    f_broken := fun e => hf.elim (fun a => by rw [if_pos a.2]) fun a => absurd e a.1
    f_brk := fun e => hf.elim (·.1) fun a => absurd (a.2 ▸ e) hnb
    f_some := fun e l => hf.elim (fun a => a.2 ▸ nofun) fun a => a.2 ▸ h.f_some e l
    f_valued := fun e => hf.elim
      (fun a => by rw [a.2, h.f_valued e, if_neg fun x => hnv e x.2, if_neg fun x => nomatch x.2])
      fun a => a.2 ▸ h.f_valued e
    f_value := fun e v => hf.elim (fun a => by rw [a.2] at v; cases v) fun a => h.f_value e (a.2 ▸ v) }

/-- the submitter starts watching the future: it sees at once what has become of it -/
theorem JobInv.arm
    (h : JobInv c exit next j kd loc ran dropped cancelled lost valued false deferOn ranOn fut)
    (hf : hasFut kd = true) (hj : j < next) :
    JobInv c exit next j kd loc ran dropped (cancelled + if fut = Fut.broken then 1 else 0) lost
      (valued + if fut = Fut.value then 1 else 0) true deferOn ranOn fut := by
  have hv : valued = 0 := by rw [h.f_valued hf, if_neg fun x => nomatch x.1]
  exact { h with
    z_fresh := fun e => absurd hj (Nat.not_lt.2 e)
    b_kind := by
      have hb := h.b_kind
      generalize hk : dropKind c kd = a at hb ⊢
      cases a <;> dsimp only at hb ⊢
      case breakPromise => exact ⟨by simp [hb.1, h.f_broken hk], hb.2⟩
      all_goals rw [if_neg fun e => by have := h.f_brk e; rw [hk] at this; cases this]; exact hb
    f_valued := fun _ => by rw [hv, Nat.zero_add]; simp }

end row

/-- a location clause for `l` survives a move of the closure of `j` between two other locations -/
theorem iff_loc_upd {j j' : Nat} {a l v : Loc} {P : Prop} (h : P ↔ s.loc j' = l) (ha : s.loc j = a)
    (hl : a ≠ l) (hv : v ≠ l) : P ↔ upd s.loc j v j' = l := by
  rw [upd_apply]; split
  · rename_i e; subst e; exact ⟨fun p => absurd (ha.symm.trans (h.1 p)) hl, fun e => absurd e hv⟩
  · exact h

/-- the owner's side of a location clause when it takes the closure of `j` -/
theorem own_acquire {j : Nat} {l : Loc} (h : ∀ j', (none : Option Nat) = some j' ↔ s.loc j' = l) (j' : Nat) :
    some j = some j' ↔ upd s.loc j l j' = l := by
  rw [upd_apply]; split
  · rename_i e; rw [e]; exact ⟨fun _ => rfl, fun _ => rfl⟩
  · rename_i ne; exact ⟨fun e => absurd (Option.some.inj e).symm ne, fun e => nomatch (h j').2 e⟩

/-- the same when it gives the closure away -/
theorem own_release {j : Nat} {l v : Loc} (h : ∀ j', some j = some j' ↔ s.loc j' = l) (hv : v ≠ l)
    (j' : Nat) : (none : Option Nat) = some j' ↔ upd s.loc j v j' = l :=
  ⟨nofun, fun e => by
    rw [upd_apply] at e; split at e
    · exact absurd e hv
    · rename_i ne; exact absurd (Option.some.inj ((h j').2 e)).symm ne⟩

theorem Local.plain {t : Nat} {p q : Pc} (h : Local c s t p) (hp : p.plain = true)
    (hq : q.plain = true) : Local c s t q := by
  have hi : Local c s t Pc.idle := by cases p <;> cases hp <;> exact { h with }
  cases q <;> cases hq <;> exact { hi with }

theorem Local.dropOther {x j : Nat} {p : Pc} (h : Local c s x p) {a : Loc} (ha : s.loc j = a)
    (hh : a ≠ Loc.held x) (hr : a ≠ Loc.rejected x) {df dqf : Nat → List Nat} (hd : df x = s.defer x) (hq : dqf x = s.dq x)
    {pc : Nat → Pc} {dr ca lo : Nat → Nat} {fu : Nat → Fut} {dO : Nat → Option Nat}
    (hf : ∀ j', fu j' = Fut.pending → 0 < s.ran j' → s.fut j' = Fut.pending) :
    Local c { s with loc := upd s.loc j Loc.done, defer := df, dq := dqf, pc := pc, dropped := dr, cancelled := ca,
                     lost := lo, fut := fu, deferOn := dO } x p :=
  { h with
    l_held := fun j' => iff_loc_upd (h.l_held j') ha hh nofun
    l_rej := fun j' => iff_loc_upd (h.l_rej j') ha hr nofun
    l_dqnd := show (dqf x).Nodup from hq ▸ h.l_dqnd
    l_dqpc := show dqf x ≠ [] → _ from hq ▸ h.l_dqpc
    r_body := fun j' e k d => h.r_body j' e k (hf j' d (h.r_job j' e))
    b_defnd := show (df x).Nodup from hd ▸ h.b_defnd
    b_defpc := show df x ≠ [] → _ from hd ▸ h.b_defpc }

theorem Inv.thAt (h : Inv c s) {t : Nat} {p : Pc} (hpc : s.pc t = p) : Local c s t p :=
  hpc ▸ h.th t

theorem Inv.unread (h : Inv c s) {todo : Nat → List Act} {flag lockWait slotUsed bdtor : Nat → Bool}
    {slotBody : Nat → List Prim} {bDestroyed : Bool} :
    Inv c { s with todo := todo, flag := flag, lockWait := lockWait, slotUsed := slotUsed, slotBody := slotBody,
                   bdtor := bdtor, bDestroyed := bDestroyed } :=
  { h with th := fun x => { h.th x with } }

theorem Inv.move {t : Nat} {p : Pc} (h : Inv c s) (hl : Local c s t p) : Inv c (setPc s t p) :=
  { h with th := th_upd { hl with } fun x _ => { h.th x with } }

theorem Inv.movePlain {t : Nat} {p : Pc} (h : Inv c s) (hp : (s.pc t).plain = true)
    (hq : p.plain = true) : Inv c (setPc s t p) :=
  h.move ((h.th t).plain hp hq)

/-- a thread takes an action off its `todo` list -/
theorem Inv.beginPlain {t : Nat} {p : Pc} (h : Inv c s) (hp : (s.pc t).plain = true)
    (hq : p.plain = true) {todo : Nat → List Act} : Inv c { s with todo := todo, pc := upd s.pc t p } :=
  (h.unread (todo := todo) : Inv c { s with todo := todo }).movePlain hp hq

/-- Thread `t` destroys the un-invoked closure of `j`, which is at `a` (`dq'`: the local queue of `t` afterwards): the state that results, and what the
invariant needs of the fields that change besides `loc` and `dq` (`D`: the ready queue of `t`, `DO`: the marks of deferred
cancellations). -/
theorem Inv.dropJob (h : Inv c s) (t : Nat) {j : Nat} {a : Loc} (hex : s.exit = true) (ha : s.loc j = a)
    (haf : a ≠ Loc.fresh) (had : a ≠ Loc.done) (dq' : Nat → List Nat) :
    ∃ (dr ca lo : Nat → Nat) (fu : Nat → Fut) (D : List Nat) (DO : Nat → Option Nat),
      (dropJob c { s with dq := dq' } t j).1 =
        { s with dq := dq', dropped := dr, loc := upd s.loc j Loc.done, cancelled := ca, lost := lo, fut := fu,
                 defer := upd s.defer t D, deferOn := DO } ∧
      D.Nodup ∧ (D ≠ [] → s.ret t = Ret.body) ∧ (∀ u j', j' ∈ upd s.defer t D u ↔ DO j' = some u) ∧
      (∀ j', JobInv c s.exit s.nextJob j' (s.kind j') (upd s.loc j Loc.done j') (s.ran j') (dr j') (ca j') (lo j')
        (s.valued j') (s.armed j') (DO j') (s.ranOn j') (fu j')) ∧
      ∀ j', fu j' = Fut.pending → 0 < s.ran j' → s.fut j' = Fut.pending := by
  obtain ⟨dc, dl, f, b, hd, he⟩ := dropJob_fst c { s with dq := dq' } t j
  have hrow := h.jb j
  have hl : s.loc j ≠ Loc.done := ha ▸ had
  have hjn : j < s.nextJob := Nat.lt_of_not_le fun e => haf (ha.symm.trans (hrow.l_fresh.2 e))
  obtain ⟨hr0, _, _, _, hdo, _⟩ := hrow.intact hl
  have hjd : ∀ u, j ∉ s.defer u := fun u hm => by have := (h.b_defer u j).1 hm; rw [hdo] at this; cases this
  have hlt := h.th t
  refine ⟨_, _, _, _, _, _, he, ?_, ?_, ?_, forall_at j ?_ fun j' e => ?_, fun j' e r => ?_⟩
  · cases b
    · exact hlt.b_defnd
    · exact nodup_snoc hlt.b_defnd (hjd t)
  · cases hd <;> first | exact fun _ => inCoro_ret ‹_› | exact fun e => (hlt.b_defpc e).1
  · cases b
    · simp only [Bool.false_eq_true, if_false, upd_self]; exact h.b_defer
    · intro u j'
      have := h.b_defer u j'
      have := hjd u
      simp only [upd_apply, if_true]
      grind
  · simp only [upd_same]; exact hrow.drop hex hl hjn hd
  · simp only [upd_other _ _ _ _ e]; exact h.jb j'
  · by_cases e' : j' = j
    · subst e'; omega
    · rwa [upd_other _ _ _ _ e'] at e

end Cocls.Pool
