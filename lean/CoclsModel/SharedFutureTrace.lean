import CoclsModel.SharedFutureSteps
/-!
The shared_future invariant along a run (`step_runEv`: a run from the initial state delivers `StepOK`), and what follows from it:
life time of the state, quiescence and no lost wake-up.
-/
namespace Cocls.SharedFuture
variable {c : Cfg} {s : State}

def runEvA (c : Cfg) (p : State × List Ev) (sched : List Nat) : State × List Ev :=
  sched.foldl (fun p t => if enabled p.1 t then ((astep c p.1 t).1, p.2 ++ (astep c p.1 t).2) else p) p

def runEv (c : Cfg) (sched : List Nat) : State × List Ev := runEvA c (init c, []) sched

theorem runEvA_fst (c : Cfg) (sched : List Nat) (p : State × List Ev) : (runEvA c p sched).1 = run c p.1 sched :=
  (List.foldl_hom Prod.fst fun p t => by split <;> simp [*]).symm

theorem runEv_fst (c : Cfg) (sched : List Nat) : (runEv c sched).1 = run c (init c) sched := runEvA_fst c sched _

theorem step_runEvA (hf : Fixed c) (s0 : State) (sched : List Nat) (p : State × List Ev) (h : StepOK c s0 p.1 p.2) :
    StepOK c s0 (runEvA c p sched).1 (runEvA c p sched).2 :=
  List.foldlRecOn (motive := fun p : State × List Ev => StepOK c s0 p.1 p.2) sched _ h fun p hp t _ => by
    split
    · rename_i hen; exact hp.trans (step_astep hf hp.inv hen)
    · exact hp

theorem step_runEv (hf : Fixed c) (hn : 0 < c.n) (sched : List Nat) :
    StepOK c (init c) (run c (init c) sched) (runEv c sched).2 :=
  runEv_fst c sched ▸ step_runEvA hf (init c) sched _ (.refl (inv_init c hf hn))

def Reachable (c : Cfg) (s : State) : Prop := ∃ sched : List Nat, s = run c (init c) sched

theorem inv_reach (hf : Fixed c) (hn : 0 < c.n) (sched : List Nat) : Inv c (run c (init c) sched) :=
  (step_runEv hf hn sched).inv

theorem Reachable.inv (hf : Fixed c) (hn : 0 < c.n) (h : Reachable c s) : Inv c s := by
  obtain ⟨sched, rfl⟩ := h
  exact inv_reach hf hn sched

theorem inv_freed_le_one (h : Inv c s) : s.freed ≤ 1 := by
  rw [h.freedIff]; split <;> omega

def Quiescent (c : Cfg) (s : State) : Prop := ∀ t, t < c.n → s.pc t = Pc.done

def HasResolver (c : Cfg) : Prop := c.mode.hasPromise = true → 0 < c.rtid ∧ c.rtid < c.n

theorem Quiescent.all (hq : Quiescent c s) (h : Inv c s) (t : Nat) : s.pc t = Pc.done := by
  by_cases ht : t < c.n
  · exact hq t ht
  · have := h.pcok t
    cases hpc : s.pc t <;> simp [hpc, pcOK] at this <;> first | rfl | omega

theorem quiescent_ready (hq : Quiescent c s) (h : Inv c s) (hr : HasResolver c) : s.slot = Slot.ready := by
  cases hp : c.mode.hasPromise
  · exact (h.nopromise hp).2
  · have := hr hp
    apply h.resolved c.rtid ((kind_res_iff c c.rtid).2 ⟨by omega, rfl⟩) this.2
    rw [hq c.rtid this.2]; rfl

theorem quiescent_wacts (hq : Quiescent c s) (h : Inv c s) : wacts c s = [] := by
  unfold wacts; rw [hq.all h]; rfl

theorem quiescent_facts (hq : Quiescent c s) (h : Inv c s) (hr : HasResolver c) :
    (∀ x, s.observed x = if s.awaited x then 1 else 0) ∧ (∀ x, s.woken x = if s.subscribed x then 1 else 0) ∧
    (∀ x, s.ctx x = false) ∧ s.tracerRef = false ∧ (∀ x, s.held x = 0) := by
  have hs := quiescent_ready hq h hr
  have hw := quiescent_wacts hq h
  have hch : chainOf s.slot = [] := by rw [hs]; rfl
  have hobs : ∀ x, s.observed x = if s.awaited x then 1 else 0 := by
    intro x
    have := h.obsv x
    rw [hw, hch, hq.all h x] at this
    simpa [inflight, cntO] using this
  refine ⟨hobs, ?_, ?_, ?_, ?_⟩
  · intro x
    have := h.wake x
    rw [hw, hch] at this
    simpa [cntW] using this
  · intro x
    cases hc : s.ctx x
    · rfl
    · have := (h.ctxIff x).1 hc
      have h2 := hobs x
      rw [this.1] at h2
      simp at h2; omega
  · have := h.tracerCnt
    rw [hw, hch] at this
    cases hq : s.tracerRef
    · rfl
    · simp [hq, cntRel] at this
  · intro x; exact h.aDone x (hq.all h x)

theorem quiescent_freed (hq : Quiescent c s) (h : Inv c s) (hr : HasResolver c) : s.freed = 1 ∧ s.refs = 0 := by
  obtain ⟨_, _, hc, ht, hh⟩ := quiescent_facts hq h hr
  have hnil : s.holders = [] := by
    apply List.eq_nil_iff_forall_not_mem.2
    intro x hx
    have hpos : 0 < s.holders.count x := List.count_pos_iff.2 hx
    cases x with
    | thread y => have := h.hThread y; rw [hh y] at this; omega
    | ctx y => have := h.hCtx y; simp [hc y] at this; omega
    | tracer => have := h.hTracer; simp [ht] at this; omega
  have hr0 : s.refs = 0 := by rw [h.refsLen, hnil]; rfl
  exact ⟨by rw [h.freedIff, hr0]; rfl, hr0⟩

/-- `alive` and `pubCtor` once the creator is not constructing any more -/
theorem inv_constructed (h : Inv c s) (hc : s.constructed = true) :
    (s.slot ≠ Slot.ready → s.tracerRef = true) ∧ (c.mode.hasPromise = true → s.published = true) := by
  have nc {P : Prop} (h1 : isCtor (s.pc 0) = true) : P := Bool.noConfusion ((ctor_state h h1).2.symm.trans hc)
  refine ⟨fun hp => (h.alive hp).elim id nc, fun hpm => ?_⟩
  cases hq : s.published
  · exact nc (h.pubCtor hq hpm)
  · rfl

theorem inv_tracer_in_chain (h : Inv c s) (hp : s.slot ≠ Slot.ready) (hc : s.constructed = true) :
    Node.tracer ∈ chainOf s.slot ∧ (chainOf s.slot).getLast? = some Node.tracer ∧ (chainOf s.slot).count Node.tracer = 1 := by
  have htr := (inv_constructed h hc).1 hp
  have hw : wacts c s = [] := by
    unfold wacts
    cases hq : s.pc c.rtid with
    | rRun a => exact absurd (h.aRun _ _ hq).1 hp
    | _ => rfl
  have := h.tracerCnt
  rw [hw, htr] at this
  simp [cntRel] at this
  have hm : Node.tracer ∈ chainOf s.slot := List.count_pos_iff.1 (by omega)
  exact ⟨hm, h.tracerLast hm, this⟩

def WF (c : Cfg) : Prop := 0 < c.n ∧ (c.mode.hasPromise = true ↔ (0 < c.rtid ∧ c.rtid < c.n))

theorem WF.hasResolver (h : WF c) : HasResolver c := fun hp => h.2.1 hp

theorem ctor_enabled (h : Inv c s) (hc : isCtor (s.pc 0) = true) : enabled s 0 = true := by
  cases hq : s.pc 0 with
  | cRun is => simp [enabled, hq, h.noCrash]
  | _ => simp [hq, isCtor] at hc

theorem disabled_cases (h : Inv c s) (u : Nat) (hd : enabled s u = false) :
    s.pc u = Pc.done ∨ (s.pc u = Pc.hGate ∧ s.constructed = false) ∨ (s.pc u = Pc.rGate ∧ s.published = false) ∨
      ∃ p, s.pc u = Pc.hBlocked p ∧ s.flag u = false := by
  unfold enabled at hd
  cases hq : s.pc u <;> simp_all [h.noCrash]

theorem not_stuck (h : Inv c s) (hwf : WF c) (hst : ∀ t, enabled s t = false) : Quiescent c s := by
  intro t ht
  -- the constructing creator is always enabled
  have nc {P : Prop} (hc : isCtor (s.pc 0) = true) : P := by
    have := ctor_enabled h hc; rw [hst 0] at this; cases this
  rcases disabled_cases h t (hst t) with hd | ⟨_, hc⟩ | ⟨hq, hp⟩ | ⟨p, hq, hfl⟩
  · exact hd
  · exact nc (h.ctorPc hc)
  · have hk := (kind_res_iff c t).1 (h.thr_at hq).pcok.1
    exact nc (h.pubCtor hp (hwf.2.2 ⟨by omega, by omega⟩))
  · -- a blocked waiter that nobody woke is still in the chain, so the resolver has not exchanged yet
    have ha := h.aWait t p (Or.inr hq)
    have hw := h.wake t
    have hwk : s.woken t = 0 := by
      cases hn : s.woken t with
      | zero => rfl
      | succ k => have := (h.flagIff t).2 ⟨ha.1, by omega⟩; rw [hfl] at this; cases this
    have hr := disabled_cases h c.rtid (hst c.rtid)
    have hwa : wacts c s = [] := by
      unfold wacts; rcases hr with e | ⟨e, _⟩ | ⟨e, _⟩ | ⟨_, e, _⟩ <;> (rw [e]; rfl)
    rw [hwa, hwk, ha.2.2.1] at hw
    have hnr : s.slot ≠ Slot.ready := fun e => by rw [e] at hw; simp [chainOf, cntW] at hw
    have hpm : c.mode.hasPromise = true := by
      cases hq : c.mode.hasPromise
      · exact absurd (h.nopromise hq).2 hnr
      · rfl
    have hres := hwf.2.1 hpm
    have hkr : kindOf c c.rtid = Kind.res := (kind_res_iff c c.rtid).2 ⟨by omega, rfl⟩
    have hpre : preResolve (s.pc c.rtid) = true := by
      cases hq : preResolve (s.pc c.rtid)
      · exact absurd (h.resolved c.rtid hkr hres.2 hq) hnr
      · rfl
    rcases hr with e | ⟨e, _⟩ | ⟨e, hp⟩ | ⟨_, e, _⟩ <;> rw [e] at hpre
    · cases hpre
    · cases hpre
    · exact nc (h.pubCtor hp hpm)
    · cases hpre

end Cocls.SharedFuture
