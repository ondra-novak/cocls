import CoclsModel.LockDisc

/-
Structured lock programs: the branch-sensitive lock-region reasoning of C03's lock-discipline obligation, done in Lean.

`extract/lockprog.py` transcribes every member function of a mutex-guarded class *syntactically* into a `Prog`
(`Generated/LockProgs.lean`); which lock state an access runs in is decided here, by an executable checker whose soundness
with respect to the set of linearisations of the program is proved, and the linearisations are act sequences of the
happens-before machine of `LockDisc.lean`.

`Prog` (over `LockDisc.Act`)
* `act a` — a raw act: `lk.lock()`, `lk.unlock()` (also `_mx.lock()/_mx.unlock()`), `access field write`;
* `seq`, `skip`; `ite a b` — nondeterministic choice (if/else, `?:`, short-circuit `&&`/`||`; the condition's accesses are
  emitted before the choice); `loop body` — 0..n iterations, `brk` leaves the loop, `cont` starts the next iteration (the
  translator puts the loop condition into the body as `C; ite brk B`, so the failing evaluation of the condition is part
  of the paths); `ret` — early return;
* `guard body` — `std::lock_guard/scoped_lock g(_mx)` followed by the rest of its block: lock; body; unlock on EVERY exit
  (normal, break/continue, return, exception); `ulock body` — `std::unique_lock lk(_mx)`: the same, but the destructor
  unlocks only if the lock is still owned, and `lk.unlock()/lk.lock()` may occur in the body;
* `Prog.wait` / `Prog.waitPred pred` (derived) — `cond.wait*(lk[, pred])`: unlock; lock; the predicate runs locked;
* `call name body` — an inlined call of a member function of the same class (e.g. a `*_lk` helper receiving the lock
  object), started in the caller's lock state; its `ret` returns to the caller; `catch k body` — a lambda invoked in place
  (`catch ret`), the body of a `switch` (`catch brk`), a loop body followed by the increment of a `for` (`catch cont`);
* `tryc body handler` — try/catch: the handler runs from whatever lock state the body was in when it threw;
* `await` — a suspension point (`co_await`, `co_yield`): the checker demands the mutex to be free there;
* `bad` — something the translator did not understand: the checker rejects it.

`Path p h tr k h'`: `tr` is a linearisation of `p` started with the lock object owning (`h = true`) or not owning the mutex,
leaving `p` in exit mode `k : Exit` with ownership `h'`.  Loops are unrolled any number of times, every choice is taken, and
EVERY construct may be left by an exception before it does anything (`Path.abort`), so "a call inside the critical section
throws" is one of the linearisations; RAII scopes append their unlock on that exit as on any other.

`check : Prog → LS → Option Out` is a forward analysis over sets of lock states (`LS` ⊆ {free, held}; `Out` gives the set
for each exit mode).  It fails (`none`) on an access or `unlock` possible in state free, a `lock` (or `await`) possible in
state held, a `lock_guard` whose body can end free, a loop whose body does not map the loop invariant into itself (the
invariant is computed by two unrollings and then *checked*), and on `bad`.  Branches need not agree: `queue::pop` leaves its
`unique_lock` owning in one branch and released in the other, and the scope exit handles both.

`check_sound`: every path from an admitted entry state keeps the discipline (`runTr` succeeds, hence `LockDisc.discFrom`)
and ends in an admitted state for its exit mode.  The bridge `lockprogs_safe` / `lockfns_safe`: any number of threads
calling functions that pass the check, in any order, under any schedule, never race on a guarded field
(`LockDisc.lock_discipline_safe`).

NOT modelled: more than one mutex per class (calls into *other* guarded classes are not inlined — lock ordering is not a data
race question), `try_lock`/`defer_lock`/`adopt_lock`/moved or aliased lock objects (→ `bad`), `goto` (→ `bad`), recursion
(→ `bad`), correlation between branch conditions (every combination of branch outcomes is a path — conservative).
-/

namespace Cocls.LockProg

open Cocls.LockDisc (Act discFrom Balanced stepTr runTr runTr_append discFrom_eq balFrom_eq)

inductive Exit where
  | norm | brk | cont | ret | thr
  deriving DecidableEq, Repr, Inhabited

inductive Prog where
  | skip
  | act (a : Act)
  | seq (a b : Prog)
  | ite (a b : Prog)
  | loop (body : Prog)
  | brk
  | cont
  | ret
  | guard (body : Prog)
  | ulock (body : Prog)
  | catch (k : Exit) (body : Prog)
  | call (name : String) (body : Prog)
  | tryc (body handler : Prog)
  | await
  | bad
  deriving Repr, Inhabited

def Prog.seqs : List Prog → Prog
  | [] => Prog.skip
  | [p] => p
  | p :: ps => Prog.seq p (Prog.seqs ps)

/-- what the translator emits for the entry labels of a `switch` and for several `catch` handlers -/
def Prog.alts : List Prog → Prog
  | [] => Prog.skip
  | [p] => p
  | p :: ps => Prog.ite p (Prog.alts ps)

/-- `cond.wait(lk)` / `wait_until` / `wait_for` without predicate: releases and re-acquires the mutex -/
def Prog.wait : Prog := Prog.seq (Prog.act Act.unlock) (Prog.act Act.lock)

/-- `cond.wait(lk, pred)` = `while (!pred()) wait(lk);` — the predicate (an inlined lambda) runs with the mutex held -/
def Prog.waitPred (pred : Prog) : Prog :=
  Prog.loop (Prog.seq (Prog.catch Exit.ret pred) (Prog.ite Prog.brk Prog.wait))

def catchExit (kk k : Exit) : Exit := if k = kk then Exit.norm else k

inductive Path : Prog → Bool → List Act → Exit → Bool → Prop
  | abort (p : Prog) (h : Bool) : Path p h [] Exit.thr h
  | skip (h : Bool) : Path Prog.skip h [] Exit.norm h
  | lock (h : Bool) : Path (Prog.act Act.lock) h [Act.lock] Exit.norm true
  | unlock (h : Bool) : Path (Prog.act Act.unlock) h [Act.unlock] Exit.norm false
  | access (h : Bool) (f : Nat) (w : Bool) : Path (Prog.act (Act.access f w)) h [Act.access f w] Exit.norm h
  | seqN {a b : Prog} {h h1 h2 : Bool} {t1 t2 : List Act} {k : Exit} :
      Path a h t1 Exit.norm h1 → Path b h1 t2 k h2 → Path (Prog.seq a b) h (t1 ++ t2) k h2
  | seqX {a b : Prog} {h h1 : Bool} {t : List Act} {k : Exit} :
      Path a h t k h1 → k ≠ Exit.norm → Path (Prog.seq a b) h t k h1
  | iteL {a b : Prog} {h h1 : Bool} {t : List Act} {k : Exit} : Path a h t k h1 → Path (Prog.ite a b) h t k h1
  | iteR {a b : Prog} {h h1 : Bool} {t : List Act} {k : Exit} : Path b h t k h1 → Path (Prog.ite a b) h t k h1
  | loop0 (b : Prog) (h : Bool) : Path (Prog.loop b) h [] Exit.norm h
  | loopN {b : Prog} {h h1 h2 : Bool} {t1 t2 : List Act} {k k2 : Exit} :
      Path b h t1 k h1 → (k = Exit.norm ∨ k = Exit.cont) → Path (Prog.loop b) h1 t2 k2 h2 →
      Path (Prog.loop b) h (t1 ++ t2) k2 h2
  | loopB {b : Prog} {h h1 : Bool} {t : List Act} : Path b h t Exit.brk h1 → Path (Prog.loop b) h t Exit.norm h1
  | loopX {b : Prog} {h h1 : Bool} {t : List Act} {k : Exit} :
      Path b h t k h1 → (k = Exit.ret ∨ k = Exit.thr) → Path (Prog.loop b) h t k h1
  | brk (h : Bool) : Path Prog.brk h [] Exit.brk h
  | cont (h : Bool) : Path Prog.cont h [] Exit.cont h
  | ret (h : Bool) : Path Prog.ret h [] Exit.ret h
  | guard {b : Prog} {h h1 : Bool} {t : List Act} {k : Exit} :
      Path b true t k h1 → Path (Prog.guard b) h (Act.lock :: t ++ [Act.unlock]) k false
  | ulock {b : Prog} {h h1 : Bool} {t : List Act} {k : Exit} :
      Path b true t k h1 → Path (Prog.ulock b) h (Act.lock :: t ++ (if h1 then [Act.unlock] else [])) k false
  | catch {b : Prog} {kk : Exit} {h h1 : Bool} {t : List Act} {k : Exit} :
      Path b h t k h1 → Path (Prog.catch kk b) h t (catchExit kk k) h1
  | call {b : Prog} {name : String} {h h1 : Bool} {t : List Act} {k : Exit} :
      Path b h t k h1 → Path (Prog.call name b) h t (catchExit Exit.ret k) h1
  | trycN {a b : Prog} {h h1 : Bool} {t : List Act} {k : Exit} : Path a h t k h1 → Path (Prog.tryc a b) h t k h1
  | trycH {a b : Prog} {h h1 h2 : Bool} {t1 t2 : List Act} {k : Exit} :
      Path a h t1 Exit.thr h1 → Path b h1 t2 k h2 → Path (Prog.tryc a b) h (t1 ++ t2) k h2
  | await (h : Bool) : Path Prog.await h [] Exit.norm h

structure LS where
  free : Bool
  held : Bool
  deriving DecidableEq, Repr, Inhabited

def LS.mem (s : LS) (h : Bool) : Bool := if h then s.held else s.free
def LS.empty : LS := ⟨false, false⟩
def LS.union (a b : LS) : LS := ⟨a.free || b.free, a.held || b.held⟩
def LS.sub (a b : LS) : Bool := (!a.free || b.free) && (!a.held || b.held)
def LS.isEmpty (a : LS) : Bool := !a.free && !a.held

abbrev Out := Exit → LS

def Out.only (k : Exit) (s : LS) : Out := fun k' => if k' = k then s else LS.empty
def Out.union (a b : Out) : Out := fun k => (a k).union (b k)
/-- every construct can be left by an exception before it did anything -/
def Out.thr (s : LS) (o : Out) : Out := fun k => if k = Exit.thr then (o k).union s else o k

def loopStep (c : LS → Option Out) (s : LS) : Option LS :=
  (c s).map (fun o => (s.union (o Exit.norm)).union (o Exit.cont))

def loopOut (i : LS) (o : Out) : Out := fun k =>
  match k with
  | Exit.norm => i.union (o Exit.brk)
  | Exit.brk => LS.empty
  | Exit.cont => LS.empty
  | Exit.ret => o Exit.ret
  | Exit.thr => o Exit.thr

def catchOut (kk : Exit) (o : Out) : Out := fun k =>
  if k = Exit.norm then (if kk = Exit.norm then o Exit.norm else (o Exit.norm).union (o kk))
  else if k = kk then LS.empty else o k

def check : Prog → LS → Option Out
  | Prog.skip, s => some (Out.thr s (Out.only Exit.norm s))
  | Prog.act Act.lock, s => if s.held then none else some (Out.thr s (Out.only Exit.norm ⟨false, s.free⟩))
  | Prog.act Act.unlock, s => if s.free then none else some (Out.thr s (Out.only Exit.norm ⟨s.held, false⟩))
  | Prog.act (Act.access _ _), s => if s.free then none else some (Out.thr s (Out.only Exit.norm s))
  | Prog.seq a b, s =>
    (check a s).bind fun oa => (check b (oa Exit.norm)).bind fun ob =>
      some (Out.thr s (fun k => if k = Exit.norm then ob k else (oa k).union (ob k)))
  | Prog.ite a b, s => (check a s).bind fun oa => (check b s).bind fun ob => some (Out.thr s (oa.union ob))
  | Prog.loop b, s =>
    (loopStep (check b) s).bind fun i1 => (loopStep (check b) i1).bind fun i2 => (check b i2).bind fun o =>
      if ((o Exit.norm).union (o Exit.cont)).sub i2 then some (Out.thr i2 (loopOut i2 o)) else none
  | Prog.brk, s => some (Out.thr s (Out.only Exit.brk s))
  | Prog.cont, s => some (Out.thr s (Out.only Exit.cont s))
  | Prog.ret, s => some (Out.thr s (Out.only Exit.ret s))
  | Prog.guard b, s =>
    if s.held then none else
    (check b ⟨false, s.free⟩).bind fun o =>
      if (o Exit.norm).free || (o Exit.brk).free || (o Exit.cont).free || (o Exit.ret).free || (o Exit.thr).free then none
      else some (Out.thr s (fun k => ⟨(o k).held, false⟩))
  | Prog.ulock b, s =>
    if s.held then none else
    (check b ⟨false, s.free⟩).bind fun o => some (Out.thr s (fun k => ⟨(o k).held || (o k).free, false⟩))
  | Prog.catch kk b, s => (check b s).bind fun o => some (Out.thr s (catchOut kk o))
  | Prog.call _ b, s => (check b s).bind fun o => some (Out.thr s (catchOut Exit.ret o))
  | Prog.tryc a b, s =>
    (check a s).bind fun oa => (check b (oa Exit.thr)).bind fun ob => some (Out.thr s (oa.union ob))
  | Prog.await, s => if s.held then none else some (Out.thr s (Out.only Exit.norm s))
  | Prog.bad, _ => none

theorem LS.mem_union (a b : LS) (h : Bool) : (a.union b).mem h = (a.mem h || b.mem h) := by
  cases h <;> simp [LS.mem, LS.union]

theorem LS.mem_of_sub {a b : LS} (hs : a.sub b = true) {h : Bool} (hm : a.mem h = true) : b.mem h = true := by
  cases h <;> simp_all [LS.mem, LS.sub]

theorem LS.mem_empty (h : Bool) : LS.empty.mem h = false := by cases h <;> rfl

theorem Out.thr_mem_of {s : LS} {o : Out} {k : Exit} {h : Bool} (hm : (o k).mem h = true) :
    (Out.thr s o k).mem h = true := by
  unfold Out.thr; split <;> simp [LS.mem_union, hm]

theorem Out.thr_mem_thr {s : LS} {o : Out} {h : Bool} (hm : s.mem h = true) :
    (Out.thr s o Exit.thr).mem h = true := by
  simp [Out.thr, LS.mem_union, hm]

def Sound (p : Prog) : Prop :=
  ∀ s o, check p s = some o → ∀ h tr k h', s.mem h = true → Path p h tr k h' →
    runTr h tr = some h' ∧ (o k).mem h' = true

theorem sound_jump (p : Prog) (kk : Exit) (hdef : ∀ s, check p s = some (Out.thr s (Out.only kk s)))
    (hpath : ∀ h tr k h', Path p h tr k h' → tr = [] ∧ h' = h ∧ (k = kk ∨ k = Exit.thr)) : Sound p := by
  intro s o hc h tr k h' hm hp
  obtain ⟨rfl, rfl, hk⟩ := hpath _ _ _ _ hp
  rw [hdef] at hc; simp only [Option.some.injEq] at hc; subst hc
  refine ⟨rfl, ?_⟩
  rcases hk with rfl | rfl
  · exact Out.thr_mem_of (by simpa [Out.only] using hm)
  · exact Out.thr_mem_thr hm

theorem sound_skip : Sound Prog.skip :=
  sound_jump _ Exit.norm (fun _ => rfl) (by intro h tr k h' hp; cases hp <;> simp)
theorem sound_brk : Sound Prog.brk :=
  sound_jump _ Exit.brk (fun _ => rfl) (by intro h tr k h' hp; cases hp <;> simp)
theorem sound_cont : Sound Prog.cont :=
  sound_jump _ Exit.cont (fun _ => rfl) (by intro h tr k h' hp; cases hp <;> simp)
theorem sound_ret : Sound Prog.ret :=
  sound_jump _ Exit.ret (fun _ => rfl) (by intro h tr k h' hp; cases hp <;> simp)

theorem sound_await : Sound Prog.await := by
  intro s o hc h tr k h' hm hp
  simp only [check] at hc
  split at hc <;> simp at hc
  subst hc
  cases hp with
  | abort => exact ⟨rfl, Out.thr_mem_thr hm⟩
  | await => exact ⟨rfl, Out.thr_mem_of (by simpa [Out.only] using hm)⟩

theorem sound_act (a : Act) : Sound (Prog.act a) := by
  intro s o hc h tr k h' hm hp
  cases a <;> simp only [check] at hc <;> split at hc <;> simp at hc <;> subst hc <;> cases hp <;>
    -- the exceptional exit before the act, or the act itself in either lock state
    first | exact ⟨rfl, Out.thr_mem_thr hm⟩ | (cases h <;> simp_all [LS.mem, runTr, stepTr, Out.thr, Out.only])

theorem sound_seq {a b : Prog} (ha : Sound a) (hb : Sound b) : Sound (Prog.seq a b) := by
  intro s o hc h tr k h' hm hp
  simp only [check, Option.bind_eq_some_iff] at hc
  obtain ⟨oa, hca, ob, hcb, hc⟩ := hc
  simp only [Option.some.injEq] at hc; subst hc
  cases hp with
  | abort => exact ⟨rfl, Out.thr_mem_thr hm⟩
  | seqN p1 p2 =>
    obtain ⟨r1, m1⟩ := ha _ _ hca _ _ _ _ hm p1
    obtain ⟨r2, m2⟩ := hb _ _ hcb _ _ _ _ m1 p2
    refine ⟨by simp [runTr_append, r1, r2], Out.thr_mem_of ?_⟩
    split <;> simp [LS.mem_union, m2]
  | seqX p1 hk =>
    obtain ⟨r1, m1⟩ := ha _ _ hca _ _ _ _ hm p1
    exact ⟨r1, Out.thr_mem_of (by simp [hk, LS.mem_union, m1])⟩

theorem sound_ite {a b : Prog} (ha : Sound a) (hb : Sound b) : Sound (Prog.ite a b) := by
  intro s o hc h tr k h' hm hp
  simp only [check, Option.bind_eq_some_iff] at hc
  obtain ⟨oa, hca, ob, hcb, hc⟩ := hc
  simp only [Option.some.injEq] at hc; subst hc
  cases hp with
  | abort => exact ⟨rfl, Out.thr_mem_thr hm⟩
  | iteL p1 =>
    obtain ⟨r1, m1⟩ := ha _ _ hca _ _ _ _ hm p1
    exact ⟨r1, Out.thr_mem_of (by simp [Out.union, LS.mem_union, m1])⟩
  | iteR p1 =>
    obtain ⟨r1, m1⟩ := hb _ _ hcb _ _ _ _ hm p1
    exact ⟨r1, Out.thr_mem_of (by simp [Out.union, LS.mem_union, m1])⟩

theorem sound_tryc {a b : Prog} (ha : Sound a) (hb : Sound b) : Sound (Prog.tryc a b) := by
  intro s o hc h tr k h' hm hp
  simp only [check, Option.bind_eq_some_iff] at hc
  obtain ⟨oa, hca, ob, hcb, hc⟩ := hc
  simp only [Option.some.injEq] at hc; subst hc
  cases hp with
  | abort => exact ⟨rfl, Out.thr_mem_thr hm⟩
  | trycN p1 =>
    obtain ⟨r1, m1⟩ := ha _ _ hca _ _ _ _ hm p1
    exact ⟨r1, Out.thr_mem_of (by simp [Out.union, LS.mem_union, m1])⟩
  | trycH p1 p2 =>
    obtain ⟨r1, m1⟩ := ha _ _ hca _ _ _ _ hm p1
    obtain ⟨r2, m2⟩ := hb _ _ hcb _ _ _ _ m1 p2
    exact ⟨by simp [runTr_append, r1, r2], Out.thr_mem_of (by simp [Out.union, LS.mem_union, m2])⟩

theorem catchOut_mem {kk k : Exit} {o : Out} {h : Bool} (hm : (o k).mem h = true) :
    (catchOut kk o (catchExit kk k)).mem h = true := by
  unfold catchOut catchExit
  grind [LS.mem_union]

theorem sound_catch {b : Prog} (kk : Exit) (hb : Sound b) : Sound (Prog.catch kk b) := by
  intro s o hc h tr k h' hm hp
  simp only [check, Option.bind_eq_some_iff] at hc
  obtain ⟨ob, hcb, hc⟩ := hc
  simp only [Option.some.injEq] at hc; subst hc
  cases hp with
  | abort => exact ⟨rfl, Out.thr_mem_thr hm⟩
  | «catch» p1 =>
    obtain ⟨r1, m1⟩ := hb _ _ hcb _ _ _ _ hm p1
    exact ⟨r1, Out.thr_mem_of (catchOut_mem m1)⟩

/-- a call is checked, and runs, as `catch ret` -/
theorem sound_call {b : Prog} (n : String) (hb : Sound b) : Sound (Prog.call n b) := by
  intro s o hc h tr k h' hm hp
  refine sound_catch Exit.ret hb s o hc h tr k h' hm ?_
  cases hp with
  | abort => exact .abort ..
  | call p1 => exact .catch p1

theorem sound_ulock {b : Prog} (hb : Sound b) : Sound (Prog.ulock b) := by
  intro s o hc h tr k h' hm hp
  simp only [check] at hc
  split at hc; · simp at hc
  next hheld =>
  simp only [Option.bind_eq_some_iff] at hc
  obtain ⟨ob, hcb, hc⟩ := hc
  simp only [Option.some.injEq] at hc; subst hc
  cases hp with
  | abort => exact ⟨rfl, Out.thr_mem_thr hm⟩
  | ulock p1 =>
    rename_i h1 t
    have hh : h = false := by cases h <;> simp_all [LS.mem]
    subst hh
    have hsf : s.free = true := by simpa [LS.mem] using hm
    obtain ⟨r1, m1⟩ := hb _ _ hcb true _ _ _ (by simp [LS.mem, hsf]) p1
    refine ⟨?_, Out.thr_mem_of ?_⟩
    · cases h1 <;> simp [runTr, stepTr, runTr_append, r1]
    · cases h1 <;> simp_all [LS.mem]

/-- a `lock_guard` is a `unique_lock` whose body has been checked to leave the mutex held at every exit -/
theorem sound_guard {b : Prog} (hb : Sound b) : Sound (Prog.guard b) := by
  intro s o hc h tr k h' hm hp
  simp only [check] at hc
  split at hc; · simp at hc
  next hheld =>
  simp only [Option.bind_eq_some_iff] at hc
  obtain ⟨ob, hcb, hc⟩ := hc
  split at hc; · simp at hc
  next hfree =>
  simp only [Bool.or_eq_true, not_or, Bool.not_eq_true] at hfree
  have hfree : ∀ k, (ob k).free = false := fun k => by cases k <;> simp [hfree]
  have hcu : check (Prog.ulock b) s = some o := by
    simp only [check, if_neg hheld, hcb, Option.bind_some, hfree, Bool.or_false]
    exact hc
  refine sound_ulock hb s o hcu h tr k h' hm ?_
  cases hp with
  | abort => exact .abort ..
  | @guard _ _ h1 _ _ p1 =>
    have hsf : s.free = true := by cases h <;> simp_all [LS.mem]
    have m1 := (hb _ _ hcb true _ _ _ (by simp [LS.mem, hsf]) p1).2
    have hh1 : h1 = true := by cases h1 <;> simp_all [LS.mem]
    have := Path.ulock (h := h) p1
    rwa [hh1] at this

theorem sound_loop_inv {b : Prog} (i : LS) (ob : Out)
    (hb : ∀ h tr k h', i.mem h = true → Path b h tr k h' → runTr h tr = some h' ∧ (ob k).mem h' = true)
    (hsub : ((ob Exit.norm).union (ob Exit.cont)).sub i = true) :
    ∀ q h tr k h', q = Prog.loop b → i.mem h = true → Path q h tr k h' →
      runTr h tr = some h' ∧ (Out.thr i (loopOut i ob) k).mem h' = true := by
  intro q h tr k h' hq hm hp
  induction hp with
  | abort => exact ⟨rfl, Out.thr_mem_thr hm⟩
  | loop0 => exact ⟨rfl, Out.thr_mem_of (by simp [loopOut, LS.mem_union, hm])⟩
  | @loopN _ _ h1 _ _ _ _ _ p1 hk p2 _ ih2 =>
    cases hq
    obtain ⟨r1, m1⟩ := hb _ _ _ _ hm p1
    have hm1 : i.mem h1 = true := LS.mem_of_sub hsub (by rcases hk with rfl | rfl <;> simp [LS.mem_union, m1])
    obtain ⟨r2, m2⟩ := ih2 rfl hm1
    exact ⟨by simp [runTr_append, r1, r2], m2⟩
  | loopB p1 =>
    cases hq
    obtain ⟨r1, m1⟩ := hb _ _ _ _ hm p1
    exact ⟨r1, Out.thr_mem_of (by simp [loopOut, LS.mem_union, m1])⟩
  | loopX p1 hk =>
    cases hq
    obtain ⟨r1, m1⟩ := hb _ _ _ _ hm p1
    rcases hk with rfl | rfl <;> exact ⟨r1, Out.thr_mem_of (by simpa [loopOut] using m1)⟩
  | _ => cases hq

theorem sound_loop {b : Prog} (hb : Sound b) : Sound (Prog.loop b) := by
  intro s o hc h tr k h' hm hp
  simp only [check, Option.bind_eq_some_iff, loopStep, Option.map_eq_some_iff] at hc
  obtain ⟨i1, ⟨o1, _, rfl⟩, i2, ⟨o2, _, rfl⟩, o3, hc3, hc⟩ := hc
  split at hc <;> simp only [Option.some.injEq, reduceCtorEq] at hc
  next hsub =>
  subst hc
  exact sound_loop_inv _ o3 (fun h tr k h' hmi hpi => hb _ _ hc3 _ _ _ _ hmi hpi) hsub _ _ _ _ _ rfl
    (by simp [LS.mem_union, hm]) hp

theorem check_sound (p : Prog) : Sound p := by
  induction p with
  | skip => exact sound_skip
  | act a => exact sound_act a
  | seq a b ha hb => exact sound_seq ha hb
  | ite a b ha hb => exact sound_ite ha hb
  | loop b hb => exact sound_loop hb
  | brk => exact sound_brk
  | cont => exact sound_cont
  | ret => exact sound_ret
  | guard b hb => exact sound_guard hb
  | ulock b hb => exact sound_ulock hb
  | «catch» kk b hb => exact sound_catch kk hb
  | call n b hb => exact sound_call n hb
  | tryc a b ha hb => exact sound_tryc ha hb
  | await => exact sound_await
  | bad => intro s o hc; simp [check] at hc

/-- A member function that is entered with the mutex free (`check` from `{free}` succeeds): on every path the mutex is free
again at every exit — normal, `return`, exception — and no `break`/`continue` escapes. -/
def checkFn (p : Prog) : Bool :=
  match check p ⟨true, false⟩ with
  | some o => !(o Exit.norm).held && !(o Exit.ret).held && !(o Exit.thr).held && (o Exit.brk).isEmpty && (o Exit.cont).isEmpty
  | none => false

/-- A helper that is entered with the mutex held (`*_lk`, or a private function without a lock of its own) keeps the
discipline on every path (it may return with the mutex held or free; its callers are checked with its body inlined). -/
def checkHelper (p : Prog) : Bool := (check p ⟨false, true⟩).isSome

/-- `tr` is a linearisation of the member function `p` called with the mutex free -/
def Lin (p : Prog) (tr : List Act) : Prop := ∃ k h', Path p false tr k h'

theorem checkFn_sound {p : Prog} (hc : checkFn p = true) {tr : List Act} (hl : Lin p tr) : Balanced tr = true := by
  obtain ⟨k, h', hp⟩ := hl
  unfold checkFn at hc
  split at hc
  · next o ho =>
    obtain ⟨r, m⟩ := check_sound p _ _ ho false tr k h' rfl hp
    have : h' = false := by
      cases h'
      · rfl
      · cases k <;> simp_all [LS.mem, LS.isEmpty]
    subst this
    rw [Balanced, balFrom_eq, r]; rfl
  · simp at hc

theorem checkHelper_sound {p : Prog} (hc : checkHelper p = true) {tr : List Act} {k : Exit} {h' : Bool}
    (hp : Path p true tr k h') : discFrom true tr = true := by
  unfold checkHelper at hc
  cases ho : check p ⟨false, true⟩ with
  | none => simp [ho] at hc
  | some o => rw [discFrom_eq, (check_sound p _ _ ho true tr k h' rfl hp).1]; rfl

theorem calls_safe (calls : Nat → List (List Act)) (hc : ∀ t, ∀ c ∈ calls t, ∃ p, checkFn p = true ∧ Lin p c) :
    ∀ sched : List Nat, (LockDisc.run (fun t => (calls t).flatten) sched).raced = false :=
  LockDisc.lock_discipline_safe _ fun t => LockDisc.disciplined_flatten _ fun c hcm =>
    let ⟨_, hp, hl⟩ := hc t c hcm
    checkFn_sound hp hl

/-- The bridge to the happens-before machine of `LockDisc.lean`: if every function of a class passes `checkFn`, then any
number of threads, each performing any sequence of calls whose act sequences are linearisations of these functions (any
branch outcomes, any loop counts, any exceptional exits), under any schedule, never race on a guarded field. -/
theorem lockprogs_safe (fns : List Prog) (hf : fns.all checkFn = true)
    (calls : Nat → List (List Act)) (hc : ∀ t, ∀ c ∈ calls t, ∃ p ∈ fns, Lin p c) :
    ∀ sched : List Nat, (LockDisc.run (fun t => (calls t).flatten) sched).raced = false :=
  calls_safe calls fun t c hcm =>
    let ⟨p, hp, hl⟩ := hc t c hcm
    ⟨p, List.all_eq_true.mp hf p hp, hl⟩

/-! One `LockFn` per extracted function, and the cross-check against the `GuardedAccess` table. -/

structure LockFn where
  cls : String      -- guarded class (key of the GuardedAccess table)
  fn : String       -- member function the code lexically belongs to (same spelling as the table)
  defName : String  -- name of the generated definition
  entry : Bool      -- checked stand-alone from the free state (public, or takes the lock itself, or a deferred lambda)
  prog : Prog

def LockFn.ok (f : LockFn) : Bool := if f.entry then checkFn f.prog else checkHelper f.prog

theorem lockfns_safe (fs : List LockFn) (hok : fs.all LockFn.ok = true)
    (calls : Nat → List (List Act))
    (hc : ∀ t, ∀ c ∈ calls t, ∃ f ∈ fs, f.entry = true ∧ Lin f.prog c) :
    ∀ sched : List Nat, (LockDisc.run (fun t => (calls t).flatten) sched).raced = false :=
  calls_safe calls fun t c hcm =>
    let ⟨f, hf, he, hl⟩ := hc t c hcm
    ⟨f.prog, by simpa [LockFn.ok, he] using List.all_eq_true.mp hok f hf, hl⟩

/-- guarded fields accessed lexically by the function itself (inlined callees are attributed to their own definition) -/
def lexAcc : Prog → List Nat
  | Prog.act (Act.access f _) => [f]
  | Prog.seq a b => lexAcc a ++ lexAcc b
  | Prog.ite a b => lexAcc a ++ lexAcc b
  | Prog.tryc a b => lexAcc a ++ lexAcc b
  | Prog.loop b => lexAcc b
  | Prog.guard b => lexAcc b
  | Prog.ulock b => lexAcc b
  | Prog.catch _ b => lexAcc b
  | _ => []

def fieldName (fields : List (String × List String)) (cls : String) (i : Nat) : String :=
  match fields.find? (fun e => e.1 == cls) with
  | some e => e.2.getD i "?"
  | none => "?"

def progTriples (fields : List (String × List String)) (fs : List LockFn) : List (String × String × String) :=
  fs.flatMap (fun f => (lexAcc f.prog).map (fun i => (f.cls, f.fn, fieldName fields f.cls i)))

def tableTriples (fields : List (String × List String)) (tbl : List GuardedAccess) : List (String × String × String) :=
  (tbl.filter (fun a => !a.ctorDtor && fields.any (fun e => e.1 == a.cls && e.2.contains a.field))).map
    (fun a => (a.cls, a.fn, a.field))

/-- both extractions see the same (class, function, field) accesses outside constructors/destructors -/
def sameTriples (fields : List (String × List String)) (fs : List LockFn) (tbl : List GuardedAccess) : Bool :=
  (tableTriples fields tbl).all (fun x => (progTriples fields fs).contains x) &&
  (progTriples fields fs).all (fun x => (tableTriples fields tbl).contains x)

section Examples
open Prog

/-- shape of `thread_pool::worker`: unique_lock, endless loop, `cond.wait` with predicate, `break`, `lk.unlock()`,
early `return` with the lock released, `lk.lock()` before the next iteration -/
def exWorker : Prog :=
  ulock (loop (seqs [
    waitPred (seqs [act (Act.access 0 false), act (Act.access 1 false), ret]),
    act (Act.access 1 false), ite brk skip,
    act (Act.access 0 true), act (Act.access 0 true), act Act.unlock,
    ite ret skip,
    act Act.lock]))

/-- shape of `queue::push`: the branches leave the unique_lock in different states and both `return` -/
def exPush : Prog :=
  ulock (seqs [act (Act.access 0 false),
    ite (seqs [act (Act.access 0 true), act (Act.access 0 true), act Act.unlock, ret])
        (seqs [act (Act.access 1 true), ret])])

/-- a `lock_guard` function calling a `*_lk` helper that loops and returns early -/
def exHelper : Prog := seqs [loop (seqs [act (Act.access 0 false), ite brk skip, act (Act.access 0 true), ite ret skip]), act (Act.access 0 false)]
def exGuard : Prog := guard (seqs [call "helper_lk" exHelper, ret])

example : checkFn exWorker = true ∧ checkFn exPush = true ∧ checkFn exGuard = true ∧ checkHelper exHelper = true := by decide

/-- the checker is not vacuous: a concrete linearisation of `exPush` (first branch) and its balance -/
example : Lin exPush [Act.lock, Act.access 0 false, Act.access 0 true, Act.access 0 true, Act.unlock] :=
  ⟨Exit.ret, false,
    Path.ulock (h := false) (h1 := false)
      (Path.seqN (Path.access true 0 false)
        (Path.iteL (Path.seqN (Path.access true 0 true) (Path.seqN (Path.access true 0 true)
          (Path.seqN (Path.unlock true) (Path.ret false))))))⟩

/-- counterexample: an access after `lk.unlock()` on one branch only -/
def exBad : Prog :=
  ulock (seqs [act (Act.access 0 false), ite (act Act.unlock) skip, act (Act.access 0 true)])

example : checkFn exBad = false := by decide

/-- more rejected shapes: locking function called with the lock held (self-deadlock), `co_await` with the lock held,
a loop body that does not restore the lock state, an unguarded helper run from the free state, raw lock without RAII
(an exception would leave it locked), an untranslatable construct -/
example : checkFn (guard (call "size" (guard (act (Act.access 0 false))))) = false
    ∧ checkFn (ulock (seqs [act (Act.access 0 false), await])) = false
    ∧ checkFn (ulock (loop (seqs [act (Act.access 0 false), act Act.unlock]))) = false
    ∧ checkFn exHelper = false
    ∧ checkFn (seqs [act Act.lock, act (Act.access 0 true), act Act.unlock]) = false
    ∧ checkFn (guard bad) = false := by decide

/-- accepted: `co_await` between `lk.unlock()` and `lk.lock()` (scheduler::worker_coro), try/catch inside a guard -/
example : checkFn (ulock (loop (seqs [act Act.unlock, await, act Act.lock, ite brk skip, act (Act.access 0 true)]))) = true
    ∧ checkFn (guard (tryc (act (Act.access 0 true)) (act (Act.access 1 true)))) = true := by decide

end Examples

end Cocls.LockProg
