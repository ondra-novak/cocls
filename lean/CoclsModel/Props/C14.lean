import CoclsModel.AggregatorProofs
import CoclsModel.AggregatorValuesProofs
/-!
# C14 — generator aggregator: union of all sources, per-source order preserved

Model: `CoclsModel/Aggregator.lean`.  Every theorem quantifies over *all* configurations (`Cfg`: any number of sources,
arbitrary scripts — finite or infinite, synchronous or asynchronous, throwing or not) and *all* operation lists, i.e. all
interleavings of aggregator steps, source completions and consumer operations.

Second part (namespace `Cocls.AggV`, model `CoclsModel/AggregatorValues.lean`): the same machine with the VALUES as
objects that live in the sources (the aggregate only holds a pointer to what a source yielded) and with the consumer's
access style (`Style`): no access style takes a value away from its source, the consumer reads exactly the delivered
values, and the end and a source's exception reach the consumer in every style.
-/
namespace Cocls.Agg

def Reachable (c : Cfg) (s : State) : Prop := ∃ ops, s = run c init ops

theorem reachable_inv {c : Cfg} {s : State} (h : Reachable c s) : Inv c s := by
  obtain ⟨ops, rfl⟩ := h
  exact inv_run c init ops (inv_init c)

theorem reachable_step {c : Cfg} {s : State} (h : Reachable c s) (op : Op) : Reachable c (step c s op) := by
  obtain ⟨ops, rfl⟩ := h
  exact ⟨ops ++ [op], by simp [run, List.foldl_append]⟩

/-- **Per-source order, exactly once (any time).**  What the consumer has received from source `k`, followed by the
at most one value of `k` waiting in the completion queue, is exactly the sequence of values source `k` has yielded so
far, in the source's order: nothing lost, nothing duplicated, nothing reordered — whatever the other sources do
(end, throw, stay in flight) and however completions interleave. -/
theorem c14_per_source_order {c : Cfg} {s : State} (h : Reachable c s) (k : Nat) :
    consumed s k ++ held s k = yieldsUpTo (c.script k) (s.pc k) ∧ (held s k).length ≤ 1 := by
  refine ⟨(reachable_inv h).srcs.eqn k, ?_⟩
  unfold held
  split <;> simp

/-- **Union.**  When the aggregate has ended, every source has run to completion and the consumer has received, for
every source, exactly the values that source yielded, in that source's order. -/
theorem c14_union {c : Cfg} {s : State} (h : Reachable c s) (he : ended s) (k : Nat) (hk : k < c.n) :
    consumed s k = yieldsUpTo (c.script k) (s.pc k) ∧ srcEnded c s k :=
  fin_complete (reachable_inv h).srcs (ended_all_fin (reachable_inv h).ctl he k hk)

/-- **Union as multisets.**  When the aggregate has ended, the multiset of delivered (source, value) pairs is the
disjoint union of the sources' yields: each pair occurs as often as the source yielded that value, and every
delivered pair names one of the `n` sources. -/
theorem c14_union_multiset {c : Cfg} {s : State} (h : Reachable c s) (he : ended s) :
    (∀ k v, k < c.n → s.out.count (k, v) = (yieldsUpTo (c.script k) (s.pc k)).count v)
    ∧ (∀ p, p ∈ s.out → p.1 < c.n) := by
  refine ⟨?_, (reachable_inv h).ctl.src.out_src⟩
  intro k v hk
  rw [count_out_consumed, ← (c14_union h he k hk).1]
  rfl

/-- **Ends only when all sources have ended.** -/
theorem c14_ends_only_when_all_ended {c : Cfg} {s : State} (h : Reachable c s) (he : ended s) (k : Nat)
    (hk : k < c.n) : s.st k = SSt.fin ∧ srcEnded c s k :=
  ⟨ended_all_fin (reachable_inv h).ctl he k hk, (c14_union h he k hk).2⟩

/-- **Ends when all sources have ended (1).**  The aggregator parks in `co_await queue.pop()` only while some source
is still in flight, i.e. it never sleeps once every source has ended or is waiting in the queue. -/
theorem c14_parks_only_for_inflight {c : Cfg} {s : State} (h : Reachable c s) (hp : s.ag = Ag.parkedPop) :
    ∃ k, k < c.n ∧ s.st k = SSt.inflight := by
  obtain ⟨hb, ha⟩ := (reachable_inv h).ctl
  rw [hp] at ha
  obtain ⟨⟨hs, hch, _, _⟩, hnc, hq, hc⟩ := ha
  rw [hb.cntc hs] at hc
  obtain ⟨k, hk, hak⟩ := (nWith_pos_iff active s.st c.n).1 hc
  exact ⟨k, hk, hb.inflight hq (hch k hk) (hnc k) hak⟩

/-- **Ends when and only when all sources have ended.**  At the head of its loop the aggregator leaves the loop
(returns, or rethrows the stored exception) if and only if every source has been found ended; otherwise it pops (or
parks for) the next ready source. -/
theorem c14_ends_iff_all_ended {c : Cfg} {s : State} (h : Reachable c s) (hl : s.ag = Ag.loop) :
    ended (aggStep c s) ↔ ∀ k, k < c.n → s.st k = SSt.fin := by
  obtain ⟨hb, ha⟩ := (reachable_inv h).ctl
  rw [hl] at ha
  exact (loop_ended_iff c s hl).trans (ha.1.count_zero_iff hb)

/-- **Ends when all sources have ended (2).**  At the head of its loop, if every source has been found ended, the
aggregator leaves the loop (returns, or rethrows the stored exception) instead of popping again. -/
theorem c14_ends_when_all_ended {c : Cfg} {s : State} (h : Reachable c s) (hl : s.ag = Ag.loop)
    (hall : ∀ k, k < c.n → s.st k = SSt.fin) : ended (aggStep c s) :=
  (c14_ends_iff_all_ended h hl).2 hall

/-- **A source's exception removes only that source.**  It is reported at the end: if the aggregate ends without an
exception then no source threw; if it ends with exception `e` then `e` was thrown by one of the sources (the one
examined last) — and in both cases all values of all sources (also of the throwing ones, up to the throw) have been
delivered (`c14_union` holds for `failed` as well). -/
theorem c14_exception_keeps_others {c : Cfg} {s : State} (h : Reachable c s) :
    (s.ag = Ag.done → ∀ k, k < c.n → s.res k = SRes.done) ∧
    (∀ e, s.ag = Ag.failed e →
        (∃ k, k < c.n ∧ s.res k = SRes.exc e ∧ s.thrown.getLast? = some (k, e)) ∧
        (∀ k, k < c.n → consumed s k = yieldsUpTo (c.script k) (s.pc k))) := by
  have hi := reachable_inv h
  constructor
  · intro hd k hk
    have hf := ended_all_fin hi.ctl (Or.inl hd) k hk
    have hr : isEnd (s.res k) = true := (hi.srcs.loc k).fin_res hf
    cases hres : s.res k with
    | done => rfl
    | exc e =>
      have hm := (hi.srcs.thrown_iff k e).2 ⟨hf, hres⟩
      have hx := hi.ctl.done_exp hd
      rw [hi.srcs.exp_last, Option.map_eq_none_iff, List.getLast?_eq_none_iff] at hx
      rw [hx] at hm
      cases hm
    | _ => simp [hres, isEnd] at hr
  · intro e hf
    refine ⟨?_, fun k hk => (c14_union h (Or.inr ⟨e, hf⟩) k hk).1⟩
    have hx := hi.ctl.failed_exp hf
    rw [hi.srcs.exp_last, Option.map_eq_some_iff] at hx
    obtain ⟨⟨k, e'⟩, hl, rfl⟩ := hx
    have hm := (hi.srcs.thrown_iff k e').1 (List.mem_of_getLast? hl)
    exact ⟨k, (hi.ctl.src.live (by rw [hm.1]; nofun)).1, hm.2, hl⟩

/-- the exception reported at the end is the one caught last, and the log of caught exceptions names exactly the
sources that were found throwing, each with what it threw -/
theorem c14_exception_stored_last {c : Cfg} {s : State} (h : Reachable c s) :
    s.exp = (s.thrown.getLast?).map (·.2) ∧
    (∀ k e, (k, e) ∈ s.thrown ↔ s.st k = SSt.fin ∧ s.res k = SRes.exc e) :=
  ⟨(reachable_inv h).srcs.exp_last, (reachable_inv h).srcs.thrown_iff⟩

/-- **Argument routing.**  Whenever no delivery is in progress, source `k` has received exactly: the argument of the
first access, then the argument of every access made right after a value of source `k` was returned
(`routed`: `calls[i+1]` goes to the source of `out[i]`). -/
theorem c14_arg_routing {c : Cfg} {s : State} (h : Reachable c s)
    (h1 : ∀ i a, s.ag ≠ Ag.charging i a) (h2 : ∀ j a, s.ag ≠ Ag.recharge j a) (k : Nat) (hk : k < c.n) :
    s.got k = routed s.calls s.out k :=
  (reachable_inv h).args.inv4.settled h1 h2 k hk

/-- decision logic of the routing: an access made while the aggregate is parked at `co_yield` with the value of
source `k` re-charges exactly source `k` with the access's argument, before anything else is popped -/
theorem c14_arg_goes_to_last_returned (c : Cfg) (s : State) (k a : Nat) (hy : s.ag = Ag.parkedYield k) :
    (stepNext c s a).ag = Ag.recharge k a ∧
    (aggStep c (stepNext c s a)).got k = s.got k ++ [a] ∧
    (∀ j, j ≠ k → (aggStep c (stepNext c s a)).got j = s.got j) ∧
    (aggStep c (stepNext c s a)).out = s.out := by
  have hn : stepNext c s a = { s with ag := Ag.recharge k a, calls := s.calls ++ [a], aggArg := some a } := by
    unfold stepNext; simp [hy]
  rw [hn]
  obtain ⟨g1, _, g3, _⟩ := srcRun_ghost c
    { s with ag := Ag.recharge k a, calls := s.calls ++ [a], aggArg := some a, got := upd s.got k (s.got k ++ [a]),
             cell := upd s.cell k (some a) } k
  refine ⟨rfl, ?_, ?_, ?_⟩ <;> simp only [aggStep, charge]
  · rw [g1]; simp
  · intro j hj; rw [g1]; simp [hj]
  · rw [g3]

/-- **The argument stays with its source for the whole step.**  A generator carries its argument by reference, and a
source may fetch it again at any time before its next `co_yield` — in particular after an asynchronous wait
(`Act.awaitRead`: `co_await …; co_yield nullptr`), when the aggregator has long gone on, has served other accesses and
has handed other arguments to other sources.  Every such fetch `(i, v)` logged for source `k` (made when `k` had
received `i` arguments) returned a live object (`v = some a`) holding exactly the `i`-th argument source `k` received —
never a destroyed object, never an argument routed to another source. -/
theorem c14_arg_stable {c : Cfg} {s : State} (h : Reachable c s) (k i : Nat) (v : Option Nat)
    (hm : (i, v) ∈ s.late k) : ∃ a, v = some a ∧ 0 < i ∧ (s.got k)[i - 1]? = some a :=
  (reachable_inv h).srcs.cells.late_ok k (i, v) hm

/-- … and by `c14_arg_routing` that is the argument of the access made right after the value of source `k` was
returned that the source is working on (or of the first access): late fetches obey the routing rule too. -/
theorem c14_arg_stable_routed {c : Cfg} {s : State} (h : Reachable c s)
    (h1 : ∀ i a, s.ag ≠ Ag.charging i a) (h2 : ∀ j a, s.ag ≠ Ag.recharge j a) (k : Nat) (hk : k < c.n)
    (i : Nat) (v : Option Nat) (hm : (i, v) ∈ s.late k) :
    0 < i ∧ v ≠ none ∧ v = (routed s.calls s.out k)[i - 1]? := by
  obtain ⟨a, rfl, hpos, hget⟩ := c14_arg_stable h k i v hm
  rw [c14_arg_routing h h1 h2 k hk] at hget
  exact ⟨hpos, by simp, hget.symm⟩

/-- the fetch really happens and is logged: when the wait of a source whose script asks for it (`rereads`) is over,
the source reads, before anything else, the argument it was charged with last -/
theorem c14_late_fetch_returns_last_charge {c : Cfg} {s : State} (h : Reachable c s) (k : Nat)
    (hk : s.st k = SSt.inflight) (hr : rereads c s k = true) :
    (step c s (Op.resolve k)).late k = s.late k ++ [((s.got k).length, (s.got k).getLast?)]
    ∧ (s.got k).getLast? ≠ none := by
  have hi := (reachable_inv h).srcs.cells
  have hne : s.got k ≠ [] := hi.charged k (by simp [hk])
  constructor
  · obtain ⟨_, _, _, _, _, _, a2⟩ := srcRun_ghost c (lateRead c s k) k
    simp only [step, stepResolve, hk, if_true]
    rw [a2]
    simp [lateRead, hr, hi.cell_last k]
  · intro hn
    exact hne (List.getLast?_eq_none_iff.mp hn)

/-- source 0 waits, fetches its argument again, yields 10 and ends; source 1 yields 20 forever -/
def exCfgR : Cfg where
  n := 2
  script := fun k p =>
    match k, p with
    | 0, 0 => some Act.awaitRead
    | 0, 1 => some (Act.yield 10)
    | 1, _ => some (Act.yield 20)
    | _, _ => none

/-- **AS-IS witness, /repo commit 2ec61ae** (`lateReadAsIs`: the sources were given a reference to the aggregator's
block-local copy of the argument).  Source 0 waits, then fetches its argument again; meanwhile the aggregator has left
the block that charged it: the source reads a DESTROYED object (`none`) instead of the 100 it was charged with. -/
theorem c14_arg_asis_reads_destroyed_object :
    (runAsIs exCfgR init ([Op.next 100] ++ List.replicate 4 Op.agg ++ [Op.resolve 0])).late 0 = [(1, none)]
    ∧ (runAsIs exCfgR init ([Op.next 100] ++ List.replicate 4 Op.agg ++ [Op.resolve 0])).got 0 = [100] := by decide

/-- **AS-IS witness, /repo commit 2ec61ae, second form**: the next access (argument 101, routed to source 1 whose value
was returned last) has resumed the aggregator when source 0's wait completes on another thread: source 0, charged
with 100, reads 101 — an argument that belongs to another source. -/
theorem c14_arg_asis_reads_foreign_argument :
    (runAsIs exCfgR init ([Op.next 100] ++ List.replicate 4 Op.agg ++ [Op.next 101, Op.resolve 0])).late 0 = [(1, some 101)]
    ∧ (runAsIs exCfgR init ([Op.next 100] ++ List.replicate 4 Op.agg ++ [Op.next 101, Op.resolve 0])).got 0 = [100] := by
  decide

/-- the code after that commit (`run`) on the same two inputs: the source reads its own 100 -/
example : (run exCfgR init ([Op.next 100] ++ List.replicate 4 Op.agg ++ [Op.resolve 0])).late 0 = [(1, some 100)]
    ∧ (run exCfgR init ([Op.next 100] ++ List.replicate 4 Op.agg ++ [Op.next 101, Op.resolve 0])).late 0 = [(1, some 100)] := by
  decide

/-- **Destruction waits.**  In every reachable state no source frame has been destroyed while the source was in
flight (`badDestroy` records the sources that were in flight when the frames were destroyed). -/
theorem c14_destroy_waits_and_frees {c : Cfg} {s : State} (h : Reachable c s) : s.badDestroy = [] :=
  (reachable_inv h).ctl.src.bad

/-- **Destruction never aborts**, whatever the context the aggregate is dropped from (`Op.destroy true`: by a running
coroutine, i.e. with an active coroutine queue on the destroying thread). -/
theorem c14_destroy_never_aborts {c : Cfg} {s : State} (h : Reachable c s) : s.ag ≠ Ag.aborted :=
  fun e => by have ha := (reachable_inv h).ctl.ag; rw [e] at ha; exact ha

/-- the controller destructor blocks only while a source is really in flight (it cannot block forever on its own) -/
theorem c14_drain_blocks_only_for_inflight {c : Cfg} {s : State} (h : Reachable c s) (hw : s.ag = Ag.drainWait) :
    ∃ k, k < c.n ∧ s.st k = SSt.inflight := by
  obtain ⟨hb, ha⟩ := (reachable_inv h).ctl
  rw [hw] at ha
  obtain ⟨⟨hch, _, _⟩, hq, hc⟩ := ha
  have hs : s.started = true := by
    cases hs : s.started with
    | true => rfl
    | false => have := (hb.unstarted hs).2; omega
  rw [hb.cntc hs] at hc
  -- two active sources exist; at most one of them is the current one
  obtain ⟨j, hj, haj⟩ := (nWith_pos_iff active s.st c.n).1 (by omega)
  by_cases hcur : s.st j = SSt.cur
  · have h2 := nWith_upd active s.st j SSt.fin c.n
    rw [haj] at h2
    simp [hj, active] at h2
    obtain ⟨k, hk, hak⟩ := (nWith_pos_iff active (upd s.st j SSt.fin) c.n).1 (by omega)
    have hkj : k ≠ j := by intro h; subst h; simp [active] at hak
    simp [hkj] at hak
    exact ⟨k, hk, hb.inflight hq (hch hs k hk) (fun hk2 => hkj (hb.cur_unique k j hk2 hcur)) hak⟩
  · exact ⟨j, hj, hb.inflight hq (hch hs j hj) hcur haj⟩

/-- **Destruction waits in every context.**  With sources outstanding and nothing in the completion queue, the
controller destructor blocks — it neither aborts nor goes on to destroy frames — and some source is really in flight
then; this holds for a destruction from plain code and from a running coroutine alike (`s.dcoro` is not consulted). -/
theorem c14_destroy_blocks_in_any_context {c : Cfg} {s : State} (h : Reachable c s) (hd : s.ag = Ag.draining)
    (hc : 1 < s.count) (hq : s.q = []) :
    (aggStep c s).ag = Ag.drainWait ∧ (aggStep c s).badDestroy = [] ∧ ∃ k, k < c.n ∧ s.st k = SSt.inflight := by
  have hn : aggStep c s = { s with ag := Ag.drainWait } := by
    unfold aggStep; simp [hd, hc, hq]
  have hr : Reachable c (aggStep c s) := reachable_step h Op.agg
  refine ⟨by rw [hn], c14_destroy_waits_and_frees hr, ?_⟩
  obtain ⟨k, hk, hst⟩ := c14_drain_blocks_only_for_inflight hr (by rw [hn])
  rw [hn] at hst
  exact ⟨k, hk, hst⟩

/-- the blocked destructor is released by the completion of an in-flight source, in every context -/
theorem c14_destroy_released_by_completion (c : Cfg) (s : State) (k : Nat) (hw : s.ag = Ag.drainWait)
    (hk : s.st k = SSt.inflight)
    (hp : c.script k (s.pc k) ≠ some Act.await ∧ c.script k (s.pc k) ≠ some Act.awaitRead) :
    (step c s (Op.resolve k)).ag = Ag.draining ∧ (step c s (Op.resolve k)).q = s.q ++ [k] := by
  obtain ⟨l, hl⟩ := lateRead_eq c s k
  simp only [step, stepResolve, hk, if_true, hl]
  unfold srcRun push
  split <;> simp_all

/-- **AS-IS, /repo commit 2010fed** (`aggStepAsIs`: the drain used `_queue.pop().wait()`): in exactly the situation of
`c14_destroy_blocks_in_any_context`, when the aggregate was dropped by a running coroutine, the destructor ran into
the library's assertion instead of waiting. -/
theorem c14_destroy_asis_aborts (c : Cfg) (s : State) (hd : s.ag = Ag.draining) (hc : 1 < s.count) (hq : s.q = [])
    (hco : s.dcoro = true) : (aggStepAsIs c s).ag = Ag.aborted := by
  unfold aggStepAsIs; simp [hd, hc, hq, hco]

/-- when the controller destructor leaves its loop nothing is outstanding: no source is in flight or has a callback
in the queue, so the frames (callbacks, queue, sources) can be destroyed; the next step destroys them -/
theorem c14_drain_complete {c : Cfg} {s : State} (h : Reachable c s) (hd : s.ag = Ag.draining) (hc : s.count ≤ 1) :
    (∀ k, k < c.n → s.st k ≠ SSt.inflight ∧ s.st k ≠ SSt.queued) ∧ (aggStep c s).ag = Ag.destroyed := by
  obtain ⟨hb, ha⟩ := (reachable_inv h).ctl
  rw [hd] at ha
  refine ⟨fun k hk => ⟨fun e => Drain.quiet hb ha hc hk (Or.inl e), fun e => Drain.quiet hb ha hc hk (Or.inr e)⟩, ?_⟩
  unfold aggStep
  have : ¬ 1 < s.count := by omega
  simp [hd, this]

/-- the destructor pops every source at most once: the number of pops equals the number of sources in state
`dropped` (their undelivered value, if any, is discarded with the frame) -/
theorem c14_drain_count {c : Cfg} {s : State} (h : Reachable c s) : s.drained = nWith isDropped s.st c.n :=
  (reachable_inv h).ctl.src.drained_eq

/-! ## non-vacuity: concrete reachable states -/

/-- three sources: `0` yields 10, 11 and ends; `1` awaits, yields 20, throws 7; `2` yields 30 forever -/
def exCfg : Cfg where
  n := 3
  script := fun k p =>
    match k, p with
    | 0, 0 => some (Act.yield 10)
    | 0, 1 => some (Act.yield 11)
    | 1, 0 => some Act.await
    | 1, 1 => some (Act.yield 20)
    | 1, 2 => some (Act.throw 7)
    | 2, _ => some (Act.yield 30)
    | _, _ => none

/-- two finite sources, one of them throwing -/
def exCfg2 : Cfg where
  n := 2
  script := fun k p =>
    match k, p with
    | 0, 0 => some (Act.yield 10)
    | 1, 0 => some Act.await
    | 1, 1 => some (Act.throw 7)
    | _, _ => none

def aggs (n : Nat) : List Op := List.replicate n Op.agg

/-- access, start-up (source 1 goes in flight), values 10, 30 delivered, source 1 completes meanwhile -/
example : (run exCfg init ([Op.next 100] ++ aggs 5 ++ [Op.next 101] ++ aggs 2 ++ [Op.resolve 1] ++ [Op.next 102] ++ aggs 2)).out
    = [(0, 10), (2, 30), (0, 11)] := by decide
example : (run exCfg init ([Op.next 100] ++ aggs 5 ++ [Op.next 101] ++ aggs 2 ++ [Op.resolve 1] ++ [Op.next 102] ++ aggs 2)).q
    = [1, 2] := by decide
/-- arguments: 100 to everybody, 101 to source 0 (returned first), 102 to source 2 -/
example : (run exCfg init ([Op.next 100] ++ aggs 5 ++ [Op.next 101] ++ aggs 2 ++ [Op.resolve 1] ++ [Op.next 102] ++ aggs 2)).got 2
    = [100, 102] := by decide
/-- early destruction with source 1 in flight: the destructor blocks, is released by the completion, pops 2 -/
example : (run exCfg init ([Op.next 100] ++ aggs 5 ++ [Op.destroy false] ++ aggs 2)).ag = Ag.drainWait := by decide
example : (run exCfg init ([Op.next 100] ++ aggs 5 ++ [Op.destroy false] ++ aggs 2 ++ [Op.resolve 1] ++ aggs 2)).ag = Ag.destroyed
    ∧ (run exCfg init ([Op.next 100] ++ aggs 5 ++ [Op.destroy false] ++ aggs 2 ++ [Op.resolve 1] ++ aggs 2)).drained = 2 := by decide
/-- the same from inside a running coroutine: blocks, is released, frees everything -/
example : (run exCfg init ([Op.next 100] ++ aggs 5 ++ [Op.destroy true] ++ aggs 2)).ag = Ag.drainWait
    ∧ (run exCfg init ([Op.next 100] ++ aggs 5 ++ [Op.destroy true] ++ aggs 2 ++ [Op.resolve 1] ++ aggs 2)).ag = Ag.destroyed
    ∧ (run exCfg init ([Op.next 100] ++ aggs 5 ++ [Op.destroy true] ++ aggs 2 ++ [Op.resolve 1] ++ aggs 2)).badDestroy = [] := by
  decide
/-- **AS-IS witness, /repo commit 2010fed**: the aggregate (source 1 in flight) is dropped by a running coroutine; the
code as it was aborts in `wait()`'s assertion with source 1 still in flight instead of waiting for it. -/
theorem c14_destroy_asis_aborts_in_coroutine :
    (runAsIs exCfg init ([Op.next 100] ++ aggs 5 ++ [Op.destroy true] ++ aggs 2)).ag = Ag.aborted
    ∧ (runAsIs exCfg init ([Op.next 100] ++ aggs 5 ++ [Op.destroy true] ++ aggs 2)).st 1 = SSt.inflight
    ∧ (runAsIs exCfg init ([Op.next 100] ++ aggs 5 ++ [Op.destroy false] ++ aggs 2)).ag = Ag.drainWait := by decide
/-- the exception of source 1 is reported after source 0's value was delivered -/
example : (run exCfg2 init ([Op.next 0] ++ aggs 4 ++ [Op.resolve 1] ++ [Op.next 0] ++ aggs 4)).ag = Ag.failed 7
    ∧ (run exCfg2 init ([Op.next 0] ++ aggs 4 ++ [Op.resolve 1] ++ [Op.next 0] ++ aggs 4)).out = [(0, 10)] := by decide
/-- parked waiting for the in-flight source -/
example : (run exCfg2 init ([Op.next 0] ++ aggs 4 ++ [Op.next 0] ++ aggs 3)).ag = Ag.parkedPop := by decide

end Cocls.Agg

/-! # Values as objects of the sources, and the consumer's access styles -/
namespace Cocls.AggV
open Cocls.Agg (Act SRes Ag)

/-- `c` ranges over any number of sources, any scripts and any choice of yields that are lvalues the source keeps;
`ops` over every access in any style -/
def Reachable (c : Cfg) (s : State) : Prop := ∃ ops, s = run c init ops

theorem reachable_vinv {c : Cfg} {s : State} (h : Reachable c s) : VInv c s ∧ Agg.Inv c.base s.base := by
  obtain ⟨ops, rfl⟩ := h
  exact vinv_run c init ops (vinv_init c) (Agg.inv_init c.base)

/-- **Bridge.**  The aggregator underneath is a reachable state of the aggregator model, so every theorem of the first
part (`c14_per_source_order`, `c14_union`, `c14_ends_iff_all_ended`, `c14_exception_keeps_others`, `c14_arg_routing`,
`c14_destroy_waits_and_frees`, …) holds for `s.base`, whatever the access styles. -/
theorem c14_values_layer_is_the_aggregator {c : Cfg} {s : State} (h : Reachable c s) : Agg.Reachable c.base s.base := by
  obtain ⟨ops, rfl⟩ := h
  exact ⟨ops.map erase, base_run c init ops⟩

/-- **A delivered value stays with its source.**  While source `k` is parked at `co_yield x` (its value waiting in the
queue, held by the consumer, or already passed on), the object `x` — which the aggregate's `_ret` points at — still holds
the value the source put there: no access style (in particular not the future styles, whose `unblock_future()` constructs
the future's value from `*_ret`) moves it out or modifies it. -/
theorem c14_yielded_object_intact {c : Cfg} {s : State} (h : Reachable c s) (k v : Nat)
    (hr : s.base.res k = SRes.val v) : s.slot k = some v :=
  (reachable_vinv h).1.slots.slot_ok k v hr

/-- **A source finds the lvalue it yielded unchanged.**  A source that yields an lvalue it keeps using (a running
accumulator, an element of a script stored by its owner: `Cfg.lval`) and looks at it again when it is resumed finds,
every time, exactly the value it had yielded (`kept k` logs (yielded, found)) — so what the source yields next, which may
be computed from it, is what it would yield when read alone. -/
theorem c14_source_finds_its_lvalue {c : Cfg} {s : State} (h : Reachable c s) (k : Nat) (p : Nat × Option Nat)
    (hm : p ∈ s.kept k) : p.2 = some p.1 :=
  (reachable_vinv h).1.slots.kept_ok k p hm

/-- … and the look really happens and is logged: resuming a source that is back from the `co_yield` of an lvalue appends
what it finds there. -/
theorem c14_lvalue_is_looked_at (c : Cfg) (s : State) (k v : Nat) (hy : yieldedLval c s.base k = some v) :
    (reread c s k).kept k = s.kept k ++ [(v, s.slot k)] := by
  simp [reread, hy]

/-- **The consumer reads the sources' values.**  The values the consumer actually learned from its accesses — through a
reference into the source (`value()`, `*it`) or through the future's own copy — are, in order, exactly the values of
`base.out`, i.e. (by `c14_per_source_order` / `c14_union` for `base`) every source value exactly once in the source's
order; never a moved-from object (`some`). -/
theorem c14_consumer_reads_delivered_values {c : Cfg} {s : State} (h : Reachable c s) :
    s.obs.filterMap repVal = s.base.out.map (fun p => some p.2) :=
  (reachable_vinv h).1.obs_vals

/-- **A source's exception is reported in every access style.**  When the aggregate has failed with `e` (all sources
exhausted, `c14_exception_keeps_others`), the last thing the consumer learned — in whatever style it made that access —
is the exception `e`: not "no more values". -/
theorem c14_exception_reported_in_every_style {c : Cfg} {s : State} (h : Reachable c s) (e : Nat)
    (hf : s.base.ag = Ag.failed e) : ∃ st, s.obs.getLast? = some (st, Rep.exc e) :=
  (reachable_vinv h).1.obs_failed e hf

/-- the normal end is reported as the end, in every style -/
theorem c14_end_reported_in_every_style {c : Cfg} {s : State} (h : Reachable c s)
    (hd : s.base.ag = Ag.done) : ∃ st, s.obs.getLast? = some (st, Rep.ended) :=
  (reachable_vinv h).1.obs_done hd

/-- decision logic behind the three theorems above, style by style: whatever documented way the consumer uses to ask for
the result, a parked value reads as that value (the object the source yielded, or the future's copy of it), the end as
the end, and a stored exception as that exception -/
theorem c14_report_by_style (st : Style) (slot : Nat → Option Nat) :
    (∀ k, report st (PSt.yielded k) slot = Rep.val (slot k)) ∧ report st PSt.finished slot = Rep.ended ∧
    (∀ e, report st (PSt.threw e) slot = Rep.exc e) :=
  ⟨fun k => report_yielded st k slot, report_finished st slot, fun e => report_threw st e slot⟩

/-- the report is made in the style of the access that is completing: an access in style `st` is completed by a report in
style `st` computed from the aggregate's promise at that moment -/
theorem c14_access_completes_in_its_style (c : Cfg) (s : State) (a : Nat) (st : Style) (hw : Agg.waiting s.base = false) :
    (step c s (Op.next a st)).acc = st ∧
    ∀ s' op, s'.acc = st → Agg.waiting s'.base = true → Agg.waiting (Agg.step c.base s'.base (erase op)) = false →
      (step c s' op).obs = s'.obs ++ [(st, report st (promiseOf (step c s' op).base) (step c s' op).slot)] := by
  refine ⟨step_next_style c s a st hw, ?_⟩
  intro s' op hacc h1 h2
  rw [← hacc]
  exact step_completes_in_style c s' op h1 h2

/-! ## non-vacuity and necessity -/

/-- source 0 keeps an accumulator: yields it holding 10, then 11; source 1 yields 20 (a temporary), then throws 7 -/
def exCfgV : Cfg where
  base := { n := 2, script := fun k p =>
    match k, p with
    | 0, 0 => some (Act.yield 10)
    | 0, 1 => some (Act.yield 11)
    | 1, 0 => some (Act.yield 20)
    | 1, 1 => some (Act.throw 7)
    | _, _ => none }
  lval := fun k _ => k == 0

def vaggs (n : Nat) : List Op := List.replicate n Op.agg

/-- the whole run in the documented loop `val = gen(); while (co_await val.has_value()) { use(*val); val.result_of(gen); }` -/
def exOps (st : Style) : List Op :=
  [Op.next 0 st] ++ vaggs 5 ++ [Op.next 0 st] ++ vaggs 3 ++ [Op.next 0 st] ++ vaggs 3 ++ [Op.next 0 st] ++ vaggs 6

/-- read through the future: three values, then the exception of source 1; source 0 found its accumulator intact twice -/
example : (run exCfgV init (exOps Style.futHas)).obs
      = [(Style.futHas, Rep.val (some 10)), (Style.futHas, Rep.val (some 20)), (Style.futHas, Rep.val (some 11)),
         (Style.futHas, Rep.exc 7)]
    ∧ (run exCfgV init (exOps Style.futHas)).kept 0 = [(10, some 10), (11, some 11)]
    ∧ (run exCfgV init (exOps Style.futHas)).base.ag = Ag.failed 7 := by decide

/-- the same in the blocking reference style -/
example : (run exCfgV init (exOps Style.next)).obs.map (·.2)
      = [Rep.val (some 10), Rep.val (some 20), Rep.val (some 11), Rep.exc 7] := by decide

/-- **Necessity (1).**  If `unblock_future()` resolved the future with `std::move(*_ret)` (`deliverMoving`), the future
styles would take the value out of the source's accumulator: source 0 finds a moved-from object both times
(`c14_source_finds_its_lvalue` fails), although every value the consumer reads is still right. -/
theorem c14_moving_future_guts_the_source :
    (runG deliverMoving exCfgV init (exOps Style.futHas)).kept 0 = [(10, none), (11, none)]
    ∧ (runG deliverMoving exCfgV init (exOps Style.futHas)).obs.map (·.2)
        = [Rep.val (some 10), Rep.val (some 20), Rep.val (some 11), Rep.exc 7]
    ∧ (runG deliverMoving exCfgV init (exOps Style.next)).kept 0 = [(10, some 10), (11, some 11)] := by decide

/-- **Necessity (2).**  If `co_await val.has_value()` answered "holds a value" (`deliverStrict`: false for an exception),
the consumer of the documented loop would take the failed aggregate for a finished one: the exception of source 1 is
lost (`c14_exception_reported_in_every_style` fails), in that style only. -/
theorem c14_strict_has_value_loses_the_exception :
    (runG deliverStrict exCfgV init (exOps Style.futHas)).obs.getLast? = some (Style.futHas, Rep.ended)
    ∧ (runG deliverStrict exCfgV init (exOps Style.futHas)).base.ag = Ag.failed 7
    ∧ (runG deliverStrict exCfgV init (exOps Style.futBool)).obs.getLast? = some (Style.futBool, Rep.exc 7) := by decide

end Cocls.AggV
