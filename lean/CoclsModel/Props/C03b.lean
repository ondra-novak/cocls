import CoclsModel.Orders
import CoclsModel.Generated.AtomicSites
import CoclsModel.TryLockClock
import CoclsModel.TryLockClockProofs
import CoclsModel.PingPongClock
import CoclsModel.Generated.SharedAccess
import CoclsModel.SignalClock
import CoclsModel.SignalClockProofs
/-!
# C03, second part — the small lock-free protocols that are used REPEATEDLY, the sites no publication goes through, `signal<T>`

`Props/C03.lean` decides every publication protocol of the library by the ONE-SHOT message-passing theorem of `Clock.lean` and a
hand-written list of (publishing site, observing site).  Two protocols re-use the same flag and the same plain data round after
round, which the one-shot theorem does not cover:

* `reusable_storage_mtsafe::_busy` — a try-lock taken and given back any number of times by any number of threads
  (`TryLockClock.lean`: `trylock_race_free`, `trylock_owner_sees_previous`, `trylock_mutual_exclusion`, necessity witnesses);
* `generator::promise_type::_block` — reset and set again on every synchronous step of a generator whose body is asynchronous
  (`PingPongClock.lean`: `pingpong_race_free_iff`, relaxed reset store sufficient, coherence argument for stale reads).

Here the memory orders of exactly those sites are looked up in the table `extract/` regenerates from `/repo` on every run
(`Generated.atomicSites`), the protocol theorems are instantiated with them, and the two remaining groups of atomic sites that no
protocol theorem covers (`scheduler::start`'s `_elide_state`, `async::co_awaiter`'s `_awaiter`) are accounted for.

The lookups also fix the SHAPE of each protocol (which synchronising operations touch the flag, in which function, in which source
order): the models run exactly that shape, so an extra load / store / exchange on the flag makes the lookup fail (`none`) and the
`…_orders_current` obligation with it.

Last section: `signal<T>` as a whole protocol on the happens-before machine (`SignalClock.lean`), with the position facts about
`signal.h` its model assumes.
-/
namespace Cocls.C03b

def siteAt (tbl : List Site) (cls fn : String) (kind : OpKind) (nth : Nat) : Option Site :=
  (tbl.filter (fun s => s.cls == cls && s.fn == fn && s.kind == kind && !s.inAssert))[nth]?

/-- in table (= source) order -/
def opsOn (tbl : List Site) (cls obj : String) : List (String × OpKind) :=
  (tbl.filter (fun s => s.cls == cls && s.obj == obj && !s.inAssert)).map (fun s => (s.fn, s.kind))

/-! ## `reusable_storage_mtsafe` -/

/-- the operations on `_busy` the model `TryLockClock.lean` runs: the exchange and the give-back store in `alloc`, the store in `dealloc` -/
def tryLockShape : List (String × OpKind) := [("alloc", OpKind.xchg), ("alloc", OpKind.store), ("dealloc", OpKind.store)]

/-- orders of the try-lock protocol according to the extracted table; `none` when a site is missing or the flag is touched by any
other synchronising operation -/
def tryLockOrdersOf (tbl : List Site) : Option TryLock.TryLockOrders :=
  if opsOn tbl "reusable_storage_mtsafe" "_busy" = tryLockShape then
    match siteAt tbl "reusable_storage_mtsafe" "alloc" OpKind.xchg 0, siteAt tbl "reusable_storage_mtsafe" "dealloc" OpKind.store 0,
          siteAt tbl "reusable_storage_mtsafe" "alloc" OpKind.store 0 with
    | some a, some d, some g => some { xchg := a.succ, dealloc := d.succ, giveback := g.succ }
    | _, _, _ => none
  else none

/-- **Table obligation**: on the current source `alloc`'s exchange acquires and both `_busy.store(false)` release. -/
theorem c03_trylock_orders_current :
    (tryLockOrdersOf Generated.atomicSites).map (·.sufficient) = some true := by decide

/-- **Main theorem at the current table's orders**: the `reusable_storage_mtsafe` protocol — any number of threads, each performing
any number of `alloc` … use … `dealloc` rounds (won, contended → heap path, failed growth → give-back, the owner allocating again,
frames destroyed on another thread after a synchronising hand-over or on the same thread) under every schedule — never races on
`_ptr/_capacity` or on the bytes of the shared block. -/
theorem c03_mtsafe_protocol_race_free :
    ∃ o, tryLockOrdersOf Generated.atomicSites = some o ∧
      ∀ (cfg : TryLock.Cfg) (sched : List (Nat × Nat)), (TryLock.run o cfg sched).raced = false := by
  obtain ⟨o, ho, hs⟩ := Option.map_eq_some_iff.1 c03_trylock_orders_current
  exact ⟨o, ho, TryLock.trylock_race_free o hs⟩

/-- …round k+1's owner has every plain access of rounds ≤ k (of all previous owners) in its clock -/
theorem c03_mtsafe_owner_sees_previous :
    ∃ o, tryLockOrdersOf Generated.atomicSites = some o ∧
      ∀ (cfg : TryLock.Cfg) (sched : List (Nat × Nat)) (t : Nat), ((TryLock.run o cfg sched).pc t).owner = true →
        ∀ e ∈ (TryLock.run o cfg sched).log, e.2 ≤ (TryLock.run o cfg sched).clk t e.1 := by
  obtain ⟨o, ho, hs⟩ := Option.map_eq_some_iff.1 c03_trylock_orders_current
  exact ⟨o, ho, fun cfg sched t ht => TryLock.trylock_owner_sees_previous o hs cfg sched t ht⟩

/-- …and there is at most one owner at a time (this needs no order at all) -/
theorem c03_mtsafe_mutual_exclusion (o : TryLock.TryLockOrders) (cfg : TryLock.Cfg) (sched : List (Nat × Nat)) (t u : Nat)
    (ht : ((TryLock.run o cfg sched).pc t).owner = true) (hu : ((TryLock.run o cfg sched).pc u).owner = true) : t = u :=
  TryLock.trylock_mutual_exclusion o cfg sched t u ht hu

/-- the machine is tied to the model C19 compares with the real headers operation by operation: every run of `StorageMt` (any
schedule of alloc / free / go / fail by threads `< N`) is simulated by a run of the machine at the current orders — same `_busy`
value, corresponding control states (`TryLock.Sim`) -/
theorem c03_mtsafe_model_refines {N : Nat} (sched : List (Nat × Storage.Mt.Act)) (hN : ∀ e ∈ sched, e.1 < N) :
    ∃ o, tryLockOrdersOf Generated.atomicSites = some o ∧
      ∃ es : List (Nat × Nat), TryLock.Sim N (Storage.Mt.run Storage.Mt.init sched) (TryLock.proj (TryLock.run o (TryLock.cfgAll N) es)) := by
  obtain ⟨o, ho, _⟩ := Option.map_eq_some_iff.1 c03_trylock_orders_current
  exact ⟨o, ho, TryLock.storageMt_refines o sched hN⟩

/-- the exchange relaxed (as in the pinned commit): the next owner's read of `_capacity` races with the previous owner's growth -/
theorem c03_trylock_needs_acquire :
    (TryLock.run ⟨Order.relaxed, Order.release, Order.release⟩ TryLock.cfgSame TryLock.schedRound).raced = true :=
  TryLock.trylock_needs_acquire

/-- `dealloc`'s store relaxed: same race -/
theorem c03_trylock_needs_release_dealloc :
    (TryLock.run ⟨Order.acquire, Order.relaxed, Order.release⟩ TryLock.cfgSame TryLock.schedRound).raced = true :=
  TryLock.trylock_needs_release_dealloc

/-- the give-back store of fix a532e23 relaxed: a failed growth (`_ptr = nullptr; _capacity = 0`) followed by another thread's
`alloc`, which reads `_capacity` -/
theorem c03_trylock_needs_release_giveback :
    (TryLock.run ⟨Order.acquire, Order.release, Order.relaxed⟩ TryLock.cfgSame TryLock.schedFail).raced = true :=
  TryLock.trylock_needs_release_giveback

/-- every table whose try-lock orders are not sufficient has a racing execution -/
theorem c03_trylock_orders_necessary (o : TryLock.TryLockOrders) (h : o.sufficient = false) :
    ∃ (cfg : TryLock.Cfg) (sched : List (Nat × Nat)), (TryLock.run o cfg sched).raced = true := by
  rcases TryLock.racy_of_insufficient o h with hr | hr <;> exact ⟨_, _, hr⟩

/-- the lookup is sensitive: the pinned commit's orders (relaxed on both sides) and a table with an extra load of `_busy` are rejected -/
example : (({ xchg := Order.relaxed, dealloc := Order.relaxed, giveback := Order.release } : TryLock.TryLockOrders).sufficient = false)
    ∧ tryLockOrdersOf (Generated.atomicSites ++
        [{ cls := "reusable_storage_mtsafe", fn := "dealloc", idx := 1, kind := OpKind.load, obj := "_busy", succ := Order.relaxed,
           fail := Order.relaxed, inAssert := false }]) = none := by decide

/-- Non-vacuity: three threads, every migration allowed.  Thread 0 wins and grows the block while thread 1's `alloc` is contended
(heap path); the frame moves to thread 2, which destroys it; thread 1 wins, its growth throws, it gives the flag back; thread 2
wins without growth, thread 0's second `alloc` is contended, thread 2 allocates again while it owns the block, releases; thread 1
wins and grows (third round), thread 2 and thread 0 win once more.  Every thread has ≥ 2 rounds; 24 plain accesses, all ordered. -/
def schedDemo : List (Nat × Nat) :=
  [(0, 0), (1, 0), (0, 1), (0, 1), (0, 6), (2, 0), (2, 3), (2, 0),
   (1, 0), (1, 2), (1, 0),
   (2, 0), (2, 0), (0, 0), (2, 2), (2, 3), (2, 0),
   (1, 0), (1, 1), (1, 3), (1, 0),
   (2, 0), (2, 0), (2, 3), (2, 0),
   (0, 0), (0, 0), (0, 3), (0, 0)]

example : (TryLock.run ⟨Order.acquire, Order.release, Order.release⟩ TryLock.cfg3 schedDemo).raced = false
    ∧ (TryLock.run ⟨Order.acquire, Order.release, Order.release⟩ TryLock.cfg3 schedDemo).log.length = 24
    ∧ (TryLock.run ⟨Order.acquire, Order.release, Order.release⟩ TryLock.cfg3 schedDemo).hist.length = 16
    ∧ (TryLock.lastMsg (TryLock.run ⟨Order.acquire, Order.release, Order.release⟩ TryLock.cfg3 schedDemo)).val = 0 := by decide

/-- the same schedule with `dealloc`'s store relaxed races -/
example : (TryLock.run ⟨Order.acquire, Order.relaxed, Order.release⟩ TryLock.cfg3 schedDemo).raced = true := by decide

/-! ## generator `_block` -/

/-- the operations on `_block` the model `PingPongClock.lean` runs, in source order: `unblock_sync` stores and notifies;
`next_sync` stores (reset) BEFORE it waits -/
def genBlockShape : List (String × OpKind) :=
  [("unblock_sync", OpKind.store), ("unblock_sync", OpKind.notify), ("next_sync", OpKind.store), ("next_sync", OpKind.wait)]

def genBlockOrdersOf (tbl : List Site) : Option PingPong.PingPongOrders :=
  if opsOn tbl "generator::promise_type" "_block" = genBlockShape then
    match siteAt tbl "generator::promise_type" "next_sync" OpKind.store 0, siteAt tbl "generator::promise_type" "unblock_sync" OpKind.store 0,
          siteAt tbl "generator::promise_type" "next_sync" OpKind.wait 0 with
    | some r, some s, some w => some { reset := r.succ, set := s.succ, wait := w.succ }
    | _, _, _ => none
  else none

/-- **Table obligation**: on the current source `unblock_sync`'s store releases and `next_sync`'s wait acquires (the reset store
may have any order; it is relaxed). -/
theorem c03_genblock_orders_current :
    (genBlockOrdersOf Generated.atomicSites).map (·.sufficient) = some true := by decide

/-- **Main theorem at the current table's orders**: synchronous stepping of a generator whose body continues on other threads — any
number of rounds, any chain of (synchronising) hops of the body per round, every schedule, every admissible stale read of `_block` —
never races on the promise's fields (yielded value, exception, done flag, argument, caller slot). -/
theorem c03_genblock_protocol_race_free :
    ∃ o, genBlockOrdersOf Generated.atomicSites = some o ∧
      ∀ (cfg : PingPong.Cfg) (sched : List (Nat × Nat)), (PingPong.run o cfg sched).raced = false := by
  obtain ⟨o, ho, hs⟩ := Option.map_eq_some_iff.1 c03_genblock_orders_current
  exact ⟨o, ho, PingPong.pingpong_race_free o hs⟩

/-- …whenever `wait` has returned (or the caller prepares the next round) the caller has all accesses of all earlier rounds in its clock -/
theorem c03_genblock_caller_sees_round :
    ∃ o, genBlockOrdersOf Generated.atomicSites = some o ∧
      ∀ (cfg : PingPong.Cfg) (sched : List (Nat × Nat)), (PingPong.run o cfg sched).cpc ≠ PingPong.CPc.wait →
        (PingPong.run o cfg sched).bodyAt = none ∧
        ∀ e ∈ (PingPong.run o cfg sched).log, e.2 ≤ (PingPong.run o cfg sched).clk cfg.caller e.1 := by
  obtain ⟨o, ho, hs⟩ := Option.map_eq_some_iff.1 c03_genblock_orders_current
  exact ⟨o, ho, fun cfg sched hc => PingPong.pingpong_caller_sees_round o hs cfg sched hc⟩

/-- `unblock_sync`'s store relaxed: the caller's read of the value races with the body's write on the other thread -/
theorem c03_genblock_needs_release :
    (PingPong.run ⟨Order.relaxed, Order.relaxed, Order.acquire⟩ PingPong.cfg0 PingPong.schedRound).raced = true :=
  PingPong.pingpong_needs_release

/-- `next_sync`'s wait relaxed: same race -/
theorem c03_genblock_needs_acquire :
    (PingPong.run ⟨Order.relaxed, Order.release, Order.relaxed⟩ PingPong.cfg0 PingPong.schedRound).raced = true :=
  PingPong.pingpong_needs_acquire

/-- the condition is exact, and it does not mention the reset store -/
theorem c03_genblock_orders_iff (o : PingPong.PingPongOrders) :
    (∀ (cfg : PingPong.Cfg) (sched : List (Nat × Nat)), (PingPong.run o cfg sched).raced = false) ↔
      (o.set.isRel = true ∧ o.wait.isAcq = true) :=
  PingPong.pingpong_race_free_iff o

/-- Non-vacuity: three rounds.  Round 1: the body hops 0 → 1 → 2 and yields on thread 2; the caller's first `wait` reads its own
reset store (stale but coherent: it blocks), the second reads `true`.  Round 2: the body yields synchronously on the caller's thread.
Round 3: the body hops to thread 2, reads, yields there. -/
def genDemo : List (Nat × Nat) :=
  [(0, 0), (0, 4), (1, 1), (1, 5), (2, 2), (0, 0), (0, 1), (0, 0),
   (0, 0), (0, 2), (0, 0), (0, 0),
   (0, 0), (0, 5), (2, 0), (2, 2), (0, 5), (0, 0)]

example : (PingPong.run ⟨Order.relaxed, Order.release, Order.acquire⟩ PingPong.cfg0 genDemo).raced = false
    ∧ (PingPong.run ⟨Order.relaxed, Order.release, Order.acquire⟩ PingPong.cfg0 genDemo).log.length = 11
    ∧ (PingPong.run ⟨Order.relaxed, Order.release, Order.acquire⟩ PingPong.cfg0 genDemo).hist.length = 7
    ∧ (PingPong.run ⟨Order.relaxed, Order.release, Order.acquire⟩ PingPong.cfg0 genDemo).cpc = PingPong.CPc.start
    ∧ (PingPong.run ⟨Order.relaxed, Order.release, Order.acquire⟩ PingPong.cfg0 (genDemo.take 6)).cpc = PingPong.CPc.wait := by
  decide

/-- the same three rounds with a relaxed wait race -/
example : (PingPong.run ⟨Order.relaxed, Order.release, Order.relaxed⟩ PingPong.cfg0 genDemo).raced = true := by decide

/-! ## the atomic sites no publication goes through

Five sites of `Generated.atomicSites` belong to no protocol of `Props/C03.lean` (`otherSites` there lists them as "no publication") and
to neither model above.  What each protects, read from the code:

**`scheduler::start(awaitable)` — `_elide_state.load(relaxed)`, two `_elide_state.store(…, relaxed)`** (scheduler.h:244/260/279, fix
549691b).  `_elide_state` is a `std::atomic<std::size_t>`: the frame size `start` has learned for the callback coroutine it allocates
with `alloca`.  Every call copies the value into a LOCAL `elide_state`, binds a `stack_storage` to that local, lets
`callback_await_alloc` run (which may raise the local to `sz + 1` when the frame did not fit and went to the heap), and stores the
local back (one store per `if constexpr` branch, so one of the two per instantiation).  The value is a number and nothing else: no
pointer, no plain data behind it.  Whatever admissible value a call reads — 0, its own earlier store, any other thread's store —
`stack_storage::alloc` decides `sz + 1 ≤ _alloc_size` against the size of the buffer THIS call `alloca`ed from the very same
local, so every value is safe and only the hit rate of the stack path depends on it.  It is a pure hint: every order is sufficient,
there is no plain location to race on (`c03_elide_hint_race_free`, `stackFits_sound`).  The obligation that remains is the shape:
the member is touched by atomic loads and stores only (it was a plain member, raced on, before fix 549691b).

**`async::co_awaiter` — `await_ready`: `_awaiter.load(relaxed)`, `await_suspend`: `_awaiter.store(this, relaxed)`** (async.h:102/108).
The `co_awaiter` object is at once the awaiter and the `future<T>` of the `co_await some_async(...)` expression; it lives in the
awaiting coroutine's frame and its address is given to exactly one party: `p._future = this`, the promise of the async coroutine
that `await_suspend` starts by symmetric transfer.  `await_ready` reads the still private future's slot (never `disabled`: the
coroutine is not started yet), `await_suspend` registers the object as the only entry of its own chain by a plain-looking relaxed
store INSTEAD of the subscribing CAS — legitimate because no promise exists yet that could resolve concurrently.  From then on one
control flow touches the object: the started coroutine runs on this thread, may hop to other threads at its own `co_await`s (each
hop publishes the suspended coroutine through one of C03's protocols — the modelled assumption, as for the generator's body), and
at its end `final_awaiter::await_suspend` does `_future->set(…)`, `resolve()` (the `resume_chain_set_ready` exchange, which reads the
stored `this` as the modification-order-latest value and returns the awaiting coroutine's handle) and transfers to the awaiting
coroutine ON THE SAME THREAD, whose `await_resume` reads the value.  No second party ever accesses the object concurrently, so the
two relaxed operations order nothing and need not: the data is ordered by program order plus the hop chain
(`c03_async_awaiter_race_free`: a single control flow that migrates by synchronising hops never races, whatever orders its atomic
operations have).  The resolver's side (`resume_chain_set_ready`, `future::set`) is the promise/future protocol of `Props/C03.lean` /
`ChainClock.lean`.  Obligation: the shape — in `co_awaiter` the slot is touched by exactly this load and this store. -/

/-- `_elide_state` is touched by one relaxed-or-stronger atomic load and the two branch stores of `scheduler::start`, nothing else -/
theorem c03_elide_hint_orders_current :
    opsOn Generated.atomicSites "scheduler" "_elide_state" = [("start", OpKind.load), ("start", OpKind.store), ("start", OpKind.store)]
    ∧ (Generated.atomicSites.filter (fun s => s.obj == "_elide_state" && s.cls != "scheduler")).length = 0 := by decide

/-- operations of any thread on the hint: a load (any order, any admissible message) or a store (any order, any value) -/
inductive HintOp where
  | load (ord : Order) (choice : Nat)
  | store (ord : Order) (v : Nat)
  deriving Repr

def hintStep (s : Clock.St) (e : Nat × HintOp) : Clock.St :=
  match e.2 with
  | HintOp.load o c => Clock.doLoad o s e.1 c
  | HintOp.store o v => Clock.doStore o v s e.1

/-- a location that is only ever loaded and stored atomically, with no plain data behind it, cannot be part of a race: on the machine
of `Clock.lean` any number of threads loading / storing it with any orders never set `raced` -/
theorem c03_elide_hint_race_free (sched : List (Nat × HintOp)) : (sched.foldl hintStep Clock.St.init).raced = false := by
  refine List.foldlRecOn sched hintStep (motive := fun s => s.raced = false) (b := Clock.St.init) rfl fun s h e _ => ?_
  unfold hintStep
  split <;> exact h

/-- `stack_storage::alloc` for a frame of `sz` bytes in a buffer of `hint` bytes (`alloca(storage)` with `_alloc_size = hint`):
`true` = on the stack -/
def stackFits (hint sz : Nat) : Bool := decide (sz + 1 ≤ hint)

/-- whatever value the relaxed load returned, a frame placed on the stack fits the buffer that was sized by that same value -/
theorem stackFits_sound (hint sz : Nat) (h : stackFits hint sz = true) : sz + 1 ≤ hint := by
  simpa [stackFits] using h

/-- the `co_awaiter`'s slot is touched, inside `co_awaiter`, by the relaxed load of `await_ready` and the relaxed store of
`await_suspend` only -/
theorem c03_async_awaiter_orders_current :
    opsOn Generated.atomicSites "async::co_awaiter" "_awaiter" = [("await_ready", OpKind.load), ("await_suspend", OpKind.store)] := by
  decide

/-- what one control flow does: plain accesses to the object, atomic operations on its slot with ANY order, a synchronising hop -/
inductive SoloOp where
  | read | write
  | load (ord : Order) (choice : Nat)
  | store (ord : Order) (v : Nat)
  | rmw (ord : Order) (v : Nat)
  | hop (u : Nat)
  deriving Repr

/-- the machine of `Clock.lean` plus the thread the control flow is on -/
structure SoloSt where
  m : Clock.St
  cur : Nat

/-- MODELLED ASSUMPTION as in `PingPongClock.lean`: a hop joins the leaving thread's clock into the receiving thread's -/
def soloHop (s : SoloSt) (u : Nat) : SoloSt :=
  ⟨{ s.m with clk := Clock.upd (Clock.upd s.m.clk u (Clock.VC.join (s.m.clk u) (s.m.clk s.cur))) s.cur
                        (Clock.VC.tick (s.m.clk s.cur) s.cur) }, u⟩

/-- only the thread the control flow is on acts -/
def soloStep (s : SoloSt) (e : Nat × SoloOp) : SoloSt :=
  if e.1 = s.cur then
    match e.2 with
    | SoloOp.read => ⟨Clock.doRead s.m s.cur, s.cur⟩
    | SoloOp.write => ⟨Clock.doWrite s.m s.cur, s.cur⟩
    | SoloOp.load o c => ⟨Clock.doLoad o s.m s.cur c, s.cur⟩
    | SoloOp.store o v => ⟨Clock.doStore o v s.m s.cur, s.cur⟩
    | SoloOp.rmw o v => ⟨Clock.doRmw o (fun _ => v) s.m s.cur, s.cur⟩
    | SoloOp.hop u => if u = s.cur then s else soloHop s u
  else s

structure SoloInv (s : SoloSt) : Prop where
  nr : s.m.raced = false
  wr : s.m.wr.2 ≤ s.m.clk s.cur s.m.wr.1
  rd : ∀ e ∈ s.m.rd, e.2 ≤ s.m.clk s.cur e.1

/-- atomic operations and hops leave `data`'s record alone and only raise the clock the control flow carries -/
theorem SoloInv.mono {s : SoloSt} (h : SoloInv s) {m : Clock.St} {u : Nat} (hr : m.raced = s.m.raced) (hw : m.wr = s.m.wr)
    (hd : m.rd = s.m.rd) (hc : ∀ i, s.m.clk s.cur i ≤ m.clk u i) : SoloInv ⟨m, u⟩ :=
  ⟨hr ▸ h.nr, hw ▸ Nat.le_trans h.wr (hc _), fun e he => Nat.le_trans (h.rd e (hd ▸ he)) (hc _)⟩

theorem soloInv_step {s : SoloSt} (h : SoloInv s) (e : Nat × SoloOp) : SoloInv (soloStep s e) := by
  unfold soloStep
  split
  · split
    · refine ⟨by simp [Clock.doRead, Clock.ordW, h.nr, h.wr], h.wr, fun e he => ?_⟩
      rcases List.mem_cons.1 he with rfl | he
      · exact Nat.le_refl _
      · exact h.rd e he
    · exact ⟨by simpa [Clock.doWrite, Clock.ordW, Clock.ordR, h.nr, h.wr] using h.rd, Nat.le_refl _, nofun⟩
    · exact h.mono rfl rfl rfl fun i => by simp only [Clock.doLoad, Clock.upd_same]; exact Clock.le_acqVc ..
    · exact h.mono rfl rfl rfl fun i => by simp only [Clock.doStore, Clock.upd_same]; exact Clock.le_tickIf ..
    · exact h.mono rfl rfl rfl fun i => by simp only [Clock.doRmw, Clock.upd_same]; exact Clock.le_rmw ..
    · split
      · exact h
      · exact h.mono rfl rfl rfl (Clock.le_hop_recv _ _ _)
  · exact h

/-- A single control flow that starts on any thread, migrates by synchronising hops and performs any plain accesses and any atomic
operations with ANY memory orders never races with itself: the `co_awaiter` object of `async<T>` needs nothing from its two relaxed
operations. -/
theorem c03_async_awaiter_race_free (t0 : Nat) (sched : List (Nat × SoloOp)) :
    (sched.foldl soloStep ⟨Clock.St.init, t0⟩).m.raced = false :=
  (List.foldlRecOn sched soloStep (motive := SoloInv) ⟨rfl, by simp [Clock.St.init], by simp [Clock.St.init]⟩
    fun _ h e _ => soloInv_step h e).nr

/-- non-vacuity: `await_suspend` on thread 0 (write handle, relaxed store, write `_future`), the coroutine hops to thread 1 and to
thread 2, sets the value there, resolves with an exchange, the awaiting coroutine reads the value on thread 2 -/
example : ([(0, SoloOp.load Order.relaxed 0), (0, SoloOp.write), (0, SoloOp.store Order.relaxed 1), (0, SoloOp.write), (0, SoloOp.hop 1),
            (1, SoloOp.read), (1, SoloOp.hop 2), (2, SoloOp.write), (2, SoloOp.rmw Order.relaxed 2), (2, SoloOp.read)].foldl soloStep
            ⟨Clock.St.init, 0⟩).m.rd = [(2, 1)] := by decide

/-- every atomic site of `reusable_storage_mtsafe`, on `_block`, on `_elide_state` and of `async::co_awaiter` is accounted for by one of
the four lookups above -/
theorem c03_small_sites_accounted :
    (Generated.atomicSites.filter (fun s => !s.inAssert &&
        (s.cls == "reusable_storage_mtsafe" || s.obj == "_block" || s.obj == "_elide_state" || s.cls == "async::co_awaiter"))).length
      = 3 + 4 + 3 + 2 := by decide

/-! ## `signal<T>` — the whole protocol on the happens-before machine

`Props/C03.lean` lists the signal as one line ("awaiter node via signal chain": subscribe CAS / `resume_chain` exchange).
`SignalClock.lean` runs the WHOLE protocol — a collector thread emitting value after value and finally destroying the state, any number
of emitters of both flavours (coroutines, `connect`ed callbacks) subscribing from their own threads at any moment, failed CAS tries,
listeners resumed on the collector's thread that re-await at once / leave for another thread and come back / end — on the
happens-before machine, with FastTrack metadata for EVERY plain location (`_cur_val`, `_value_storage`, the emitted value, each node's
`_next` and handle / resume fn); `SignalClock.signal_race_free` (SignalClockProofs.lean) proves race freedom from `SignalOrders.sufficient`, which asks
release of the subscribe CAS and acquire of the `resume_chain` exchange — for the NODES; nothing for the value: every access to `_cur_val`,
`_value_storage` and the value is made by the collector's thread (`signal_waiter_sees_value`, `signal_value_thread0`; the access table
is the module docstring of `SignalClock.lean`).  Here the orders are looked up in the extracted table.

Model assumption → obligation that checks it against the source:

| assumption of `SignalClock.lean` | obligation |
|---|---|
| `awaiter::subscribe` = one CAS (plus a load inside `assert`), `resume_chain` = one exchange; no other atomic operation in `resume_chain_lk` | `c03_signal_orders_current` (shape part of `signalOrdersOf`) |
| `signal.h` has no atomic operation of its own: every synchronisation of the signal goes through those two | `c03_signal_no_own_atomics` |
| in `subscribe` the only access to the node outside `assert` is the CAS's expected value (`_next`, read and written back), not after the successful CAS | `c03_signal_subscribe_accesses` |
| per node the walker reads `_next`, writes `_next`, calls `resume()`, in this order | `c03_signal_walk_accesses` |

Position facts about `signal.h` itself (rows of `Generated.plainAccesses` for the functions of `signal.h`: `SIGNAL_FUNCS` … of
`extract/extract.py`, designated per class; obligations at the end of this section, stated over ROLES — "a value location", "a node set-up
call", "a member of the awaiter object itself", "the classes local to `connect`" — not over the names of locals or of private members):

| assumption of `SignalClock.lean` | obligation |
|---|---|
| `collector::operator()`, every overload: `_value_storage` / `_cur_val` are written BEFORE `notify_awaiters()`, no access to them after it (`SignalClock.hCollector` at `CPc.idle`, choices 0 / 1) | `c03_signal_collector_writes_before_notify` |
| `~state`: `_cur_val` is written before `notify_awaiters()`, no access to a value location after it (`SignalClock.hCollector` at `CPc.idle`, choice ≥ 2) | `c03_signal_dtor_clears_before_notify` |
| `notify_awaiters()` is one point for those two: it is the `resume_chain` exchange and touches no value location | `c03_signal_notify_is_resume_chain` |
| `emitter::await_suspend`: `lock()`, `set_handle`, then ONE `subscribe`, nothing of the awaiter after it (`hbTry`) | `c03_signal_emitter_sets_up_before_subscribe` |
| the callback awaiter of `connect` (local class): `set_resume_fn` in the constructor, which does not subscribe; the other member functions do not set the node up, write no member of the object, `lock()` before `subscribe`, touch nothing of the object after `subscribe` | `c03_signal_emitter_sets_up_before_subscribe` |
| `emitter::await_resume`: ONE read of `_cur_val`, under the `lock()`ed strong reference, no write | `c03_signal_await_resume_reads_cur_val` |

ASSUMED (not expressible over the table): the VALUE `~state` stores is `nullptr` (the table has positions, not values); calls of
the callback `_fn` and of other member functions are not rows, so "`_fn` is not called after `subscribe`" in the callback awaiter is read
off by hand; the table is in LEXICAL order, alternatives of an `if` / `if constexpr` count as following each other (hence "only further
`subscribe` calls after the first one"); `hook_up_emitter::await_suspend` is not modelled (single-threaded set-up of a fresh state). -/

def shapeIn (tbl : List Site) (cls fn : String) : List (OpKind × String) :=
  (tbl.filter (fun s => s.cls == cls && s.fn == fn && !s.inAssert)).map (fun s => (s.kind, s.obj))

/-- the memory orders of the signal's chain according to the extracted table; `none` when a site is missing or `subscribe` /
`resume_chain` / `resume_chain_lk` contain any other synchronising operation outside assertions -/
def signalOrdersOf (tbl : List Site) : Option SignalClock.SignalOrders :=
  if shapeIn tbl "awaiter" "subscribe" = [(OpKind.cas, "chain")] ∧ shapeIn tbl "awaiter" "resume_chain" = [(OpKind.xchg, "chain")]
      ∧ shapeIn tbl "awaiter" "resume_chain_lk" = [] then
    match siteAt tbl "awaiter" "subscribe" OpKind.cas 0, siteAt tbl "awaiter" "resume_chain" OpKind.xchg 0 with
    | some cs, some x => some { casSucc := cs.succ, casFail := cs.fail, xchg := x.succ }
    | _, _ => none
  else none

/-- **Table obligation**: on the current source the subscribe CAS releases and the `resume_chain` exchange acquires. -/
theorem c03_signal_orders_current :
    (signalOrdersOf Generated.atomicSites).map (·.sufficient) = some true := by decide

/-- what the obligation buys, for any table that meets it: no plain access of the signal protocol races, for every assignment of
flavours to any number of emitters and every schedule; whoever reads `_cur_val` / the value is the collector's thread and has the
collector's write in its clock; erasing the clocks gives the run of the sequentially consistent base system -/
theorem c03_signal_publish_safe (tbl : List Site) (h : (signalOrdersOf tbl).map (·.sufficient) = some true) :
    ∃ o, signalOrdersOf tbl = some o
      ∧ (∀ (c : SignalClock.Cfg) (sched : List (Nat × Nat)), (SignalClock.run o c sched).raced = false)
      ∧ (∀ (c : SignalClock.Cfg) (sched : List (Nat × Nat)), (SignalClock.run o c sched).base.cpc ≠ SignalClock.CPc.idle →
          (SignalClock.run o c sched).base.alive = true →
          ((SignalClock.run o c sched).val.wr.1 = 0 ∧ 1 ≤ (SignalClock.run o c sched).val.wr.2
            ∧ (SignalClock.run o c sched).val.wr.2 ≤ (SignalClock.run o c sched).clk 0 0)
          ∧ ∀ e ∈ (SignalClock.run o c sched).val.rd, e.2 = 0 ∨ (e.1 = 0 ∧ e.2 ≤ (SignalClock.run o c sched).clk 0 0))
      ∧ (∀ (c : SignalClock.Cfg) (sched : List (Nat × Nat)), (SignalClock.run o c sched).base = SignalClock.brun c sched) := by
  obtain ⟨o, ho, hs⟩ := Option.map_eq_some_iff.1 h
  refine ⟨o, ho, SignalClock.signal_race_free o hs, fun c sched hp hal => ?_, fun c sched => SignalClock.base_run o c sched⟩
  obtain ⟨_, hv, hr⟩ := SignalClock.signal_waiter_sees_value o c sched hp hal
  exact ⟨hv, fun e he => hr e (List.mem_append.mpr (Or.inr he))⟩

/-- **Main theorem at the current table's orders** -/
theorem c03_signal_protocol_race_free :
    ∃ o, signalOrdersOf Generated.atomicSites = some o
      ∧ (∀ (c : SignalClock.Cfg) (sched : List (Nat × Nat)), (SignalClock.run o c sched).raced = false)
      ∧ (∀ (c : SignalClock.Cfg) (sched : List (Nat × Nat)), (SignalClock.run o c sched).base.cpc ≠ SignalClock.CPc.idle →
          (SignalClock.run o c sched).base.alive = true →
          ((SignalClock.run o c sched).val.wr.1 = 0 ∧ 1 ≤ (SignalClock.run o c sched).val.wr.2
            ∧ (SignalClock.run o c sched).val.wr.2 ≤ (SignalClock.run o c sched).clk 0 0)
          ∧ ∀ e ∈ (SignalClock.run o c sched).val.rd, e.2 = 0 ∨ (e.1 = 0 ∧ e.2 ≤ (SignalClock.run o c sched).clk 0 0))
      ∧ (∀ (c : SignalClock.Cfg) (sched : List (Nat × Nat)), (SignalClock.run o c sched).base = SignalClock.brun c sched) :=
  c03_signal_publish_safe _ c03_signal_orders_current

/-- necessity: the subscribe CAS relaxed — the walker's read of `_next` races with the emitter's initialisation of its node -/
theorem c03_signal_needs_release_cas :
    (SignalClock.run { SignalClock.srcOrders with casSucc := Order.relaxed } SignalClock.cfgMix SignalClock.schedOne).raced = true :=
  SignalClock.signal_needs_release_cas

/-- necessity: the `resume_chain` exchange relaxed -/
theorem c03_signal_needs_acquire_xchg :
    (SignalClock.run { SignalClock.srcOrders with xchg := Order.relaxed } SignalClock.cfgMix SignalClock.schedOne).raced = true :=
  SignalClock.signal_needs_acquire_xchg

/-- every order table that does not meet `sufficient` has a racing execution of the signal protocol: the condition is exact -/
theorem c03_signal_orders_necessary (o : SignalClock.SignalOrders) :
    (∀ (c : SignalClock.Cfg) (sched : List (Nat × Nat)), (SignalClock.run o c sched).raced = false) ↔ o.sufficient = true :=
  SignalClock.signal_race_free_iff o

/-- the VALUE needs no memory order at all (no hypothesis on `o`): `_cur_val`, `_value_storage` and the emitted value are accessed by
the collector's thread only, the listeners' continuations run inside the collector's call -/
theorem c03_signal_value_needs_no_order (o : SignalClock.SignalOrders) (c : SignalClock.Cfg) (sched : List (Nat × Nat)) :
    (SignalClock.run o c sched).racedV = false :=
  SignalClock.signal_value_needs_no_order o c sched

/-- the base system of `SignalClock.lean` refines the publication micro-model `Signal.Pub` of C15 on the chain (events `cas` / `release`
only, no access after the publishing CAS) -/
theorem c03_signal_base_refines_pub (c : SignalClock.Cfg) (sched : List (Nat × Nat)) :
    ∃ ops : List Signal.Pub.Op, (Signal.Pub.run ops).chain = (SignalClock.brun c sched).chain ∧ (∀ l, Signal.Pub.Op.post l ∉ ops) :=
  SignalClock.base_refines_pub c sched

/-- the CAS failure order is not constrained: whatever is written there, the protocol stays race free at the current table's other orders
(deliberately no obligation that it IS relaxed: strengthening is harmless) -/
theorem c03_signal_failure_order_free (f : Order) :
    ∃ o, signalOrdersOf Generated.atomicSites = some o
      ∧ ∀ (c : SignalClock.Cfg) (sched : List (Nat × Nat)), (SignalClock.run { o with casFail := f } c sched).raced = false := by
  obtain ⟨o, ho, hs⟩ := Option.map_eq_some_iff.1 c03_signal_orders_current
  exact ⟨o, ho, SignalClock.signal_race_free _ (by simpa [SignalClock.SignalOrders.sufficient] using hs)⟩

/-- non-vacuity: four emitters of both flavours (1, 3 coroutines; 2, 4 callbacks; 4 subscribes LATE, during the first walk), failed CAS
tries on both kinds of thread, two collector calls (by value, by lvalue), a coroutine that leaves the collector's thread and subscribes
again from its own, a callback that answers false, a coroutine that ends, then `~state` with a coroutine and a callback still
subscribed: seven reads of the value, all by thread 0, every emitter finished, nothing races — and the same run races as soon as either
order is weakened -/
example : (SignalClock.run SignalClock.srcOrders SignalClock.cfgMix SignalClock.schedMany).raced = false
    ∧ (SignalClock.run SignalClock.srcOrders SignalClock.cfgMix SignalClock.schedMany).base.cpc = SignalClock.CPc.dead
    ∧ (SignalClock.run SignalClock.srcOrders SignalClock.cfgMix SignalClock.schedMany).base.emitted = 2
    ∧ (SignalClock.run SignalClock.srcOrders SignalClock.cfgMix SignalClock.schedMany).base.reads.length = 7
    ∧ ((SignalClock.run SignalClock.srcOrders SignalClock.cfgMix SignalClock.schedMany).val.rd.all (fun e => e.1 == 0)) = true
    ∧ (SignalClock.run { SignalClock.srcOrders with casSucc := Order.relaxed } SignalClock.cfgMix SignalClock.schedMany).raced = true
    ∧ (SignalClock.run { SignalClock.srcOrders with xchg := Order.relaxed } SignalClock.cfgMix SignalClock.schedMany).raced = true := by
  decide

/-! position facts the model assumes about `awaiter.h` / `signal.h` -/

/-- `signal.h` has no atomic operation of its own: no site on the state's `_chain` member, none in a class of `signal.h` -/
theorem c03_signal_no_own_atomics :
    (Generated.atomicSites.filter (fun s => s.obj == "_chain" || s.cls == "signal" || s.cls == "signal::state"
      || s.cls == "signal::collector" || s.cls == "signal::emitter" || s.cls == "signal::hook_up_emitter" || s.cls == "Awt"
      || s.cls == "signal::Awt" || s.cls == "signal::connect::Awt")).length = 0 := by decide

def plainShape (tbl : List PlainAccess) (cls fn : String) : List (String × String × Bool × Nat) :=
  (tbl.filter (fun a => a.cls == cls && a.fn == fn && !a.inAssert)).map (fun a => (a.base, a.field, a.write, a.nOps))

/-- the rows of (class, function), split into its overloads (the position counter restarts at 0 for every function body) -/
def sigOverloads (tbl : List PlainAccess) (cls fn : String) : List (List PlainAccess) :=
  (tbl.filter (fun a => a.cls == cls && a.fn == fn)).foldr (fun a acc =>
    match acc with
    | [] => [[a]]
    | seg :: rest => if (seg.head?.map (·.pos)).getD 0 == 0 then [a] :: seg :: rest else (a :: seg) :: rest) []

/-- ROLE "a value location of the signal state": `_cur_val`, `_value_storage` through whatever object expression, or a store through a
pointer (pseudo field `*…`) -/
def isSigValue (a : PlainAccess) : Bool :=
  a.field == "_cur_val" || a.field == "_value_storage" || a.field.toList.head? == some '*'

def isCall (a : PlainAccess) (name : String) : Bool := a.field == "call:" ++ name

/-- ROLE "set-up of the awaiter node": `set_handle` / `set_resume_fn` -/
def isNodeSetup (a : PlainAccess) : Bool := isCall a "set_handle" || isCall a "set_resume_fn"

/-- ROLE "something of the awaiter object itself": a member of `*this` under any name, a store through a pointer, or a node set-up call
(calls of OTHER member functions and of the callback are not rows of the table) -/
def isOwnTouch (a : PlainAccess) : Bool :=
  isNodeSetup a || (a.base == "" && a.field.toList.take 5 != "call:".toList) || a.field.toList.head? == some '*'

/-- one function body: there is a `notify_awaiters()` call, `_cur_val` is written, every access (read or write, assertions included) to a
value location precedes every `notify_awaiters()` call — so nothing of the value is written or read by the collector's code once the
chain has been taken -/
def valueBeforeNotify (seg : List PlainAccess) : Bool :=
  let notes := (seg.filter (fun a => isCall a "notify_awaiters")).map (·.pos)
  notes.length ≥ 1
  && (seg.any (fun a => a.field == "_cur_val" && a.write && !a.inAssert))
  && (seg.filter isSigValue).all (fun a => notes.all (fun n => a.pos < n))

/-- every overload of `collector::operator()` (`SignalClock.hCollector` at `CPc.idle`: value, `_value_storage`, `_cur_val`, THEN the exchange) -/
def collectorWritesBeforeNotify (tbl : List PlainAccess) : Bool :=
  let segs := sigOverloads tbl "signal::collector" "operator()"
  segs.length ≥ 1 && segs.all valueBeforeNotify

/-- `~state` (`SignalClock.hCollector` at `CPc.idle`, last choice: `_cur_val = nullptr`, THEN the exchange) -/
def dtorClearsBeforeNotify (tbl : List PlainAccess) : Bool :=
  let segs := sigOverloads tbl "signal::state" "~state"
  segs.length == 1 && segs.all valueBeforeNotify

/-- `state::notify_awaiters` is the exchange on the chain (`awaiter::resume_chain`) and touches no value location: the call is one
point in the order of the caller's rows -/
def notifyIsResumeChain (tbl : List PlainAccess) : Bool :=
  let rows := tbl.filter (fun a => a.cls == "signal::state" && a.fn == "notify_awaiters")
  (rows.filter (fun a => isCall a "resume_chain" && !a.inAssert)).length == 1 && !(rows.any isSigValue)

/-- rows of the classes local to `signal::connect` (the callback awaiter; its class and member names are nobody's interface) -/
def connectLocalRows (tbl : List PlainAccess) : List PlainAccess :=
  tbl.filter (fun a => "signal::connect::".toList.isPrefixOf a.cls.toList)

/-- name of the constructor of a class given as `a::b::C`: `C` -/
def ctorNameOf (cls : String) : String := String.ofList ((cls.toList.reverse.takeWhile (· != ':')).reverse)

/-- one function body that publishes the awaiter: once `subscribe` has been called nothing of the awaiter object is touched any more and the
node is not set up any more — the only rows after the first `subscribe` are further `subscribe` calls (the alternatives of an
`if` / `if constexpr`: the table is in lexical order) -/
def nothingAfterSubscribe (seg : List PlainAccess) : Bool :=
  match ((seg.filter (fun a => isCall a "subscribe")).map (·.pos)).head? with
  | none => true
  | some p => (seg.filter (fun a => a.pos > p && isOwnTouch a)).isEmpty

/-- `emitter::await_suspend` (`SignalClock.hbTry` after the node's initialisation): the strong reference is taken (`lock()`), the handle is
set, then — once — `subscribe`, and nothing of the awaiter after it.  The callback awaiter of `connect`: the resume function is set by
the constructor, which does not subscribe; no other member function sets the node up or writes a member of the object; each
of them takes the strong reference before it subscribes and touches nothing of the object after `subscribe`. -/
def emitterSetsUpBeforeSubscribe (tbl : List PlainAccess) : Bool :=
  let segs := sigOverloads tbl "signal::emitter" "await_suspend"
  let loc := connectLocalRows tbl
  let ctor := loc.filter (fun a => a.fn == ctorNameOf a.cls)
  let rest := loc.filter (fun a => a.fn != ctorNameOf a.cls)
  segs.length == 1
  && segs.all (fun seg =>
      (seg.filter (fun a => isCall a "subscribe")).length == 1
      && seg.any (fun a => isCall a "set_handle" && !a.inAssert)
      && (seg.filter isNodeSetup).all (fun a => (seg.filter (fun b => isCall b "subscribe")).all (fun b => a.pos < b.pos))
      && (seg.filter (fun a => isCall a "subscribe")).all (fun b => seg.any (fun a => isCall a "lock" && a.pos < b.pos))
      && nothingAfterSubscribe seg)
  && ctor.any (fun a => isCall a "set_resume_fn" && !a.inAssert)
  && !(ctor.any (fun a => isCall a "subscribe"))
  && rest.any (fun a => isCall a "subscribe")
  && !(rest.any (fun a => isNodeSetup a || (isOwnTouch a && a.write)))
  && (rest.map (fun a => (a.cls, a.fn))).eraseDups.all (fun cf =>
      (sigOverloads rest cf.1 cf.2).all (fun seg =>
        nothingAfterSubscribe seg
        && (seg.filter (fun a => isCall a "subscribe")).all (fun b => seg.any (fun a => isCall a "lock" && a.pos < b.pos))))

/-- `emitter::await_resume` (`SignalClock.hbResume`: ONE read of `_cur_val`, under the `lock()`ed strong reference): outside assertions exactly one
row on a value location — a read of `_cur_val`, after a `lock()` call — and no write to one anywhere -/
def awaitResumeReadsCurVal (tbl : List PlainAccess) : Bool :=
  let segs := sigOverloads tbl "signal::emitter" "await_resume"
  segs.length == 1
  && segs.all (fun seg =>
      !(seg.any (fun a => isSigValue a && a.write))
      && match seg.filter (fun a => isSigValue a && !a.inAssert) with
         | [r] => r.field == "_cur_val" && seg.any (fun a => isCall a "lock" && a.pos < r.pos)
         | _ => false)

/-- All position obligations of this section as ONE decided statement over the table: they share their selections (`connectLocalRows`,
the constructor names, the split into overloads).  The eight obligations below are its conjuncts. -/
theorem c03_signal_rows_current :
    plainShape Generated.plainAccesses "awaiter" "subscribe" = [("", "_next", true, 0)]
    ∧ (plainShape Generated.plainAccesses "awaiter" "resume_chain_lk").map (fun r => (r.1, r.2.1, r.2.2.1))
        = [("chain", "_next", false), ("y", "_next", true), ("", "call:resume", false)]
    ∧ collectorWritesBeforeNotify Generated.plainAccesses = true
    ∧ dtorClearsBeforeNotify Generated.plainAccesses = true
    ∧ notifyIsResumeChain Generated.plainAccesses = true
    ∧ emitterSetsUpBeforeSubscribe Generated.plainAccesses = true
    ∧ awaitResumeReadsCurVal Generated.plainAccesses = true
    ∧ ((sigOverloads Generated.plainAccesses "signal::collector" "operator()").length = 3
      ∧ ((connectLocalRows Generated.plainAccesses).map (fun a => (a.cls, a.fn))).eraseDups.length ≥ 3) := by decide

/-- `subscribe`: outside `assert` the awaiter is touched through the CAS's expected value only (`_next`: read, and written back by a
failed try — `SignalClock.hbTry`), and not after the CAS that publishes it -/
theorem c03_signal_subscribe_accesses :
    plainShape Generated.plainAccesses "awaiter" "subscribe" = [("", "_next", true, 0)] := c03_signal_rows_current.1

/-- `resume_chain_lk` per node: read `chain->_next`, write `y->_next`, `y->resume()` — `SignalClock.hbWalkNode` -/
theorem c03_signal_walk_accesses :
    (plainShape Generated.plainAccesses "awaiter" "resume_chain_lk").map (fun r => (r.1, r.2.1, r.2.2.1))
      = [("chain", "_next", false), ("y", "_next", true), ("", "call:resume", false)] := c03_signal_rows_current.2.1

theorem c03_signal_collector_writes_before_notify : collectorWritesBeforeNotify Generated.plainAccesses = true := c03_signal_rows_current.2.2.1

theorem c03_signal_dtor_clears_before_notify : dtorClearsBeforeNotify Generated.plainAccesses = true := c03_signal_rows_current.2.2.2.1

theorem c03_signal_notify_is_resume_chain : notifyIsResumeChain Generated.plainAccesses = true := c03_signal_rows_current.2.2.2.2.1

theorem c03_signal_emitter_sets_up_before_subscribe : emitterSetsUpBeforeSubscribe Generated.plainAccesses = true := c03_signal_rows_current.2.2.2.2.2.1

theorem c03_signal_await_resume_reads_cur_val : awaitResumeReadsCurVal Generated.plainAccesses = true := c03_signal_rows_current.2.2.2.2.2.2.1

/-- the rows exist: three collector overloads, the callback awaiter's constructor and at least two more member functions of it
(an emptied table must not satisfy the obligations vacuously — the `length` / `any` clauses above say the same per obligation) -/
theorem c03_signal_rows_present :
    (sigOverloads Generated.plainAccesses "signal::collector" "operator()").length = 3
    ∧ ((connectLocalRows Generated.plainAccesses).map (fun a => (a.cls, a.fn))).eraseDups.length ≥ 3 := c03_signal_rows_current.2.2.2.2.2.2.2

private def row (cls fn base field : String) (write : Bool) (pos : Nat) : PlainAccess :=
  { cls := cls, fn := fn, base := base, field := field, write := write, pos := pos, nOps := 0, inAssert := false }

/-- `_cur_val` assigned after `notify_awaiters()` in one overload (here: the lvalue one) is rejected -/
example : collectorWritesBeforeNotify
    [row "signal::collector" "operator()" "_state" "_cur_val" true 0, row "signal::collector" "operator()" "" "call:notify_awaiters" false 1,
     row "signal::collector" "operator()" "" "call:notify_awaiters" false 0, row "signal::collector" "operator()" "_state" "_cur_val" true 1] = false := by
  decide

/-- a READ of the storage after the call is rejected as well, under any object expression -/
example : collectorWritesBeforeNotify
    [row "signal::collector" "operator()" "st" "_cur_val" true 0, row "signal::collector" "operator()" "" "call:notify_awaiters" false 1,
     row "signal::collector" "operator()" "st" "_value_storage" false 2] = false := by decide

/-- `await_suspend` as the model has it, and a callback awaiter under other names (class `W`, functions `go` / `again`, members `_ref`,
`_count`) -/
private def suspendOk : List PlainAccess :=
  [row "signal::emitter" "await_suspend" "" "_wk_state" false 0, row "signal::emitter" "await_suspend" "" "call:lock" false 1,
   row "signal::emitter" "await_suspend" "" "call:set_handle" false 2, row "signal::emitter" "await_suspend" "" "call:subscribe" false 3]
private def callbackOk : List PlainAccess :=
  [row "signal::connect::W" "W" "" "call:set_resume_fn" false 0,
   row "signal::connect::W" "go" "" "_ref" false 0, row "signal::connect::W" "go" "" "call:lock" false 1,
   row "signal::connect::W" "go" "" "call:subscribe" false 2, row "signal::connect::W" "go" "" "call:subscribe" false 3,
   row "signal::connect::W" "again" "" "_ref" false 0, row "signal::connect::W" "again" "" "call:lock" false 1,
   row "signal::connect::W" "again" "" "call:subscribe" false 2]

/-- accepted: the obligation does not depend on `Awt`, `resume`, `initial_reg`, `st`, `_wk_state` -/
example : emitterSetsUpBeforeSubscribe (suspendOk ++ callbackOk) = true := by decide

/-- `subscribe` before `set_handle` in `await_suspend` is rejected -/
example : emitterSetsUpBeforeSubscribe
    ([row "signal::emitter" "await_suspend" "" "_wk_state" false 0, row "signal::emitter" "await_suspend" "" "call:lock" false 1,
      row "signal::emitter" "await_suspend" "" "call:subscribe" false 2, row "signal::emitter" "await_suspend" "" "call:set_handle" false 3]
     ++ callbackOk) = false := by decide

/-- a member of the callback awaiter touched after `subscribe` is rejected, whatever the class, the function and the member are called;
so are a node set-up outside the constructor and a constructor that subscribes -/
example : emitterSetsUpBeforeSubscribe (suspendOk ++ callbackOk ++ [row "signal::connect::W" "again" "" "_count" false 3]) = false
    ∧ emitterSetsUpBeforeSubscribe (suspendOk ++ callbackOk ++ [row "signal::connect::W" "again" "" "call:set_resume_fn" false 3]) = false
    ∧ emitterSetsUpBeforeSubscribe (suspendOk ++ callbackOk ++ [row "signal::connect::W" "W" "" "call:subscribe" false 1]) = false := by
  decide

/-- two reads of `_cur_val` in `await_resume` are rejected -/
example : awaitResumeReadsCurVal
    [row "signal::emitter" "await_resume" "" "call:lock" false 0, row "signal::emitter" "await_resume" "s" "_cur_val" false 1,
     row "signal::emitter" "await_resume" "s" "_cur_val" false 2] = false := by decide

end Cocls.C03b
