import CoclsModel.Clock
import CoclsModel.LockDisc
import CoclsModel.Generated.AtomicSites
import CoclsModel.Generated.LockTables
import CoclsModel.Generated.SharedAccess
import CoclsModel.LockProg
import CoclsModel.Generated.LockProgs
import CoclsModel.ChainClockProofs
import CoclsModel.MutexClockProofs
import CoclsModel.MutexPtrProofs
/-!
# C03 — cross-thread operations are data-race free and publish results safely

Every obligation is a `decide` over a table that `extract/` regenerates from `/repo`'s headers on every run, next to the theorem
that says what the decided condition buys on a happens-before machine:

1. **Memory orders of the lock-free protocols, pair by pair.** Every publication protocol of the library is an instance of
   release/acquire message passing (`Clock.lean`). `protocols` names, for each protocol, the publishing and the observing
   operation by (class, function, kind, n-th); `ordersOf` looks the orders up in the extracted table; `Sufficient` is the
   decidable conjunction "every protocol's orders are sufficient"; `mp_safe_iff` (Clock.lean) shows that condition is
   exactly necessary and sufficient for race freedom of the machine.  `sitesAccounted`: no atomic operation of the source is
   outside `protocols` and `otherSites`.
2. **Lock discipline of the lock-based services**: every access to a mutex-guarded field of `queue`, `limited_queue`,
   `thread_pool`, `scheduler`, `publisher::queue` happens inside a lock region (or in a constructor/destructor) — once over the
   flat access table (`LockDisc.lean`; `lock_discipline_safe` is what that buys), once over the statement structure of the member
   functions (`LockProg.lean`, `lockfns_safe`).
3. **Position facts** about plain accesses to published nodes (no touch after the publishing CAS, read-before-resume).
4. **Whole protocols.** The promise / future / awaiter chain (`ChainClock.lean`) and the coroutine mutex (`MutexClock.lean`): the
   micro-step model of the protocol with vector clocks under it, race free for every configuration and schedule if the orders
   looked up at its sites are sufficient.  The repeatedly used small protocols and the signal are in `Props/C03b.lean`.
-/
namespace Cocls.C03
open Cocls.Clock

/-- (class, function, kind, n-th such operation outside assertions) -/
structure SiteRef where
  cls : String
  fn : String
  kind : OpKind
  nth : Nat := 0
  deriving Repr, DecidableEq

def findSite (tbl : List Site) (r : SiteRef) : Option Site :=
  (tbl.filter (fun s => s.cls == r.cls && s.fn == r.fn && s.kind == r.kind && !s.inAssert))[r.nth]?

structure Proto where
  name : String
  pub : SiteRef                 -- operation that publishes (store / RMW)
  obs : SiteRef                 -- operation through which another thread learns about it
  obsUsesFailureOrder : Bool := false   -- the observation is a *failing* CAS (its failure order counts)
  fence : Option SiteRef := none        -- acquire fence executed after the observation, before the data is touched
  mid : Option SiteRef := none          -- RMWs other threads may perform in between (release-sequence bystanders)
  deriving Repr

def protocols : List Proto := [
  -- the result of a future: future::set; resolve() exchange  →  ready() load
  { name := "payload via ready()",
    pub := ⟨"awaiter", "resume_chain_set_ready", OpKind.xchg, 0⟩, obs := ⟨"future_common", "ready", OpKind.load, 0⟩ },
  -- … → refused subscribe (failing CAS sees the ready marker) + acquire fence
  { name := "payload via refused subscribe",
    pub := ⟨"awaiter", "resume_chain_set_ready", OpKind.xchg, 0⟩, obs := ⟨"awaiter", "subscribe_check_ready", OpKind.cas, 0⟩,
    obsUsesFailureOrder := true, fence := some ⟨"awaiter", "subscribe_check_ready", OpKind.fence, 0⟩ },
  -- … → blocking waiter: flag store by the walker → flag.wait
  { name := "payload / lock hand-over via sync_awaiter flag",
    pub := ⟨"sync_awaiter", "wakeup", OpKind.store, 0⟩, obs := ⟨"co_awaiter", "sync", OpKind.wait, 0⟩ },
  { name := "payload via sync_awaiter flag (force_sync)",
    pub := ⟨"sync_awaiter", "wakeup", OpKind.store, 0⟩, obs := ⟨"co_awaiter", "force_sync", OpKind.wait, 0⟩ },
  -- a waiter's node (handle, resume function, _next): subscribe CAS → resolver's exchange, other waiters push in between
  { name := "awaiter node via future chain",
    pub := ⟨"awaiter", "subscribe_check_ready", OpKind.cas, 0⟩, obs := ⟨"awaiter", "resume_chain_set_ready", OpKind.xchg, 0⟩,
    mid := some ⟨"awaiter", "subscribe_check_ready", OpKind.cas, 0⟩ },
  { name := "awaiter node via signal chain",
    pub := ⟨"awaiter", "subscribe", OpKind.cas, 0⟩, obs := ⟨"awaiter", "resume_chain", OpKind.xchg, 0⟩,
    mid := some ⟨"awaiter", "subscribe", OpKind.cas, 0⟩ },
  -- coroutine mutex: data of the critical section, unlock fast path → try_lock / ready()
  { name := "mutex unlock → ready()",
    pub := ⟨"mutex", "unlock", OpKind.cas, 0⟩, obs := ⟨"mutex", "ready", OpKind.cas, 0⟩ },
  -- … → subscriber that finds the mutex free: its publishing CAS continues the release sequence, build_queue acquires
  { name := "mutex unlock → subscribe(found free) → build_queue",
    pub := ⟨"mutex", "unlock", OpKind.cas, 0⟩, obs := ⟨"mutex", "build_queue", OpKind.xchg, 0⟩,
    mid := some ⟨"mutex", "subscribe", OpKind.cas, 0⟩ },
  -- request node: subscribe CAS → owner's build_queue
  { name := "mutex request node",
    pub := ⟨"mutex", "subscribe", OpKind.cas, 0⟩, obs := ⟨"mutex", "build_queue", OpKind.xchg, 0⟩,
    mid := some ⟨"mutex", "subscribe", OpKind.cas, 0⟩ },
  -- thread-safe reusable storage: the shared block and _ptr/_capacity
  { name := "reusable_storage_mtsafe block hand-over",
    pub := ⟨"reusable_storage_mtsafe", "dealloc", OpKind.store, 0⟩, obs := ⟨"reusable_storage_mtsafe", "alloc", OpKind.xchg, 0⟩ },
  -- … given back by `alloc` itself when growing the block threw (/repo fix a532e23): the emptied `_ptr/_capacity` are handed to the next claimant
  { name := "reusable_storage_mtsafe block hand-over after a failed growth",
    pub := ⟨"reusable_storage_mtsafe", "alloc", OpKind.store, 0⟩, obs := ⟨"reusable_storage_mtsafe", "alloc", OpKind.xchg, 0⟩ },
  -- generator, synchronous access to an asynchronous body
  { name := "generator result via _block",
    pub := ⟨"generator::promise_type", "unblock_sync", OpKind.store, 0⟩, obs := ⟨"generator::promise_type", "next_sync", OpKind.wait, 0⟩ }
]

def ordersOf (tbl : List Site) (p : Proto) : Option MPOrders :=
  match findSite tbl p.pub, findSite tbl p.obs with
  | some pb, some ob =>
    let fenceOk : Option Bool := match p.fence with
      | none => some false
      | some f => (findSite tbl f).map (fun s => s.succ.isAcq)
    let midOrd : Option Order := match p.mid with
      | none => some Order.relaxed
      | some m => (findSite tbl m).map (·.succ)
    match fenceOk, midOrd with
    | some fo, some mo =>
      some { pub := pb.succ, obs := if p.obsUsesFailureOrder then ob.fail else ob.succ, obsFence := fo, mid := mo }
    | _, _ => none
  | _, _ => none

def protoOk (tbl : List Site) (p : Proto) : Bool :=
  match ordersOf tbl p with
  | some o => o.sufficient
  | none => false

/-- every protocol's publishing operation releases and its observation acquires (directly or by its fence) -/
def Sufficient (tbl : List Site) : Bool := protocols.all (protoOk tbl)

/-- `memory_order_consume`, whose dependency ordering the machine does not model (it reads it as `relaxed`), is not used -/
def noConsume (tbl : List Site) : Bool := tbl.all (fun s => s.succ != Order.consume && s.fail != Order.consume)

/-- **Obligation 1 on the current source**: the memory orders written in /repo are sufficient.  (`checks/c03.py` evaluates the
definitions from `namespace Cocls.C03` up to the first words of this doc-string on their own: they must need nothing but `Clock` and the tables.) -/
theorem c03_current_orders : Sufficient Generated.atomicSites = true := by decide

theorem c03_no_consume : noConsume Generated.atomicSites = true := by decide

theorem protoOk_spec {tbl : List Site} {p : Proto} (h : protoOk tbl p = true) : ∃ o, ordersOf tbl p = some o ∧ o.sufficient = true := by
  unfold protoOk at h
  cases ho : ordersOf tbl p with
  | none => simp [ho] at h
  | some o => exact ⟨o, rfl, by simpa [ho] using h⟩

/-- What `Sufficient` buys: for every protocol, on the happens-before machine instantiated with the orders found in the
table, no execution (any number of threads, any schedule, any admissible stale read, any bystander RMWs) races on the
published data. -/
theorem c03_publish_safe (tbl : List Site) (h : Sufficient tbl = true) :
    ∀ p ∈ protocols, ∃ o, ordersOf tbl p = some o ∧
      ∀ (cfg : Cfg) (sched : List (Nat × Nat)), (run o cfg sched).raced = false := by
  intro p hp
  obtain ⟨o, ho, hs⟩ := protoOk_spec (List.all_eq_true.mp h p hp)
  exact ⟨o, ho, mp_safe_of_sufficient o hs⟩

theorem c03_current_safe :
    ∀ p ∈ protocols, ∃ o, ordersOf Generated.atomicSites p = some o ∧
      ∀ (cfg : Cfg) (sched : List (Nat × Nat)), (run o cfg sched).raced = false :=
  c03_publish_safe _ c03_current_orders

/-- a thread that learns "ready" has the publisher's write of the data in its clock (safe publication) -/
theorem c03_ready_sees_payload :
    ∀ p ∈ protocols, ∃ o, ordersOf Generated.atomicSites p = some o ∧
      ∀ (cfg : Cfg) (sched : List (Nat × Nat)) (t : Nat), t ≠ cfg.pubTid → (run o cfg sched).pc t = Pc.acc →
        (run o cfg sched).wr.1 = cfg.pubTid ∧ 1 ≤ (run o cfg sched).wr.2 ∧
        (run o cfg sched).wr.2 ≤ (run o cfg sched).clk t cfg.pubTid := by
  intro p hp
  obtain ⟨o, ho, hs⟩ := protoOk_spec (List.all_eq_true.mp c03_current_orders p hp)
  simp only [MPOrders.sufficient, Bool.and_eq_true, Bool.or_eq_true] at hs
  exact ⟨o, ho, fun cfg sched t ht hpc => mp_sees_payload o hs.1 hs.2 cfg sched t ht hpc⟩

/-- the requirement is not gratuitous: a protocol whose orders are not sufficient has a racing execution -/
theorem c03_orders_necessary (o : MPOrders) (h : o.sufficient = false) :
    ∃ (cfg : Cfg) (sched : List (Nat × Nat)), (run o cfg sched).raced = true :=
  ⟨cfgLoad, schedMP, mp_racy o (by simpa [MPOrders.sufficient] using h)⟩

/-- the pinned commit exchanged the ready marker with `acquire` only: with that order the table obligation fails -/
theorem c03_pinned_orders_insufficient :
    ({ pub := Order.acquire, obs := Order.acquire, obsFence := false, mid := Order.relaxed } : MPOrders).sufficient = false := by
  decide

/-! ## Obligation 2: lock discipline -/

def disciplined (tbl : List GuardedAccess) : Bool := tbl.all (fun a => a.locked || a.ctorDtor)

/-- every access to a mutex-guarded field of queue / limited_queue / thread_pool / scheduler / publisher::queue (and every
call of a `*_lk` helper) is inside a lock region of the object's mutex, or in a constructor/destructor -/
theorem c03_lock_tables : disciplined Generated.guardedAccesses = true := by decide

/-- the classes the table must cover are all present (a class that vanished from the table would make the
obligation vacuous) -/
def coversClasses (tbl : List GuardedAccess) : Bool :=
  ["queue", "limited_queue", "thread_pool", "scheduler", "publisher::queue"].all (fun c => tbl.any (fun a => a.cls == c))

theorem c03_lock_tables_cover : coversClasses Generated.guardedAccesses = true := by decide

/-- no pointer into lock-guarded data can outlive the lock region it was obtained in: nowhere in the guarded classes is the address of
a guarded field (or of an element of a guarded container) taken, and no lock-held helper / locking member function returns a pointer or
a reference — results leave the lock region by value only.  (Seeded change r5-c16-copy-value-outside-lock: `get_value_lk` returned
`&_q[relpos]` and `get_value` copied `*v` after the `lock_guard` was gone, while `push_lk` may trim exactly that element.)  The accesses
the lock tables classify are accesses to the *fields*; this closes the gap for accesses through pointers derived from them. -/
theorem c03_guarded_data_does_not_escape : Generated.guardedEscapes = [] := by decide

/-- what lock discipline buys, for any number of client threads calling any sequence of disciplined member functions -/
theorem c03_lock_discipline_safe (progs : Nat → List LockDisc.Act) (h : ∀ t, LockDisc.Disciplined (progs t) = true) :
    ∀ sched : List Nat, (LockDisc.run progs sched).raced = false :=
  LockDisc.lock_discipline_safe progs h

/-! ## Obligation 3: position facts about published nodes -/

def positions (tbl : List PlainAccess) (cls fn : String) (fields : List String) : List Nat :=
  (tbl.filter (fun a => a.cls == cls && a.fn == fn && !a.inAssert && fields.contains a.field)).map (·.pos)

def allBefore (xs ys : List Nat) : Bool := xs.all (fun x => ys.all (fun y => x < y))

/-- `mutex::subscribe` never touches a request node (`_next` of anything) after the CAS that publishes it — the defect
of the pinned commit: every such access precedes the first synchronising operation of the function -/
def mutexNoTouchAfterPublish (tbl : List PlainAccess) : Bool :=
  (tbl.filter (fun a => a.cls == "mutex" && a.fn == "subscribe" && !a.inAssert && a.field == "_next")).all (fun a => a.nOps == 0)

theorem c03_mutex_no_touch_after_publish : mutexNoTouchAfterPublish Generated.plainAccesses = true := by decide

/-- `awaiter::subscribe` / `subscribe_check_ready` do not touch the awaiter (`_next`, assertions included) after the CAS that
publishes it; accesses in the body of `while (!cas)` run only after a *failed* exchange and count as before it -/
def awaiterNoTouchAfterPublish (tbl : List PlainAccess) : Bool :=
  (tbl.filter (fun a => a.cls == "awaiter" && (a.fn == "subscribe" || a.fn == "subscribe_check_ready") && a.field == "_next")).all
    (fun a => a.nOps == 0)

theorem c03_awaiter_no_touch_after_publish : awaiterNoTouchAfterPublish Generated.plainAccesses = true := by decide

def positionsOf (tbl : List PlainAccess) (cls fn base field : String) (wr : Bool) : List Nat :=
  (tbl.filter (fun a => a.cls == cls && a.fn == fn && !a.inAssert && a.base == base && a.field == field && a.write == wr)).map (·.pos)

def anyBefore (xs ys : List Nat) : Bool := xs.any (fun x => ys.all (fun y => x < y))

/-- `shared_future`'s resolve tracer takes its keep-alive reference (`this->_ptr = ptr`) BEFORE it publishes itself by subscribing
(afterwards the resolver's callback writes the same non-atomic `shared_ptr` from another thread) -/
theorem c03_tracer_ref_before_publish :
    anyBefore (positionsOf Generated.plainAccesses "resolve_cb" "charge" "" "_ptr" true)
              (positions Generated.plainAccesses "resolve_cb" "charge" ["call:subscribe"]) = true
    ∧ (positions Generated.plainAccesses "resolve_cb" "charge" ["call:subscribe"]).length = 1 := by decide

/-- `reusable_storage_mtsafe::dealloc` hands the shared block back by its release store of `_busy` and writes nothing afterwards —
neither the storage's own fields nor anything through a pointer into the block (`*s = …`): from that store on another thread may
already have a live frame there (seeded change r5-c19-dealloc-clears-trailer-after-release) -/
def mtsafeDeallocWritesBeforeRelease (tbl : List PlainAccess) : Bool :=
  (tbl.filter (fun a => a.cls == "reusable_storage_mtsafe" && a.fn == "dealloc" && !a.inAssert && a.write)).all (fun a => a.nOps == 0)

theorem c03_mtsafe_dealloc_no_write_after_release : mtsafeDeallocWritesBeforeRelease Generated.plainAccesses = true := by decide

/-- …and `alloc` writes into the block (the trailer `*s = owner`) only after it has acquired `_busy` (non-vacuity of the pointer-write rows) -/
theorem c03_mtsafe_alloc_writes_after_acquire :
    (Generated.plainAccesses.filter (fun a => a.cls == "reusable_storage_mtsafe" && a.fn == "alloc" && a.write && a.field == "*s")).all (fun a => a.nOps ≥ 1) = true
    ∧ (Generated.plainAccesses.filter (fun a => a.cls == "reusable_storage_mtsafe" && a.fn == "alloc" && a.write && a.field == "*s")).length ≥ 1 := by decide

/-- `scheduler::start_in(thread_pool&)` stores the pool pointer into the global state BEFORE it hands the worker coroutine to the pool
(`pool.resume(...)`): the enqueue under the pool's mutex is the only thing that orders the starting thread before the worker, whose
first statement reads `_glob_state->_pool` (seeded change r5-c03-start-in-sets-pool-after-handover; this is the fact the exemption of
`_glob_state` from the lock-guarded fields of `scheduler` rests on: set up before the worker exists) -/
theorem c03_start_in_sets_pool_before_handover :
    allBefore (positionsOf Generated.plainAccesses "scheduler" "start_in" "operator->" "_pool" true)
              (positions Generated.plainAccesses "scheduler" "start_in" ["call:resume"]) = true
    ∧ (positionsOf Generated.plainAccesses "scheduler" "start_in" "operator->" "_pool" true).length = 1
    ∧ (positions Generated.plainAccesses "scheduler" "start_in" ["call:resume"]).length = 1 := by decide

/-- the RELAXED hint loads of a future (`pending()`, `initialized()`) are called, outside assertions, only where no access to the
result depends on the answer: `future::value()` after it has found no value (to tell "not ready" from "canceled"), and `shared_future`
deciding whether to charge its tracer before the state is shared.  Anything that gates a read of the result must go through the
acquire load `ready()` (seeded change r5-c03-has-value-polls-pending: `awaitable_bool` asked `pending()` and then read `_state`) -/
def hintCallAllowed (c : String × String × String) : Bool :=
  c == ("future", "value", "pending") || c == ("shared_future", "operator<<", "pending")
  || c == ("shared_future", "shared_future<T, Base>", "pending")

theorem c03_hint_loads_gate_nothing : Generated.hintCalls.all hintCallAllowed = true := by decide

/-- the walker reads and clears a node's `_next` before it resumes that node (after which the node may be gone) -/
theorem c03_walk_reads_next_before_resume :
    allBefore (positions Generated.plainAccesses "awaiter" "resume_chain_lk" ["_next"])
              (positions Generated.plainAccesses "awaiter" "resume_chain_lk" ["call:resume"]) = true
    ∧ (positions Generated.plainAccesses "awaiter" "resume_chain_lk" ["call:resume"]).length = 1
    ∧ (positions Generated.plainAccesses "awaiter" "resume_chain_lk" ["_next"]).length ≥ 2 := by decide

/-- `mutex::unlock` unlinks the new owner before resuming it -/
theorem c03_unlock_unlinks_before_resume :
    allBefore (positions Generated.plainAccesses "mutex" "unlock" ["_next", "_queue"])
              (positions Generated.plainAccesses "mutex" "unlock" ["call:fn"]) = true
    ∧ (positions Generated.plainAccesses "mutex" "unlock" ["call:fn"]).length = 1 := by decide

/-- `mutex::build_queue` looks at the owner-private list `_queue` (assertions included) only after its acquire exchange on
`_requests`.  A requester whose publishing CAS in `subscribe()` found the mutex unlocked is ordered after the previous owners
*only* by that exchange (its own CAS is release-only); the pinned code asserted on `_queue` before it (data race with the last
owner's writes in debug builds, repaired by a4116c4) -/
def buildQueueAcquiresFirst (tbl : List PlainAccess) : Bool :=
  let rows := tbl.filter (fun a => a.cls == "mutex" && a.fn == "build_queue" && a.base == "" && a.field == "_queue")
  rows.all (fun a => a.nOps ≥ 1) && rows.length ≥ 2

theorem c03_build_queue_acquires_before_queue : buildQueueAcquiresFirst Generated.plainAccesses = true := by decide

/-- the as-is shape of the pinned commit (assert first) fails the obligation -/
example : buildQueueAcquiresFirst
    [{ cls := "mutex", fn := "build_queue", base := "", field := "_queue", write := false, pos := 0, nOps := 0, inAssert := true },
     { cls := "mutex", fn := "build_queue", base := "", field := "_queue", write := true, pos := 4, nOps := 1, inAssert := false }] = false := by decide

/-- split the rows of one function into its overloads (the position counter restarts at 0 for every body) -/
def overloadSegments (rows : List PlainAccess) : List (List PlainAccess) :=
  rows.foldr (fun a acc =>
    match acc with
    | [] => [[a]]
    | seg :: rest => if (seg.head?.map (·.pos)).getD 0 == 0 then [a] :: seg :: rest else (a :: seg) :: rest) []

/-- in every overload of `future::set` the payload (`_value`, `_exception`, `_ptr_value`) is written before `_state` says that
there is one: a constructor that throws must leave a future that still says "no value" (the catch path of `promise::set_value`,
fix 185ea23, resolves it as such), and a thread that learns of readiness never finds `State::value` over raw storage -/
def setConstructsBeforeState (tbl : List PlainAccess) : Bool :=
  let segs := overloadSegments (tbl.filter (fun a => a.cls == "future" && a.fn == "set"))
  segs.length ≥ 2 &&
  segs.all (fun seg =>
    let pay := (seg.filter (fun a => !a.inAssert && ["_value", "_exception", "_ptr_value"].contains a.field)).map (·.pos)
    let st := (seg.filter (fun a => !a.inAssert && a.field == "_state" && a.write)).map (·.pos)
    pay.length ≥ 1 && st.length == 1 && allBefore pay st)

theorem c03_set_constructs_before_state : setConstructsBeforeState Generated.plainAccesses = true := by decide

/-- the shape "state first, construction afterwards" is rejected -/
example : setConstructsBeforeState
    [{ cls := "future", fn := "set", base := "", field := "_state", write := false, pos := 0, nOps := 0, inAssert := true },
     { cls := "future", fn := "set", base := "", field := "_state", write := true, pos := 1, nOps := 0, inAssert := false },
     { cls := "future", fn := "set", base := "", field := "_value", write := false, pos := 2, nOps := 0, inAssert := false },
     { cls := "future", fn := "set", base := "", field := "_state", write := false, pos := 0, nOps := 0, inAssert := true },
     { cls := "future", fn := "set", base := "", field := "_exception", write := false, pos := 1, nOps := 0, inAssert := false },
     { cls := "future", fn := "set", base := "", field := "_state", write := true, pos := 2, nOps := 0, inAssert := false }] = false := by decide

/-- an async coroutine's frame is destroyed only after its future has been resolved -/
theorem c03_final_resolve_before_destroy :
    allBefore (positions Generated.plainAccesses "async_promise::final_awaiter" "await_suspend" ["call:resolve"])
              (positions Generated.plainAccesses "async_promise::final_awaiter" "await_suspend" ["call:destroy"]) = true
    ∧ (positions Generated.plainAccesses "async_promise::final_awaiter" "await_suspend" ["call:destroy"]).length = 1
    ∧ (positions Generated.plainAccesses "async_promise::final_awaiter" "await_suspend" ["call:resolve"]).length ≥ 1 := by decide

/-! ## Completeness of the tie and atomicity shapes -/

/-- sites that take part in no publication (initialisation, same-thread hand-shakes, notifications, claims of an owner token that
carry no data): (class, function, kind, object) -/
def otherSites : List (String × String × OpKind × String) := [
  ("sync_awaiter", "wait_sync", OpKind.wait, "flag"), ("sync_awaiter", "wakeup", OpKind.notify, "flag"),
  ("future_common", "initialized", OpKind.load, "_awaiter"), ("future_common", "pending", OpKind.load, "_awaiter"),
  ("future", "get_promise", OpKind.xchg, "_awaiter"),
  -- `future_with_cb::operator<<` (/repo fix edcba93) takes its own registration out of the still private future (no promise exists
  -- yet: the assert next to it demands that the slot holds `this`) before the future is re-created in place
  ("future_with_cb", "operator<<", OpKind.xchg, "_awaiter"),
  ("promise", "~promise<T>", OpKind.load, "_owner"), ("promise", "claim", OpKind.xchg, "_owner"),
  -- `promise::operator=(promise&&)`: `_owner = other.claim()` — the operator spelling of a seq_cst store.  The assigned-to promise
  -- has just given up its future (`set_value(drop)` claimed it) and receives the token the source's `claim()` exchange took out: an
  -- owner token, no data
  ("promise", "operator=", OpKind.store, "_owner"),
  -- implicit conversions of the atomic `_owner` (seq_cst loads) in `operator bool`, `operator!` and `get_id`: a validity test / the
  -- identity of the owner token; whoever acts on the answer still has to win `claim()`, nothing of the result is reached through them
  ("promise", "operator bool", OpKind.load, "_owner"), ("promise", "operator!", OpKind.load, "_owner"),
  ("promise", "get_id", OpKind.load, "_owner"),
  ("async::co_awaiter", "await_ready", OpKind.load, "_awaiter"), ("async::co_awaiter", "await_suspend", OpKind.store, "_awaiter"),
  ("generator::promise_type", "unblock_sync", OpKind.notify, "_block"), ("generator::promise_type", "next_sync", OpKind.store, "_block"),
  -- the learned frame size of `scheduler::start` (a hint that only sizes an `alloca`; every call works on its own copy, nothing is
  -- published through it, so relaxed suffices).  A plain member until /repo fix 549691b: concurrent first calls of `start()` raced.
  ("scheduler", "start", OpKind.load, "_elide_state"), ("scheduler", "start", OpKind.store, "_elide_state")
]

def siteInProtocols (s : Site) : Bool :=
  protocols.any (fun p =>
    let hit (r : SiteRef) : Bool := r.cls == s.cls && r.fn == s.fn && r.kind == s.kind
    hit p.pub || hit p.obs || (match p.fence with | some f => hit f | none => false) || (match p.mid with | some m => hit m | none => false))

/-- every synchronising operation found in the source is either part of a listed protocol or a listed non-publishing site:
a NEW atomic operation (e.g. an exchange split into load + store, a new flag) is not silently outside the analysis -/
def sitesAccounted (tbl : List Site) : Bool :=
  tbl.all (fun s => s.inAssert || siteInProtocols s ||
    otherSites.any (fun o => o.1 == s.cls && o.2.1 == s.fn && o.2.2.1 == s.kind && o.2.2.2 == s.obj))

theorem c03_sites_accounted : sitesAccounted Generated.atomicSites = true := by decide

def shapeOf (tbl : List Site) (cls fn : String) : List (OpKind × String) :=
  (tbl.filter (fun s => s.cls == cls && s.fn == fn && !s.inAssert)).map (fun s => (s.kind, s.obj))

/-- the claim / detach / test-and-set steps are single read-modify-write operations (not a load followed by a store) -/
theorem c03_rmw_shapes :
    shapeOf Generated.atomicSites "promise" "claim" = [(OpKind.xchg, "_owner")]
    ∧ shapeOf Generated.atomicSites "awaiter" "resume_chain" = [(OpKind.xchg, "chain")]
    ∧ shapeOf Generated.atomicSites "awaiter" "resume_chain_set_ready" = [(OpKind.xchg, "chain")]
    ∧ shapeOf Generated.atomicSites "awaiter" "subscribe" = [(OpKind.cas, "chain")]
    ∧ shapeOf Generated.atomicSites "awaiter" "subscribe_check_ready" = [(OpKind.cas, "chain"), (OpKind.fence, "")]
    ∧ shapeOf Generated.atomicSites "mutex" "ready" = [(OpKind.cas, "_requests")]
    ∧ shapeOf Generated.atomicSites "mutex" "subscribe" = [(OpKind.cas, "_requests")]
    ∧ shapeOf Generated.atomicSites "mutex" "build_queue" = [(OpKind.xchg, "_requests")]
    ∧ shapeOf Generated.atomicSites "mutex" "unlock" = [(OpKind.cas, "_requests")]
    ∧ shapeOf Generated.atomicSites "reusable_storage_mtsafe" "alloc" = [(OpKind.xchg, "_busy"), (OpKind.store, "_busy")]
    ∧ shapeOf Generated.atomicSites "reusable_storage_mtsafe" "dealloc" = [(OpKind.store, "_busy")] := by decide

/-- non-vacuity: the current table resolves every protocol -/
example : (protocols.map (fun p => (ordersOf Generated.atomicSites p).isSome)).all id = true := by
  rw [List.all_map]
  exact List.all_eq_true.2 fun p hp => by
    obtain ⟨o, ho, _⟩ := protoOk_spec (List.all_eq_true.1 c03_current_orders p hp)
    simp [ho]

/-! ## Obligation 2 over the *structured* member functions (extract/lockprog.py transcribes syntax only)

`Generated.LockProgs.allLockProgs` holds, for every member function of the mutex-guarded classes that takes the lock or touches a
guarded field, its statement structure (sequence / if / loops / early return / RAII lock scopes / `unlock()`-`lock()` / condition
waits / inlined `*_lk` helpers / `co_await`) over `LockDisc.Act`.  The branch- and loop-sensitive lock-state reasoning is
`LockProg.check` — a Lean function, proved sound (`LockProg.check_sound`, `checkFn_sound`): every linearisation (all branch
outcomes, any number of loop iterations, an exception leaving any construct) of a function the checker accepts is a
`LockDisc.Balanced` act sequence.  So the translator is trusted for the transcription of syntax, not for the reasoning. -/

/-- every extracted member function keeps the lock discipline on every path (entries from the free state and ending free on every
exit; `*_lk` helpers from the held state) -/
theorem c03_lock_programs_disciplined :
    Generated.LockProgs.allLockProgs.all LockProg.LockFn.ok = true := by decide

/-- the structured extraction and the flat guarded-access table name the same (class, function, field) triples: the two
extractions cross-check each other -/
theorem c03_lock_programs_cover :
    LockProg.sameTriples Generated.LockProgs.lockFields Generated.LockProgs.allLockProgs
      Generated.guardedAccesses = true := by decide

/-- every guarded class of the library is present with at least one entry point (an empty table would make the two theorems above vacuous) -/
theorem c03_lock_programs_classes :
    ["queue", "limited_queue", "thread_pool", "scheduler", "publisher::queue"].all
      (fun c => Generated.LockProgs.allLockProgs.any (fun f => f.cls == c && f.entry)) = true := by decide

/-- race freedom on the guarded fields for ANY number of threads, each calling ANY sequence of the extracted entry points, each
call following ANY of its control paths, under EVERY schedule -/
theorem c03_lock_programs_safe (calls : Nat → List (List LockDisc.Act))
    (hc : ∀ t, ∀ c ∈ calls t, ∃ f ∈ Generated.LockProgs.allLockProgs, f.entry = true ∧ LockProg.Lin f.prog c) :
    ∀ sched : List Nat, (LockDisc.run (fun t => (calls t).flatten) sched).raced = false :=
  LockProg.lockfns_safe _ c03_lock_programs_disciplined calls hc

/-! ## Promise/future/awaiter protocol on the happens-before machine

The list `protocols` above pairs sites by hand.  `ChainClock.lean` puts the happens-before machine UNDER the micro-step model of
the whole promise / future / awaiter-chain protocol (`Chain.lean`, the model of C01 / C02): all agents, all atomic sites and all plain
accesses at once.  `ChainClock.chain_race_free` (ChainClockProofs.lean) proves race freedom for every configuration, schedule and
stale-read choice from `ChainOrders.sufficient`; here the orders are looked up in the extracted table (`chainOrdersOf`), so weakening any order in
`awaiter.h` / `future.h` breaks `c03_chain_orders_current` at `lake build`.

Model assumption about plain accesses → table obligation that checks it against the source:

| assumption of `ChainClock.lean` | obligation |
|---|---|
| `future::set` is plain code (no atomic operation inside), wholly before the resolving exchange | `c03_chain_set_before_resolve` |
| the payload is one location: value / exception first, `_state` last | `c03_set_constructs_before_state` |
| `resolve()` is the single exchange `resume_chain_set_ready`, the walk `resume_chain_lk` has no atomic operation and runs on the exchange's result | `c03_rmw_shapes`, `c03_chain_walk_accesses` |
| per node the walker reads `_next`, writes `_next`, then `resume()` (handle / resume fn), nothing after `resume()` | `c03_chain_walk_accesses`, `c03_walk_reads_next_before_resume` |
| the waiter's accesses to its `_next` in `subscribe_check_ready`: CAS write-back, test, clear — none after a successful CAS; fence last | `c03_chain_subscribe_accesses`, `c03_awaiter_no_touch_after_publish`, `c03_rmw_shapes` |
| `pending()` gates no access | `c03_hint_loads_gate_nothing` |
-/

/-- the strongest order that all of `l` provide as far as acquiring goes: the first non-acquiring one, else the head -/
def weakestAcq (l : List Order) : Order := (l.find? (fun x => !x.isAcq)).getD (l.headD Order.relaxed)

/-- the memory orders of the promise / future / awaiter-chain protocol according to the extracted table, looked up by class /
function / kind like `findSite`; `none` when the table has no row for a site.  A missing fence is not a missing site: `fence := false`. -/
def chainOrdersOf (tbl : List Site) : Option ChainClock.ChainOrders :=
  match findSite tbl ⟨"awaiter", "resume_chain_set_ready", OpKind.xchg, 0⟩,
        findSite tbl ⟨"awaiter", "subscribe_check_ready", OpKind.cas, 0⟩,
        findSite tbl ⟨"future_common", "ready", OpKind.load, 0⟩,
        findSite tbl ⟨"sync_awaiter", "wakeup", OpKind.store, 0⟩,
        findSite tbl ⟨"co_awaiter", "sync", OpKind.wait, 0⟩,
        findSite tbl ⟨"co_awaiter", "force_sync", OpKind.wait, 0⟩,
        findSite tbl ⟨"promise", "claim", OpKind.xchg, 0⟩,
        findSite tbl ⟨"promise", "~promise<T>", OpKind.load, 0⟩,
        findSite tbl ⟨"future_common", "pending", OpKind.load, 0⟩ with
  | some x, some cs, some rd, some fs, some w1, some w2, some cl, some dl, some pe =>
    some { resolve := x.succ, casSucc := cs.succ, casFail := cs.fail, ready := rd.succ,
           fence := match findSite tbl ⟨"awaiter", "subscribe_check_ready", OpKind.fence, 0⟩ with
             | some f => f.succ.isAcq
             | none => false
           flagStore := fs.succ, flagWait := weakestAcq [w1.succ, w2.succ],
           claim := cl.succ, dtorLoad := dl.succ, pending := pe.succ }
  | _, _, _, _, _, _, _, _, _ => none

/-- **Table obligation**: the orders written in `awaiter.h` / `future.h` are sufficient for the whole protocol. -/
theorem c03_chain_orders_current : (chainOrdersOf Generated.atomicSites).map (·.sufficient) = some true := by decide

/-- what the obligation buys, for any table: no access of the promise / future / awaiter protocol races — for every configuration
(any number of resolver calls, destructors, waiters of every kind), every schedule, every stale-read choice; every waiter about to
read the result has the winner's payload write in its clock; and the runs with all loads reading the latest message are, after
erasing the clocks, exactly the runs of `Chain.lean` (the executions C01 / C02 are about). -/
theorem c03_chain_publish_safe (tbl : List Site) (h : (chainOrdersOf tbl).map (·.sufficient) = some true) :
    ∃ o, chainOrdersOf tbl = some o
      ∧ (∀ (c : Chain.Cfg) (sched : List (Nat × Nat)), (ChainClock.run o c sched).raced = false)
      ∧ (∀ (c : Chain.Cfg) (sched : List (Nat × Nat)) (t : Nat), (ChainClock.run o c sched).base.pc t = Chain.Pc.wRead →
          (ChainClock.run o c sched).pay.wr.2 ≤ (ChainClock.run o c sched).clk t (ChainClock.run o c sched).pay.wr.1
          ∧ ∃ w, (ChainClock.run o c sched).base.winner = some w
              ∧ ((ChainClock.run o c sched).pay.wr.2 = 0 ∨ (ChainClock.run o c sched).pay.wr.1 = w))
      ∧ (∀ (c : Chain.Cfg) (sched : List Nat),
          (ChainClock.run o c (sched.map (fun t => (t, 0)))).base = Chain.run c (Chain.init c) sched) := by
  obtain ⟨o, ho, hs⟩ := Option.map_eq_some_iff.1 h
  exact ⟨o, ho, ChainClock.chain_race_free o hs, fun c sched t hpc => ChainClock.chain_sees_payload o hs c sched t hpc,
    fun c sched => ChainClock.base_latest o c sched⟩

theorem c03_chain_protocol_race_free :
    ∃ o, chainOrdersOf Generated.atomicSites = some o
      ∧ (∀ (c : Chain.Cfg) (sched : List (Nat × Nat)), (ChainClock.run o c sched).raced = false)
      ∧ (∀ (c : Chain.Cfg) (sched : List (Nat × Nat)) (t : Nat), (ChainClock.run o c sched).base.pc t = Chain.Pc.wRead →
          (ChainClock.run o c sched).pay.wr.2 ≤ (ChainClock.run o c sched).clk t (ChainClock.run o c sched).pay.wr.1
          ∧ ∃ w, (ChainClock.run o c sched).base.winner = some w
              ∧ ((ChainClock.run o c sched).pay.wr.2 = 0 ∨ (ChainClock.run o c sched).pay.wr.1 = w))
      ∧ (∀ (c : Chain.Cfg) (sched : List Nat),
          (ChainClock.run o c (sched.map (fun t => (t, 0)))).base = Chain.run c (Chain.init c) sched) :=
  c03_chain_publish_safe _ c03_chain_orders_current

/-- the clock facts above are not vacuous: whenever the future holds a value or an exception, the last write of the payload is a
real epoch (`≥ 1`; 0 = never written) of the winner — "has the winner's write in its clock" means ordered after `future::set` -/
theorem c03_chain_payload_write_real :
    ∃ o, chainOrdersOf Generated.atomicSites = some o
      ∧ ∀ (c : Chain.Cfg) (sched : List (Nat × Nat)), (ChainClock.run o c sched).base.payload ≠ Chain.Outcome.none →
          ∃ w, (ChainClock.run o c sched).base.winner = some w ∧ (ChainClock.run o c sched).pay.wr.1 = w
            ∧ 1 ≤ (ChainClock.run o c sched).pay.wr.2 := by
  obtain ⟨o, ho, hs⟩ := Option.map_eq_some_iff.1 c03_chain_orders_current
  exact ⟨o, ho, fun c sched hp => ChainClock.chain_payload_write_real o hs c sched hp⟩

/-- the pinned commit's table (resolving exchange `acquire` only) fails the obligation -/
example : ({ ChainClock.srcOrders with resolve := Order.acquire }).sufficient = false := by decide

/-! necessity: each clause of `ChainOrders.sufficient`, weakened alone from the source's orders, has a racing execution -/

theorem c03_chain_needs_release_cas :
    (ChainClock.run { ChainClock.srcOrders with casSucc := Order.relaxed } ChainClock.cfgCoro ChainClock.schedAwait).raced = true :=
  ChainClock.chain_needs_release_cas
theorem c03_chain_needs_release_xchg :
    (ChainClock.run { ChainClock.srcOrders with resolve := Order.acquire } ChainClock.cfgCoro ChainClock.schedPoll).raced = true :=
  ChainClock.chain_needs_release_xchg
theorem c03_chain_needs_acquire_xchg :
    (ChainClock.run { ChainClock.srcOrders with resolve := Order.release } ChainClock.cfgCoro ChainClock.schedAwait).raced = true :=
  ChainClock.chain_needs_acquire_xchg
theorem c03_chain_needs_acquire_ready :
    (ChainClock.run { ChainClock.srcOrders with ready := Order.relaxed } ChainClock.cfgCoro ChainClock.schedPoll).raced = true :=
  ChainClock.chain_needs_acquire_ready
theorem c03_chain_needs_fence :
    (ChainClock.run { ChainClock.srcOrders with fence := false } ChainClock.cfgCoro ChainClock.schedRefused).raced = true :=
  ChainClock.chain_needs_fence
theorem c03_chain_needs_release_flag :
    (ChainClock.run { ChainClock.srcOrders with flagStore := Order.relaxed } ChainClock.cfgSync ChainClock.schedBlock).raced = true :=
  ChainClock.chain_needs_release_flag
theorem c03_chain_needs_acquire_flag :
    (ChainClock.run { ChainClock.srcOrders with flagWait := Order.relaxed } ChainClock.cfgSync ChainClock.schedBlock).raced = true :=
  ChainClock.chain_needs_acquire_flag

/-- `claim`, the `~promise` load and `pending()` (relaxed in the source) are not constrained at all: with ANY orders at the three
sites — relaxed included — the protocol stays race free.  (Deliberately no obligation that they ARE relaxed: strengthening them is
harmless and must not break the build.) -/
theorem c03_chain_hint_sites_unconstrained (a b d : Order) :
    ∃ o, chainOrdersOf Generated.atomicSites = some o
      ∧ ∀ (c : Chain.Cfg) (sched : List (Nat × Nat)),
          (ChainClock.run { o with claim := a, dtorLoad := b, pending := d } c sched).raced = false := by
  obtain ⟨o, ho, hs⟩ := Option.map_eq_some_iff.1 c03_chain_orders_current
  exact ⟨o, ho, ChainClock.chain_hint_orders_free o hs a b d⟩

/-- non-vacuity: a concrete run under the source's orders with three waiters of different kinds (coroutine, blocking, callback), a
losing competitor, CAS retries and a late `has_value` poller, in which every kind of plain access happens: all agents finish, all
four waiters read the result, the payload is written once (by agent 0) and read four times, the walker has rewritten the nodes'
`_next` — and nothing races -/
example : (ChainClock.run ChainClock.srcOrders ChainClock.cfgMany ChainClock.schedMany).raced = false
    ∧ (∀ t, t < 6 → (ChainClock.run ChainClock.srcOrders ChainClock.cfgMany ChainClock.schedMany).base.pc t = Chain.Pc.done)
    ∧ (∀ t, t < 5 → 1 ≤ t → (ChainClock.run ChainClock.srcOrders ChainClock.cfgMany ChainClock.schedMany).base.observed t = 1)
    ∧ (ChainClock.run ChainClock.srcOrders ChainClock.cfgMany ChainClock.schedMany).pay.wr = (0, 1)
    ∧ (ChainClock.run ChainClock.srcOrders ChainClock.cfgMany ChainClock.schedMany).pay.rd.length = 4
    ∧ ((ChainClock.run ChainClock.srcOrders ChainClock.cfgMany ChainClock.schedMany).nxt 1).wr.1 = 0
    ∧ ((ChainClock.run ChainClock.srcOrders ChainClock.cfgMany ChainClock.schedMany).hnd 3).rd.length = 1 := by decide

/-! plain accesses the model assumes, checked against the extracted table -/

def accessShape (tbl : List PlainAccess) (cls fn : String) : List (String × String × Bool) :=
  (tbl.filter (fun a => a.cls == cls && a.fn == fn && !a.inAssert)).map (fun a => (a.base, a.field, a.write))

/-- `resume_chain_lk` per node: read `chain->_next`, write `y->_next`, `y->resume()` — exactly the accesses of `ChainClock.hbWalk` —
and no atomic operation of its own (it runs on the value the caller's exchange returned) -/
theorem c03_chain_walk_accesses :
    accessShape Generated.plainAccesses "awaiter" "resume_chain_lk"
      = [("chain", "_next", false), ("y", "_next", true), ("", "call:resume", false)]
    ∧ shapeOf Generated.atomicSites "awaiter" "resume_chain_lk" = [] := by decide

/-- `subscribe_check_ready` touches the awaiter's `_next` exactly as `ChainClock.hbWCas` says: the CAS (expected value passed by
reference: read, and written back on failure), the test against the ready marker, the clearing store — all of them positioned before
the successful CAS (`nOps = 0`: the loop body runs only after a failed exchange) -/
theorem c03_chain_subscribe_accesses :
    accessShape Generated.plainAccesses "awaiter" "subscribe_check_ready"
      = [("", "_next", true), ("", "_next", false), ("", "_next", true)]
    ∧ (Generated.plainAccesses.filter (fun a => a.cls == "awaiter" && a.fn == "subscribe_check_ready")).all (fun a => a.nOps == 0) = true := by
  decide

/-- `promise::set_value`: in every overload the payload is stored (`future::set`, plain code without any atomic operation) before the
future is resolved (`resolve()` = the exchange) -/
def setBeforeResolve (tbl : List PlainAccess) : Bool :=
  let segs := overloadSegments (tbl.filter (fun a => a.cls == "promise" && a.fn == "set_value"))
  segs.length ≥ 2
  && segs.any (fun seg => seg.any (fun a => a.field == "call:set"))
  && segs.all (fun seg =>
      allBefore ((seg.filter (fun a => a.field == "call:set")).map (·.pos)) ((seg.filter (fun a => a.field == "call:resolve")).map (·.pos))
      && (seg.filter (fun a => a.field == "call:resolve")).length ≥ 1)

theorem c03_chain_set_before_resolve :
    setBeforeResolve Generated.plainAccesses = true
    ∧ shapeOf Generated.atomicSites "future" "set" = [] ∧ shapeOf Generated.atomicSites "future" "set_ref" = []
    ∧ shapeOf Generated.atomicSites "future" "resolve" = [] := by decide

/-- "resolve first, store afterwards" is rejected -/
example : setBeforeResolve
    [{ cls := "promise", fn := "set_value", base := "", field := "call:resolve", write := false, pos := 0, nOps := 0, inAssert := false },
     { cls := "promise", fn := "set_value", base := "", field := "call:set", write := false, pos := 1, nOps := 0, inAssert := false },
     { cls := "promise", fn := "set_value", base := "", field := "call:resolve", write := false, pos := 0, nOps := 0, inAssert := false }] = false := by
  decide

end Cocls.C03

/-! ## Mutex protocol on the happens-before machine

`protocols` above ties the mutex to the generic message-passing theorem by three hand-picked publish/observe pairs.  This section
puts the happens-before machine under the coroutine mutex protocol AS A WHOLE (`MutexClock.lean`: the micro-step model `Mutex.lean`
instrumented with vector clocks, the release-sequence clock of `_requests`, the flags of blocking waiters and FastTrack metadata for
the protected datum, `_queue`, and `_next` / handle of every request node) and instantiates `MutexClock.mutex_race_free` with the
nine orders of its seven synchronising sites (a CAS has two) found in the extracted table. -/
namespace Cocls.MutexClock

/-- `run_is_arun` continued to the pointer-level machine `MutexPtr.lean` (real `_next` links, `_queue` pointer, pending `build_queue`
loops): run on the same activity list it stays related to the erased state (`MutexPtr.Repr`: its links denote exactly `req` /
`queue`).  Stated here because this file imports both `MutexClockProofs` and `MutexPtrProofs`. -/
theorem run_ptr_repr (o : MutexOrders) (c : Cfg) (sched : List Nat) (wf : Nat) (hwf : c.n ≤ wf) :
    MutexPtr.Repr c.toMutex
      (MutexPtr.arun c.toMutex wf (MutexPtr.init c.toMutex) (acts c.toMutex (Mutex.init c.toMutex) sched))
      (run o c sched).m := by
  obtain ⟨i1, i2⟩ := run_is_arun o c sched
  rw [i2]
  exact MutexPtr.repr_run wf hwf _ i1

end Cocls.MutexClock

namespace Cocls.C03

/-- of the two blocking-wait sites (`co_awaiter::sync`, `force_sync`) the one that does not acquire, if any -/
def weakerAcq (a b : Order) : Order := if a.isAcq then b else a

/-- the orders of the synchronising operations of the mutex protocol according to the extracted table (lookups like `findSite`);
`none` when the table has no row for a site -/
def mutexOrdersOf (tbl : List Site) : Option MutexClock.MutexOrders :=
  match findSite tbl ⟨"mutex", "ready", OpKind.cas, 0⟩, findSite tbl ⟨"mutex", "subscribe", OpKind.cas, 0⟩,
        findSite tbl ⟨"mutex", "build_queue", OpKind.xchg, 0⟩, findSite tbl ⟨"mutex", "unlock", OpKind.cas, 0⟩,
        findSite tbl ⟨"sync_awaiter", "wakeup", OpKind.store, 0⟩, findSite tbl ⟨"co_awaiter", "sync", OpKind.wait, 0⟩,
        findSite tbl ⟨"co_awaiter", "force_sync", OpKind.wait, 0⟩ with
  | some rd, some sb, some bq, some ul, some fs, some w1, some w2 =>
    some { ready := rd.succ, readyFail := rd.fail, subOk := sb.succ, subFail := sb.fail, build := bq.succ,
           unlockOk := ul.succ, unlockFail := ul.fail, flagStore := fs.succ, flagWait := weakerAcq w1.succ w2.succ }
  | _, _, _, _, _, _, _ => none

/-- **Obligation on the current source**: the nine orders written at the sites of the mutex protocol are sufficient
(unlock CAS ⊇ release, `ready()` CAS ⊇ acquire, `build_queue` exchange ⊇ acquire — the extractor resolves an order passed as a
parameter to the weakest call-site order —, subscribe CAS ⊇ release, flag store ⊇ release, flag wait ⊇ acquire) -/
theorem c03_mutex_orders_current : (mutexOrdersOf Generated.atomicSites).map (·.sufficient) = some true := by decide

theorem c03_mutex_protocol_safe (tbl : List Site) (h : (mutexOrdersOf tbl).map (·.sufficient) = some true) :
    ∃ o, mutexOrdersOf tbl = some o ∧
      ∀ (cfg : MutexClock.Cfg) (sched : List Nat), (MutexClock.run o cfg sched).raced = false := by
  obtain ⟨o, ho, hs⟩ := Option.map_eq_some_iff.1 h
  exact ⟨o, ho, MutexClock.mutex_race_free o hs⟩

/-- **The coroutine mutex protocol as a whole is data-race free under the orders of the current source**: any number of contenders,
each running any number of rounds of `try_lock` / `co_await lock()` / blocking `lock().wait()` → critical section → `unlock`, under
every schedule: no race on the protected datum, on `_queue`, on `_next` or the handle / resume function of any request node -/
theorem c03_mutex_protocol_race_free :
    ∃ o, mutexOrdersOf Generated.atomicSites = some o ∧
      ∀ (cfg : MutexClock.Cfg) (sched : List Nat), (MutexClock.run o cfg sched).raced = false :=
  c03_mutex_protocol_safe _ c03_mutex_orders_current

/-- … and every critical section is ordered after the previous one: whoever is about to enter has the last write of the datum in its clock -/
theorem c03_mutex_handoff_ordered :
    ∃ o, mutexOrdersOf Generated.atomicSites = some o ∧
      ∀ (cfg : MutexClock.Cfg) (sched : List Nat) (a : Nat), (MutexClock.run o cfg sched).m.pc a = Mutex.Pc.crit →
        (MutexClock.run o cfg sched).data.wr.2 ≤ (MutexClock.run o cfg sched).clk a (MutexClock.run o cfg sched).data.wr.1 := by
  obtain ⟨o, ho, hs⟩ := Option.map_eq_some_iff.1 c03_mutex_orders_current
  exact ⟨o, ho, fun cfg sched a hpc => MutexClock.mutex_handoff_ordered o hs cfg sched a hpc⟩

/-- the runs the two theorems speak about are runs of the C07/C08 model `Mutex.lean` (clocks erased: same schedule, same states) -/
theorem c03_mutex_runs_are_mutex_runs (o : MutexClock.MutexOrders) (cfg : MutexClock.Cfg) (sched : List Nat) :
    (MutexClock.run o cfg sched).m = sched.foldl (MutexClock.mstep cfg.toMutex) (Mutex.init cfg.toMutex)
    ∧ Mutex.Reachable cfg.toMutex (MutexClock.run o cfg sched).m :=
  ⟨MutexClock.run_erase o cfg sched, MutexClock.run_reachable o cfg sched⟩

/-- … and of the pointer-level model `MutexPtr.lean`: the erased run is the `Mutex.arun` of the guarded activity list
`MutexClock.acts` (the contenders of the schedule that can run, in order), and the pointer-level machine run on that list — real
`_next` links, `_queue` pointer, pending `build_queue` loops — denotes exactly its `req` / `queue` (`MutexPtr.Repr`) -/
theorem c03_mutex_runs_are_pointer_runs (o : MutexClock.MutexOrders) (cfg : MutexClock.Cfg) (sched : List Nat) :
    Mutex.Guarded cfg.toMutex (Mutex.init cfg.toMutex) (MutexClock.acts cfg.toMutex (Mutex.init cfg.toMutex) sched)
    ∧ (MutexClock.run o cfg sched).m
        = Mutex.arun cfg.toMutex (Mutex.init cfg.toMutex) (MutexClock.acts cfg.toMutex (Mutex.init cfg.toMutex) sched)
    ∧ MutexPtr.Repr cfg.toMutex
        (MutexPtr.arun cfg.toMutex cfg.n (MutexPtr.init cfg.toMutex) (MutexClock.acts cfg.toMutex (Mutex.init cfg.toMutex) sched))
        (MutexClock.run o cfg sched).m :=
  ⟨(MutexClock.run_is_arun o cfg sched).1, (MutexClock.run_is_arun o cfg sched).2,
   MutexClock.run_ptr_repr o cfg sched cfg.n (Nat.le_refl _)⟩

/-! each clause of `MutexOrders.sufficient` is needed: a concrete racing run of the machine when it is dropped (`decide`d in
`MutexClockProofs.lean`; all other orders as in the source) -/

theorem c03_mutex_needs_unlock_release :
    ∃ cfg sched, (MutexClock.run { MutexClock.ordersNow with unlockOk := Order.relaxed } cfg sched).raced = true :=
  ⟨_, _, MutexClock.mutex_needs_unlock_release⟩
theorem c03_mutex_needs_ready_acquire :
    ∃ cfg sched, (MutexClock.run { MutexClock.ordersNow with ready := Order.relaxed } cfg sched).raced = true :=
  ⟨_, _, MutexClock.mutex_needs_ready_acquire⟩
theorem c03_mutex_needs_subscribe_release :
    ∃ cfg sched, (MutexClock.run { MutexClock.ordersNow with subOk := Order.relaxed } cfg sched).raced = true :=
  ⟨_, _, MutexClock.mutex_needs_subscribe_release⟩
/-- the seeded change `r5-c08-unlock-relaxed-build-queue`: acquire on `unlock`'s failing CAS does not make up for a relaxed exchange
in `build_queue(doorman)` — a request pushed between the two is walked unsynchronised -/
theorem c03_mutex_needs_build_acquire :
    ∃ cfg sched, (MutexClock.run { MutexClock.ordersNow with build := Order.relaxed, unlockFail := Order.acquire } cfg sched).raced = true :=
  ⟨_, _, MutexClock.mutex_needs_build_acquire⟩
theorem c03_mutex_needs_build_acquire_found_free :
    ∃ cfg sched, (MutexClock.run { MutexClock.ordersNow with build := Order.relaxed } cfg sched).raced = true :=
  ⟨_, _, MutexClock.mutex_needs_build_acquire_found_free⟩
theorem c03_mutex_needs_flag_release :
    ∃ cfg sched, (MutexClock.run { MutexClock.ordersNow with flagStore := Order.relaxed } cfg sched).raced = true :=
  ⟨_, _, MutexClock.mutex_needs_flag_release⟩
theorem c03_mutex_needs_flag_acquire :
    ∃ cfg sched, (MutexClock.run { MutexClock.ordersNow with flagWait := Order.relaxed } cfg sched).raced = true :=
  ⟨_, _, MutexClock.mutex_needs_flag_acquire⟩

/-- for the pure CAS hand-over (`ready()` / `unlock` fast path) the two clauses are necessary in full generality: EVERY order table
whose `ready()` CAS does not acquire or whose `unlock` CAS does not release has a racing run, whatever its other orders are -/
theorem c03_mutex_cas_handover_orders_necessary (o : MutexClock.MutexOrders)
    (h : o.ready.isAcq = false ∨ o.unlockOk.isRel = false) :
    ∃ cfg sched, (MutexClock.run o cfg sched).raced = true := by
  rcases h with h | h
  · exact ⟨_, _, MutexClock.mutex_ready_acquire_necessary o h⟩
  · exact ⟨_, _, MutexClock.mutex_unlock_release_necessary o h⟩

/-- the table of the seeded change (exchange relaxed, failing unlock CAS acquire) fails the obligation -/
example : ({ MutexClock.ordersNow with build := Order.relaxed, unlockFail := Order.acquire } : MutexClock.MutexOrders).sufficient = false := by
  decide

/-- non-vacuity: the table resolves all seven sites -/
example : (mutexOrdersOf Generated.atomicSites).isSome = true := by
  obtain ⟨o, ho, _⟩ := Option.map_eq_some_iff.1 c03_mutex_orders_current
  rw [ho]; rfl

/-- non-vacuity of the theorems: three contenders of three flavours (0 `try_lock`, 1 `co_await lock()`, 2 blocking `lock().wait()`).
0 takes the lock; 1 subscribes and is suspended; 0's unlock CAS fails (contended: slow path); 2 subscribes in the window before the
exchange; 0 runs `build_queue(doorman)`, resumes 1; 1 hands over to the blocking waiter 2 through its flag; 2 unlocks on the fast
path.  All three critical sections run, in arrival order, the last write of the datum is 2's, the mutex ends free, nothing raced. -/
example : (MutexClock.run MutexClock.ordersNow MutexClock.cfg3 MutexClock.sched3).raced = false
    ∧ (MutexClock.run MutexClock.ordersNow MutexClock.cfg3 MutexClock.sched3).m.grantLog = [0, 1, 2]
    ∧ (MutexClock.run MutexClock.ordersNow MutexClock.cfg3 MutexClock.sched3).data.wr.1 = 2
    ∧ (MutexClock.run MutexClock.ordersNow MutexClock.cfg3 MutexClock.sched3).m.req = []
    ∧ (MutexClock.run MutexClock.ordersNow MutexClock.cfg3 (MutexClock.sched3.take 6)).m.pc 0 = Mutex.Pc.relBuild
    ∧ (MutexClock.run MutexClock.ordersNow MutexClock.cfg3 (MutexClock.sched3.take 14)).m.flag 2 = true := by decide

end Cocls.C03
