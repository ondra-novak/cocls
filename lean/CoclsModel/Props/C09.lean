import CoclsModel.QueueProofs
/-!
# C09 — awaitable queue: each item delivered exactly once, in order

Model: `CoclsModel/Queue.lean`.  An operation list is an arbitrary interleaving of the lock regions and out-of-lock
resolutions (`deliver`) of *any number* of producers and consumers (the labels `prod`/`cons` carried by `Op.push`/`Op.pop`
are ghost); every theorem below quantifies over all of them.
-/
namespace Cocls.Q

def delivered (s : State) : List Item := vals s.served
/-- the items consumer `c` obtained, in the order of its `pop()` calls -/
def received (s : State) (c : Nat) : List Item := vals (s.served.filter (fun e => e.pop.cons == c))
def pushedBy (s : State) (p : Nat) : List Item := s.pushed.filter (fun it => it.prod == p)

/-- The anchor's invariant: the item queue and the waiting-consumer queue are never both non-empty. -/
theorem c09_invariant {s : State} (h : Reachable s) : ¬ (s.items ≠ [] ∧ s.waiters ≠ []) := by
  intro ⟨hi, hw⟩
  exact hi ((reachable_inv h).never_both hw)

/-- FIFO refinement (history form): the items handed to pops, in hand-over order, followed by the items still
queued, are exactly the pushed items in push order — under every interleaving.  Nothing lost, nothing duplicated,
nothing reordered, nothing invented. -/
theorem c09_fifo {s : State} (h : Reachable s) : delivered s ++ s.items = s.pushed :=
  (reachable_inv h).fifo

/-- Exactly once: every push (by serial number) has its item in exactly one place — handed to one pop or still
queued — and no other serial number occurs. -/
theorem c09_exactly_once {s : State} (h : Reachable s) (i : Nat) :
    ((delivered s).map (·.id)).count i + (s.items.map (·.id)).count i = if i < s.nextPush then 1 else 0 := by
  have hi := reachable_inv h
  have := congrArg (fun l => (l.map (·.id)).count i) hi.fifo
  simp only [List.map_append, List.count_append, hi.push_ids, List.count_range] at this
  exact this

/-- every decision taken under the lock is carried out exactly once: the resolutions in flight plus the performed
ones are a permutation of the decisions -/
theorem c09_resolution_exactly_once {s : State} (h : Reachable s) : (s.inflight ++ s.completed).Perm s.served :=
  perm_of_inv (reachable_inv h)

/-- every pop future is in exactly one place: parked, being resolved, or resolved once (never twice, never lost) -/
theorem c09_pop_once {s : State} (h : Reachable s) (i : Nat) :
    (s.waiters.map (·.id)).count i + (popIds s.inflight).count i + (popIds s.completed).count i
      = if i < s.nextPop then 1 else 0 := by
  have hi := reachable_inv h
  have h1 := congrArg (fun l => l.count i) hi.pops_fifo
  simp only [List.count_append, List.count_range] at h1
  have h2 := ((c09_resolution_exactly_once h).map (·.pop.id)).count_eq i
  simp only [List.map_append, List.count_append] at h2
  simp only [popIds] at *
  omega

/-- Waiting pops are served in arrival order: the pops decided so far (in decision order) followed by the parked
pops (oldest first) are exactly pops `0,1,…,nextPop-1` in arrival order. -/
theorem c09_waiters_fifo {s : State} (h : Reachable s) :
    popIds s.served ++ s.waiters.map (·.id) = List.range s.nextPop :=
  (reachable_inv h).pops_fifo

/-- A single consumer receives the items in exactly the order they were pushed (a prefix of the push sequence,
the rest is still queued). -/
theorem c09_single_consumer_order {s : State} (h : Reachable s) (c : Nat)
    (hc : ∀ e ∈ s.served, e.pop.cons = c) : received s c ++ s.items = s.pushed := by
  have : s.served.filter (fun e => e.pop.cons == c) = s.served := by
    rw [List.filter_eq_self]
    intro e he
    simp [hc e he]
  unfold received
  rw [this]
  exact (reachable_inv h).fifo

/-- Several consumers: what each consumer receives is a subsequence of the global push sequence … -/
theorem c09_consumer_sees_push_order {s : State} (h : Reachable s) (c : Nat) : (received s c).Sublist s.pushed := by
  have h1 : (received s c).Sublist (vals s.served) := List.Sublist.filterMap _ List.filter_sublist
  have h2 : (vals s.served).Sublist s.pushed := by
    rw [← (reachable_inv h).fifo]; exact List.sublist_append_left _ _
  exact h1.trans h2

/-- … in particular each consumer sees every producer's items in that producer's order. -/
theorem c09_per_producer_order {s : State} (h : Reachable s) (c p : Nat) :
    ((received s c).filter (fun it => it.prod == p)).Sublist (pushedBy s p) :=
  (c09_consumer_sees_push_order h c).filter _

/-- A pop future is resolved (or being resolved) only (a) with an item that was pushed, (b) by a successful
`unblock_pop(c)` that took exactly this pop, with that exception, (c) as canceled after the queue was destroyed, or
(d) as canceled by a `push` that had taken this pop's promise and whose item construction then threw. -/
theorem c09_pop_completes_only_when {s : State} (h : Reachable s) (e : Ev) (he : e ∈ s.inflight ++ s.completed) :
    (∃ it, e.out = Out.val it ∧ it ∈ s.pushed) ∨ (∃ c, e.out = Out.exc c ∧ (e.pop, c) ∈ s.unblocks)
      ∨ (e.out = Out.canceled ∧ s.alive = false) ∨ (e.out = Out.canceled ∧ e.pop ∈ s.throws) := by
  have hi := reachable_inv h
  have hs := mem_served_of_resolved hi he
  cases ho : e.out with
  | val it =>
    left
    refine ⟨it, rfl, ?_⟩
    rw [← hi.fifo]
    apply List.mem_append_left
    simp only [vals, List.mem_filterMap]
    exact ⟨e, hs, by simp [ho, outItem]⟩
  | ok => exact absurd ho (hi.no_ok e hs)
  | exc c =>
    right; left
    refine ⟨c, rfl, ?_⟩
    rw [← hi.exc_unblock]
    simp only [excs, List.mem_filterMap]
    exact ⟨e, hs, by simp [excOf, ho]⟩
  | canceled =>
    right; right
    rcases hi.cancel_dead e hs ho with hd | ht
    · exact Or.inl ⟨rfl, hd⟩
    · exact Or.inr ⟨rfl, ht⟩

/-- … and a parked pop is not resolved at all. -/
theorem c09_parked_pop_pending {s : State} (h : Reachable s) (w : Pop) (hw : w ∈ s.waiters) :
    w.id ∉ popIds (s.inflight ++ s.completed) := by
  intro hm
  have h1 := c09_pop_once h w.id
  have h2 : 0 < (s.waiters.map (·.id)).count w.id := List.count_pos_iff.mpr (List.mem_map.mpr ⟨w, hw, rfl⟩)
  have h3 : 0 < (popIds (s.inflight ++ s.completed)).count w.id := List.count_pos_iff.mpr hm
  simp only [popIds_append, List.count_append] at h3
  split at h1 <;> omega

/-- `pop()` lock region: on an empty queue the promise is parked behind the older ones and nothing else changes;
otherwise the pop is resolved at once with the oldest item. -/
theorem c09_pop_decision (s : State) (c : Nat) :
    (s.items = [] → (stepPop s c).2 = Res.pop s.nextPop none
        ∧ (stepPop s c).1.waiters = s.waiters ++ [⟨s.nextPop, c⟩]
        ∧ (stepPop s c).1.served = s.served ∧ (stepPop s c).1.completed = s.completed
        ∧ (stepPop s c).1.inflight = s.inflight) ∧
    (∀ x xs, s.items = x :: xs → (stepPop s c).2 = Res.pop s.nextPop (some (Out.val x))
        ∧ (stepPop s c).1.items = xs ∧ (stepPop s c).1.waiters = s.waiters
        ∧ (stepPop s c).1.completed = s.completed ++ [⟨⟨s.nextPop, c⟩, Out.val x⟩]) := by
  unfold stepPop
  constructor
  · intro h; simp [h]
  · intro x xs h; simp [h]

/-- `push()` lock region: with consumers waiting the item goes to the *oldest* one (resolved outside the lock) and is
not enqueued; otherwise it is appended to the queue and no future changes. -/
theorem c09_push_decision (s : State) (p v : Nat) :
    (∀ w ws, s.waiters = w :: ws → (stepPush s p v).2 = Res.push s.nextPush true
        ∧ (stepPush s p v).1.waiters = ws ∧ (stepPush s p v).1.items = s.items
        ∧ (stepPush s p v).1.inflight = s.inflight ++ [⟨w, Out.val ⟨s.nextPush, p, v⟩⟩]) ∧
    (s.waiters = [] → (stepPush s p v).2 = Res.push s.nextPush false
        ∧ (stepPush s p v).1.items = s.items ++ [⟨s.nextPush, p, v⟩]
        ∧ (stepPush s p v).1.inflight = s.inflight ∧ (stepPush s p v).1.completed = s.completed) := by
  unfold stepPush
  constructor
  · intro w ws h; simp [h]
  · intro h; simp [h]

/-- A `push` whose item constructor throws: the caller sees the exception and no item comes into existence (nothing is
queued, `pushed` and the push serials are untouched).  With nobody waiting nothing changes at all; with pops waiting
exactly the oldest one is taken and completes as canceled (resolved outside the lock), the others stay parked. -/
theorem c09_push_throw (s : State) :
    (stepPushThrow s).2 = Res.threw ∧ (stepPushThrow s).1.items = s.items ∧ (stepPushThrow s).1.pushed = s.pushed
    ∧ (stepPushThrow s).1.nextPush = s.nextPush ∧ (stepPushThrow s).1.completed = s.completed ∧
    (s.waiters = [] → (stepPushThrow s).1 = s) ∧
    (∀ w ws, s.waiters = w :: ws → (stepPushThrow s).1.waiters = ws
        ∧ (stepPushThrow s).1.inflight = s.inflight ++ [⟨w, Out.canceled⟩]
        ∧ (stepPushThrow s).1.throws = s.throws ++ [w]) := by
  unfold stepPushThrow
  cases hw : s.waiters with
  | nil => simp
  | cons w ws => simp

/-- Bounded backing stores (`Queue` / `CoroQueue` = `primitives::single_item_queue`: capacity 1): they are never
over-filled … -/
theorem c09_capacity {s : State} (h : Reachable s) :
    (∀ n, s.cap = some n → s.items.length ≤ n) ∧ (∀ n, s.wcap = some n → s.waiters.length ≤ n) :=
  ⟨(reachable_full h).items_le, (reachable_full h).waiters_le⟩

/-- … because the operation that would over-fill one is refused *without any effect*: a `push` that finds nobody waiting
and the item store full, and a `pop` that finds the queue empty and the store of parked promises full, leave the state
exactly as it was and report the store's exception (`Res.full`) - nothing is overwritten, nothing is lost silently;
every other `push` / `pop` behaves as on the unbounded queue. -/
theorem c09_full_is_refused (s : State) (p v c : Nat) :
    (s.waiters = [] → itemsFull s = true → stepPushC s p v = (s, Res.full) ∧ stepPushThrowC s = (s, Res.full)) ∧
    (¬ (s.waiters = [] ∧ itemsFull s = true) → stepPushC s p v = stepPush s p v ∧ stepPushThrowC s = stepPushThrow s) ∧
    (s.items = [] → waitersFull s = true → stepPopC s c = (s, Res.full)) ∧
    (¬ (s.items = [] ∧ waitersFull s = true) → stepPopC s c = stepPop s c) := by
  unfold stepPushC stepPushThrowC stepPopC
  refine ⟨fun hw hf => by simp [hw, hf], fun h => ?_, fun hi hf => by simp [hi, hf], fun h => ?_⟩
  · have : ¬ (s.waiters.isEmpty && itemsFull s) = true := by simpa using h
    simp [this]
  · have : ¬ (s.items.isEmpty && waitersFull s) = true := by simpa using h
    simp [this]

/-- A `pop` on a non-empty queue whose hand-over throws (the item's move constructor throws while the future's value
is built): the caller gets the exception instead of a future, and the queue - items, waiters, every future, the pop
serials - is exactly what it was; in particular the item is still at the front, for the next pop.  On an empty
queue nothing is handed over: an ordinary `pop`. -/
theorem c09_pop_throw_keeps_item (s : State) (c : Nat) :
    (∀ x xs, s.items = x :: xs →
        (stepPopThrowC s c).2 = Res.threw ∧ (stepPopThrowC s c).1 = { s with rethrown := s.rethrown ++ [x] }
        ∧ (stepPopThrowC s c).1.items = x :: xs ∧ (stepPopThrowC s c).1.nextPop = s.nextPop
        ∧ (stepPopThrowC s c).1.served = s.served ∧ (stepPopThrowC s c).1.completed = s.completed) ∧
    (s.items = [] → stepPopThrowC s c = stepPopC s c) := by
  unfold stepPopThrowC
  constructor
  · intro x xs h; simp [h]
  · intro h; simp [h]

/-- Exactly-once includes the items whose hand-over threw (any number of times): each of them was pushed and is, like
every pushed item, in exactly one place - handed to exactly one pop or still queued - never dropped by the failed
hand-over, never delivered twice. -/
theorem c09_rethrown_exactly_once {s : State} (h : Reachable s) (it : Item) (hit : it ∈ s.rethrown) :
    it ∈ s.pushed ∧ (delivered s ++ s.items).count it = 1 := by
  have hi := reachable_inv h
  have hp := (reachable_full h).rethrown_pushed it hit
  refine ⟨hp, ?_⟩
  have hf : delivered s ++ s.items = s.pushed := hi.fifo
  rw [hf, (nodup_pushed hi).count]
  simp [hp]

/-- `unblock_pop(c)` fails exactly the oldest waiting pop with the given exception and touches nothing else;
with nobody waiting it reports false and is a no-op. -/
theorem c09_unblock_oldest (s : State) (c : Nat) :
    (s.waiters = [] → stepUpop s c = (s, Res.flag false)) ∧
    (∀ w ws, s.waiters = w :: ws →
        (stepUpop s c).2 = Res.flag true ∧ (stepUpop s c).1.waiters = ws
        ∧ (stepUpop s c).1.inflight = s.inflight ++ [⟨w, Out.exc c⟩]
        ∧ (stepUpop s c).1.items = s.items ∧ (stepUpop s c).1.completed = s.completed
        ∧ (stepUpop s c).1.pushed = s.pushed) := by
  unfold stepUpop
  constructor
  · intro h; simp [h]
  · intro w ws h; simp [h]

/-- destruction resolves every parked pop as canceled (oldest first), and nothing else -/
theorem c09_destroy_cancels_waiters (s : State) :
    (stepDestroy s).1.waiters = [] ∧ (stepDestroy s).1.alive = false
    ∧ (stepDestroy s).1.completed = s.completed ++ s.waiters.map (fun w => ⟨w, Out.canceled⟩)
    ∧ (stepDestroy s).1.inflight = s.inflight := by
  unfold stepDestroy; simp

/-- after destruction no pop stays parked (no consumer hangs on a dead queue) -/
theorem c09_dead_no_waiters {s : State} (h : Reachable s) (hd : s.alive = false) : s.waiters = [] :=
  (reachable_inv h).dead_no_waiters hd

/-- At quiescence (no resolution in flight) the values actually received by the pop futures are exactly the items
handed out - so with `c09_fifo`: every pushed item has reached exactly one pop future or is still queued, and it is
queued only while nobody waits. -/
theorem c09_quiescent_all_delivered {s : State} (h : Reachable s) (hq : s.inflight = []) :
    (vals s.completed).Perm (delivered s) ∧ (s.waiters ≠ [] → s.items = []) := by
  have hp := c09_resolution_exactly_once h
  rw [hq, List.nil_append] at hp
  exact ⟨hp.filterMap _, (reachable_inv h).never_both⟩

/-- non-vacuity: two consumers parked, two producers, an unblock, a late delivery, destruction -/
example : Reachable (run init [Op.pop 0, Op.pop 1, Op.push 7 70, Op.pop 0, Op.upop 3, Op.push 8 80, Op.push 7 71,
    Op.deliver 1, Op.pop 1, Op.pop 1, Op.destroy, Op.deliver 0]) := ⟨none, none, _, rfl⟩
example : (run init [Op.pop 0, Op.pop 1, Op.push 7 70, Op.pop 0, Op.upop 3, Op.push 8 80, Op.push 7 71,
    Op.deliver 1, Op.pop 1, Op.pop 1, Op.destroy, Op.deliver 0]).completed =
    [⟨⟨1, 1⟩, Out.exc 3⟩, ⟨⟨3, 1⟩, Out.val ⟨2, 7, 71⟩⟩, ⟨⟨4, 1⟩, Out.canceled⟩, ⟨⟨0, 0⟩, Out.val ⟨0, 7, 70⟩⟩] := by
  decide

/-- non-vacuity, configuration `single_item_queue` for both stores: the second push and the second parked pop are
refused, the queue carries on -/
example : (run (initCfg (some 1) (some 1)) [Op.push 0 1, Op.push 0 2, Op.pop 0, Op.pop 0, Op.pop 0, Op.push 0 3,
      Op.deliver 0]).completed = [⟨⟨0, 0⟩, Out.val ⟨0, 0, 1⟩⟩, ⟨⟨1, 0⟩, Out.val ⟨1, 0, 3⟩⟩]
    ∧ (step (run (initCfg (some 1) (some 1)) [Op.push 0 1]) (Op.push 0 2)).2 = Res.full
    ∧ (step (run (initCfg (some 1) (some 1)) [Op.pop 0]) (Op.pop 0)).2 = Res.full := by decide

/-- non-vacuity: the hand-over of item 0 throws twice, the third pop receives it, the next one item 1 -/
example : (run init [Op.push 0 7, Op.push 0 8, Op.popthrow 0, Op.popthrow 1, Op.pop 0, Op.pop 0]).completed
      = [⟨⟨0, 0⟩, Out.val ⟨0, 0, 7⟩⟩, ⟨⟨1, 0⟩, Out.val ⟨1, 0, 8⟩⟩]
    ∧ (run init [Op.push 0 7, Op.push 0 8, Op.popthrow 0, Op.popthrow 1, Op.pop 0, Op.pop 0]).rethrown
      = [⟨0, 0, 7⟩, ⟨0, 0, 7⟩] := by decide

/-- non-vacuity of disjunct (d): two pops wait, a push throws, the oldest completes as canceled, the queue lives on -/
example : (run init [Op.pop 0, Op.pop 1, Op.pushthrow, Op.deliver 0, Op.push 0 5]).completed = [⟨⟨0, 0⟩, Out.canceled⟩]
    ∧ (run init [Op.pop 0, Op.pop 1, Op.pushthrow, Op.deliver 0, Op.push 0 5]).alive = true
    ∧ (run init [Op.pop 0, Op.pop 1, Op.pushthrow, Op.deliver 0, Op.push 0 5]).throws = [⟨0, 0⟩] := by decide

end Cocls.Q

/-! ## `queue<void>`: a counting semaphore whose count is conserved -/
namespace Cocls.VQ
open Cocls.Q

/-- `queue<void>` behaves exactly like `queue<T>` with the items reduced to their number: for every operation list
the `queue<void>` model is the image of the `queue<T>` model (every observable result included, see `step_abs`). -/
theorem c09_void_refines (wcap : Option Nat) (ops : List Op) :
    VQ.run (VQ.initCfg wcap) ops = abs (Q.run (Q.initCfg none wcap) ops) :=
  run_init_abs wcap ops

/-- every single step of `queue<void>` - new state *and* returned result - is the image of the `queue<T>` step -/
theorem c09_void_step_refines (s : Q.State) (op : Op) (hc : s.cap = none) :
    VQ.step (abs s) op = (abs (Q.step s op).1, forgetRes (Q.step s op).2) := step_abs s op hc

/-- The count is conserved: pushes = counts handed to pops + the counter, under every interleaving. -/
theorem c09_void_count {t : VQ.State} (h : Reachable t) :
    (t.served.filter (fun e => e.out == Out.ok)).length + t.sz = t.nPush := by
  obtain ⟨s, hs, rfl⟩ := reachable_abs h
  have hi := Q.reachable_inv hs
  have h1 := congrArg List.length hi.fifo
  have h2 := congrArg List.length hi.push_ids
  simp only [List.length_append, List.length_map, List.length_range] at h1 h2
  simp only [abs]
  rw [length_filter_ok s.served hi.no_ok]
  omega

/-- consumers wait only while the count is zero -/
theorem c09_void_never_both {t : VQ.State} (h : Reachable t) : t.waiters ≠ [] → t.sz = 0 := by
  obtain ⟨s, hs, rfl⟩ := reachable_abs h
  intro hw
  have := (Q.reachable_inv hs).never_both hw
  simp [abs, this]

/-- waiting pops are served in arrival order -/
theorem c09_void_waiters_fifo {t : VQ.State} (h : Reachable t) :
    popIds t.served ++ t.waiters.map (·.id) = List.range t.nextPop := by
  obtain ⟨s, hs, rfl⟩ := reachable_abs h
  have := (Q.reachable_inv hs).pops_fifo
  simp only [abs, popIds, List.map_map] at this ⊢
  exact this

/-- every decision is carried out exactly once -/
theorem c09_void_resolution_exactly_once {t : VQ.State} (h : Reachable t) :
    (t.inflight ++ t.completed).Perm t.served := by
  obtain ⟨s, hs, rfl⟩ := reachable_abs h
  have := (Q.c09_resolution_exactly_once hs).map forget
  simp only [List.map_append] at this
  exact this

/-- the clamp of `std_queue<void>::pop` never fires: `pop` is reached only with a positive count and takes exactly one -/
theorem c09_void_pop_takes_one (t : VQ.State) (c : Nat) :
    (t.sz ≠ 0 → (VQ.stepPop t c).1.sz + 1 = t.sz ∧ (VQ.stepPop t c).2 = Res.pop t.nextPop (some Out.ok)) ∧
    (t.sz = 0 → (VQ.stepPop t c).1.sz = 0 ∧ (VQ.stepPop t c).2 = Res.pop t.nextPop none
        ∧ (VQ.stepPop t c).1.waiters = t.waiters ++ [⟨t.nextPop, c⟩]) := by
  unfold VQ.stepPop
  constructor
  · intro h
    simp only [h, if_false]
    have : Nat.max 1 t.sz = t.sz := Nat.max_eq_right (by omega)
    constructor
    · simp only [this]; omega
    · trivial
  · intro h; simp [h]

/-- `push()` on `queue<void>`: wakes the oldest waiting pop without touching the count, else increments the count -/
theorem c09_void_push_decision (t : VQ.State) :
    (∀ w ws, t.waiters = w :: ws → (VQ.stepPush t).2 = Res.push t.nPush true ∧ (VQ.stepPush t).1.sz = t.sz
        ∧ (VQ.stepPush t).1.waiters = ws ∧ (VQ.stepPush t).1.inflight = t.inflight ++ [⟨w, Out.ok⟩]) ∧
    (t.waiters = [] → (VQ.stepPush t).2 = Res.push t.nPush false ∧ (VQ.stepPush t).1.sz = t.sz + 1
        ∧ (VQ.stepPush t).1.inflight = t.inflight) := by
  unfold VQ.stepPush
  constructor
  · intro w ws h; simp [h]
  · intro h; simp [h]

example : (VQ.run VQ.init [Op.push 0 0, Op.push 0 0, Op.pop 0, Op.pop 1, Op.pop 2, Op.upop 5, Op.pop 0, Op.push 1 0]).sz = 0
    ∧ (VQ.run VQ.init [Op.push 0 0, Op.push 0 0, Op.pop 0, Op.pop 1, Op.pop 2, Op.upop 5, Op.pop 0, Op.push 1 0]).inflight
      = [⟨⟨2, 2⟩, Out.exc 5⟩, ⟨⟨3, 0⟩, Out.ok⟩] := by decide

end Cocls.VQ
