import CoclsModel.ExecProofs
/-!
# C05 — coroutine-mode scheduling: run-to-suspension, FIFO ready queue, full drain

Model: `CoclsModel/Exec.lean` (open executor model: one step = one act of whoever executes; the scheduler's
reaction — flush loop, `suspend_now` loop, return into a nested `start()` — is part of the step).

Every theorem below that mentions `Reachable` quantifies over *all* act lists, i.e. over every program of any
number of coroutines built from spawn/detach, pause, promise resolution / mutex release / queue push (generic
`wake`, discarded or awaited suspend point), future await, `co_await async`, `co_return`, synchronous access to
generators (`gnext` / `gyield`) and `install_queue_and_call` blocks, for all step counts, entered from ordinary
code, from inside an installed block or from inside a coroutine.  The step-level theorems hold in every state.
-/
namespace Cocls.Exec

def Reachable (s : State) : Prop := ∃ acts, s = run init acts

theorem reachable_inv {s : State} (h : Reachable s) : Inv s := by
  obtain ⟨acts, rfl⟩ := h
  exact inv_run acts inv_init

theorem reachable_run {s : State} (h : Reachable s) (acts : List Act) : Reachable (run s acts) := by
  obtain ⟨a0, rfl⟩ := h
  exact ⟨a0 ++ acts, by simp [run, List.foldl_append]⟩

theorem reachable_step {s : State} (h : Reachable s) (a : Act) : Reachable (step s a) :=
  reachable_run h [a]

/-- **No preemption** (decision logic, any state): a running coroutine that makes coroutines ready and drops
the suspend point keeps running; the handles go to the tail of the ready queue in suspend-point order; nothing
is taken from the queue, nobody is resumed, nobody else becomes running. -/
theorem c05_no_preempt (s : State) (c : Nat) (cs : List Nat) (rev : Bool) (hc : s.cur = some c) :
    (step s (Act.wake cs Mode.discard rev)).cur = some c
    ∧ (step s (Act.wake cs Mode.discard rev)).ready = s.ready ++ handles s.st cs rev
    ∧ (step s (Act.wake cs Mode.discard rev)).deq = s.deq
    ∧ (step s (Act.wake cs Mode.discard rev)).runs = s.runs
    ∧ (step s (Act.wake cs Mode.discard rev)).calls = s.calls
    ∧ (step s (Act.wake cs Mode.discard rev)).base = s.base
    ∧ (∀ i, (step s (Act.wake cs Mode.discard rev)).st i = St.running ↔ s.st i = St.running) := by
  simpa [step, hc, coStep, enqueue] using collect_running s.st cs

/-- **Queued in the order they were made ready** (decision logic, any state): the coroutines a running coroutine makes ready
one after the other (targets `cs`, processed in this order) and whose suspend point it drops are appended to the ready queue in
exactly the order in which they were made ready (`made` and `enq` grow by the same list, a sublist of `cs`) — whether the
suspend point was built directly or collected by `coro_queue::create_suspend_point` (`rev = true`; the pinned code reversed the
order there, `c05_asis_create_reversed`, `/repo` commit 34c6158).  With `c05_fifo` / `c05_fifo_progress` they are resumed in
that order. -/
theorem c05_ready_order_is_made_order (s : State) (c : Nat) (cs : List Nat) (rev : Bool) (hc : s.cur = some c) :
    (step s (Act.wake cs Mode.discard rev)).ready = s.ready ++ handles s.st cs rev
    ∧ (step s (Act.wake cs Mode.discard rev)).enq = s.enq ++ handles s.st cs rev
    ∧ (step s (Act.wake cs Mode.discard rev)).made = s.made ++ handles s.st cs rev
    ∧ handles s.st cs rev = handles s.st cs false
    ∧ List.Sublist (handles s.st cs rev) cs := by
  refine ⟨?_, ?_, ?_, rfl, collect_sublist cs s.st⟩ <;> simp [step, hc, coStep, enqueue]

/-- **Run to suspension**: control passes from the executing coroutine `c` to anybody else only in a step in
which `c` itself stops running (it suspended, finished, or called `start()` itself and is blocked in it), and
that step is never the dropping of a suspend point. -/
theorem c05_run_to_suspension {s : State} (h : Reachable s) (c : Nat) (hc : s.cur = some c) (a : Act)
    (hne : (step s a).cur ≠ some c) :
    (step s a).st c ≠ St.running ∧ (∀ cs rev, a ≠ Act.wake cs Mode.discard rev) := by
  have hT := reachable_inv (reachable_step h a)
  refine ⟨fun hr => hne ((hT.running_iff c).1 hr), ?_⟩
  intro cs rev ha
  subst ha
  exact hne (c05_no_preempt s c cs rev hc).1

/-- **A nested `start()` returns to its caller**: `start()` called while a queue is installed resumes the child
directly, without installing anything. When the chain it started returns (the executing coroutine parks, or
finishes with nobody awaiting it), control goes back to the coroutine `p` that called `start()`: that step takes
nothing from the ready queue and resumes nobody (what the chain itself took from the queue while `p` was blocked — a
`pause`, an awaited suspend point — is not the return's doing). -/
theorem c05_nested_return (s : State) (c p : Nat) (ps : List Nat) (hc : s.cur = some c)
    (hp : s.calls = p :: ps) :
    ((step s Act.park).cur = some p ∧ (step s Act.park).ready = s.ready ∧ (step s Act.park).deq = s.deq
      ∧ (step s Act.park).runs = s.runs ∧ (step s Act.park).calls = ps)
    ∧ (s.waiter c = none →
      (step s Act.fin).cur = some p ∧ (step s Act.fin).ready = s.ready ∧ (step s Act.fin).deq = s.deq
      ∧ (step s Act.fin).runs = s.runs ∧ (step s Act.fin).calls = ps) := by
  constructor
  · simp [step, hc, coStep, coPark, settle, hp]
  · intro hw
    simp [step, hc, coStep, coFin, hw, settle, hp]

/-- the same for ordinary code that called `start()` inside an `install_queue_and_call` block: it gets control
back with the queue untouched; the queue is flushed by the trailer of the block (`leave`), not by `start()` -/
theorem c05_nested_return_main (s : State) (c : Nat) (hc : s.cur = some c) (hcl : s.calls = [])
    (hb : s.base = some Base.callMain) :
    (step s Act.park).cur = none ∧ (step s Act.park).ready = s.ready ∧ (step s Act.park).deq = s.deq
    ∧ (step s Act.park).runs = s.runs ∧ (step s Act.park).active = s.active := by
  simp [step, hc, coStep, coPark, settle, hcl, hb]

/-- `c05_no_preempt` for ordinary code inside an `install_queue_and_call` body (it cannot suspend: `Mode.await` acts as
`Mode.discard` there) -/
theorem c05_no_preempt_in_block (s : State) (cs : List Nat) (m : Mode) (rev : Bool) (hc : s.cur = none)
    (ha : s.active = true) (hm : m ≠ Mode.par) :
    (step s (Act.wake cs m rev)).cur = none
    ∧ (step s (Act.wake cs m rev)).ready = s.ready ++ handles s.st cs rev
    ∧ (step s (Act.wake cs m rev)).deq = s.deq
    ∧ (step s (Act.wake cs m rev)).runs = s.runs
    ∧ (∀ i, (step s (Act.wake cs m rev)).st i = St.running ↔ s.st i = St.running) := by
  cases m with
  | par => exact absurd rfl hm
  | discard => simpa [step, hc, mainStep, mainWake, ha, enqueue] using collect_running s.st cs
  | await => simpa [step, hc, mainStep, mainWake, ha, enqueue] using collect_running s.st cs

/-- a queued coroutine has not started: it is in the queue exactly once, its status is `ready`, it is not the
one executing -/
theorem c05_queued_not_started {s : State} (h : Reachable s) (i : Nat) (hi : i ∈ s.ready) :
    s.st i = St.ready ∧ s.cur ≠ some i ∧ s.ready.count i = 1 := by
  have hI := reachable_inv h
  have h1 := (hI.per i).handle_once
  have h2 := hI.running_iff i
  have h3 : 0 < s.ready.count i := List.count_pos_iff.2 hi
  grind

/-- **FIFO**: in every reachable state the handles taken from the front of the ready queue so far, followed by
the queue, are exactly the handles appended so far, in order. -/
theorem c05_fifo {s : State} (h : Reachable s) : s.enq = s.deq ++ s.ready :=
  (reachable_inv h).fifo

theorem c05_fifo_prefix {s : State} (h : Reachable s) : s.deq <+: s.enq := by
  rw [c05_fifo h]; exact List.prefix_append _ _

/-- the logs only grow: what was taken/appended stays taken/appended, in the same order -/
theorem c05_logs_grow (s : State) (acts : List Act) :
    s.enq <+: (run s acts).enq ∧ s.deq <+: (run s acts).deq := grows_run acts s

/-- **FIFO progress**: if `c` sits in the ready queue behind `pre`, then in every later state in which `c` is
no longer waiting in the queue (e.g. it runs), all of `pre` and then `c` have been taken from the queue, in
that order, after everything taken before. -/
theorem c05_fifo_progress {s : State} (h : Reachable s) (pre post : List Nat) (c : Nat)
    (hq : s.ready = pre ++ c :: post) (acts : List Act) (hn : (run s acts).st c ≠ St.ready) :
    (s.deq ++ pre ++ [c]) <+: (run s acts).deq := by
  have hI := reachable_inv h
  have hT := reachable_inv (reachable_run h acts)
  have hg := (grows_run acts s).1
  generalize run s acts = t at *
  refine prefix_of_last_not_mem (R := t.ready) ?_ fun hcr => ?_
  · rw [← hT.fifo]
    refine .trans ?_ hg
    simp [hI.fifo, hq]
  · have := (hT.per c).handle_once
    have := List.count_pos_iff.2 hcr
    grind

/-- a coroutine queued last runs again only after everything queued before it was taken from the queue, then itself -/
theorem requeued_last {s : State} (h : Reachable s) {X : List Nat} {c : Nat} (hr : s.ready = X ++ [c])
    (acts : List Act) (hrun : (run s acts).cur = some c) : (s.deq ++ X ++ [c]) <+: (run s acts).deq :=
  c05_fifo_progress h X [] c hr acts (by
    rw [((reachable_inv (reachable_run h acts)).running_iff c).2 hrun]; nofun)

/-- **pause = strict round-robin**: after `co_await pause()` by `c` with `q` queued, in every later state in
which `c` executes again every member of `q` has been resumed from the queue before `c`, in queue order
(for every continuation of the program). -/
theorem c05_pause_round_robin {s : State} (h : Reachable s) (c : Nat) (hc : s.cur = some c)
    (acts : List Act) (hrun : (run (step s Act.pause) acts).cur = some c) :
    (s.deq ++ s.ready ++ [c]) <+: (run (step s Act.pause) acts).deq := by
  cases hq : s.ready with
  | nil => simpa [step, hc, coStep, coPause, hq] using (grows_run acts (step s Act.pause)).2
  | cons x q =>
    have hr : (step s Act.pause).ready = q ++ [c] := by simp [step, hc, coStep, coPause, hq]
    simpa [step, hc, coStep, coPause, hq] using requeued_last (reachable_step h Act.pause) hr acts hrun

/-- pause, decision logic: the pausing coroutine goes to the tail, the head of the queue runs next (the
pausing coroutine itself when nothing is queued) -/
theorem c05_pause_step (s : State) (c : Nat) (hc : s.cur = some c) :
    (s.ready = [] → (step s Act.pause).cur = some c ∧ (step s Act.pause).ready = []) ∧
    (∀ x q, s.ready = x :: q → (step s Act.pause).cur = some x ∧ (step s Act.pause).ready = q ++ [c]) := by
  constructor
  · intro hq; simp [step, hc, coStep, coPause, hq]
  · intro x q hq; simp [step, hc, coStep, coPause, hq]

/-- awaited suspend point, decision logic (by design the *last* handle runs first, by symmetric transfer;
the others and the awaiting coroutine go to the tail of the queue in order) -/
theorem c05_await_step (s : State) (c : Nat) (cs : List Nat) (rev : Bool) (hc : s.cur = some c)
    (out : Nat) (ho : (handles s.st cs rev).getLast? = some out) :
    (step s (Act.wake cs Mode.await rev)).cur = some out
    ∧ (step s (Act.wake cs Mode.await rev)).ready = s.ready ++ (handles s.st cs rev).dropLast ++ [c]
    ∧ (step s (Act.wake cs Mode.await rev)).deq = s.deq := by
  simp [step, hc, coStep, coAwaitSp, ho]

/-- the coroutine that awaited a suspend point continues only after everything queued before it and the other
handles of the suspend point were resumed from the queue -/
theorem c05_await_requeue {s : State} (h : Reachable s) (c : Nat) (cs : List Nat) (rev : Bool)
    (hc : s.cur = some c) (out : Nat) (ho : (handles s.st cs rev).getLast? = some out)
    (acts : List Act) (hrun : (run (step s (Act.wake cs Mode.await rev)) acts).cur = some c) :
    (s.deq ++ s.ready ++ (handles s.st cs rev).dropLast ++ [c])
      <+: (run (step s (Act.wake cs Mode.await rev)) acts).deq := by
  obtain ⟨_, hr, hd⟩ := c05_await_step s c cs rev hc out ho
  simpa [hd] using requeued_last (reachable_step h (Act.wake cs Mode.await rev)) hr acts hrun

/-- **Exactly once**: every time a coroutine was made ready it was resumed exactly once or its handle is
pending in exactly one place (ready queue, `suspend_now` loop, or a job handed to a pool worker / new thread),
never in two, and it is pending iff its status is `ready`. -/
theorem c05_once {s : State} (h : Reachable s) (i : Nat) :
    s.made.count i = s.runs.count i
        + (s.ready.count i + (loopIds s.base).count i + (jobIds s.jobs).count i)
    ∧ s.ready.count i + (loopIds s.base).count i + (jobIds s.jobs).count i
        = if s.st i = St.ready then 1 else 0 := by
  have hp := (reachable_inv h).per i
  exact ⟨by have := hp.once; omega, hp.handle_once⟩

/-- **No re-entry** (state form): exactly the executing coroutine has status `running`; hence at most one
coroutine runs at a time, no handle of a running coroutine exists in the queue or in a `suspend_now` loop, and a
running coroutine is not at the same time blocked in a nested `start()`. -/
theorem c05_no_reentry {s : State} (h : Reachable s) (i : Nat) :
    (s.st i = St.running ↔ s.cur = some i)
    ∧ (s.st i = St.running → s.ready.count i = 0 ∧ (loopIds s.base).count i = 0 ∧ s.calls.count i = 0) := by
  have hI := reachable_inv h
  refine ⟨hI.running_iff i, fun hr => ?_⟩
  have h1 := (hI.per i).handle_once
  have h2 := (hI.per i).stacked_once
  simp [hr] at h1 h2
  omega

/-- **No re-entry** (transition form): whoever gets control in a step either had it already, or was before the step
neither running nor finished: never a coroutine that is running elsewhere and never a finished one. -/
theorem c05_resume_only_suspended {s : State} (h : Reachable s) (a : Act) (x : Nat)
    (hx : (step s a).cur = some x) :
    s.cur = some x ∨ (s.st x ≠ St.running ∧ s.st x ≠ St.done) :=
  (cur_Step (reachable_inv h) (step_Step s a) hx).imp_right fun e => by grind

/-- **Full drain**: whenever ordinary code is in control outside every `install_queue_and_call` block (the
outermost coroutine activation has returned), the ready queue is empty, the thread has left coroutine mode,
nothing is pending on this thread (no coroutine is running or blocked in a nested start, and a coroutine is
ready only if its handle was handed to another thread: pool worker / `parallel` thread), everything that was
appended to the queue was taken from it, and every coroutine was resumed exactly as often as it was made
ready, not counting the handles other threads still hold. The same holds for those threads when they are done
with a job (`Act.job` runs in this very context). -/
theorem c05_drain {s : State} (h : Reachable s) (hc : s.cur = none) (hb : s.blocks = []) :
    s.ready = [] ∧ s.active = false ∧ s.base = none ∧ s.calls = [] ∧ s.deq = s.enq
    ∧ (∀ i, (s.st i = St.ready → i ∈ jobIds s.jobs) ∧ s.st i ≠ St.running ∧ s.st i ≠ St.stacked)
    ∧ (∀ i, s.runs.count i + (jobIds s.jobs).count i = s.made.count i) := by
  have hI := reachable_inv h
  obtain ⟨hbase, hcl, hnr, hab⟩ := main_facts hI hc
  have hrd := hI.idle hb hbase
  have hact : s.active = false := by simpa [hb] using hab
  refine ⟨hrd, hact, hbase, hcl, ?_, ?_, ?_⟩
  · rw [hI.fifo, hrd]; simp
  · intro i
    have h1 := (hI.per i).handle_once
    have h2 := (hI.per i).stacked_once
    simp [hrd, hbase, hcl, loopIds] at h1 h2
    refine ⟨fun hr => ?_, hnr i, h2⟩
    simp [hr] at h1
    exact List.count_pos_iff.1 (by omega)
  · intro i
    have := (hI.per i).once
    simp [hrd, hbase, loopIds] at this
    omega

/-- control is in ordinary code exactly when no coroutine activation is pending below it; in coroutine mode
(`is_active()`) exactly when a block is open or an activation is pending -/
theorem c05_active_iff {s : State} (h : Reachable s) :
    (s.active = true ↔ 0 < depth s) ∧ (s.cur = none ↔ s.base = none) ∧ (s.cur ≠ none → s.active = true) := by
  have hI := reachable_inv h
  refine ⟨?_, hI.cur_base, ?_⟩
  · have h1 := hI.base_ok
    have h2 := hI.calls_base
    unfold depth
    split at h1 <;> cases hbl : s.blocks <;> simp_all <;> omega
  · intro hc
    obtain ⟨c, hcc⟩ := Option.ne_none_iff_exists'.1 hc
    exact (cur_facts hI hcc).2.2

/-! ## Any number of ready coroutines

The ready queue of the model is a list: every theorem above holds for queues of every length and for every interleaving of appends
and removals.  The statements below make that quantifier explicit: the size of the queue and the shape of the history appear as
universally quantified variables, with no bound.  The generated programs of `checks/c05.py` (`wide_fanout`, `wide_tree`,
`wide_cycles`, `wide_ring`, `wide_random`, `deep_chain`: tens to a thousand coroutines ready at once, widths around powers of
two) tie these statements to the headers. -/

/-- **The ready queue is a queue at every size** (any reachable state, any continuation, no bound on the number of ready
coroutines or on the number of acts): between two points of a run, let `new` be what was appended to the ready queue in between.
Then what was taken from the queue in between is a prefix — the first `k` — of `ready ++ new`, and the queue afterwards is exactly
the rest: whatever the number of coroutines that are ready at the same time (`s.ready.length` is arbitrary), and however the
appends are interleaved with the removals (the queue grows while it is being drained), nothing is lost, nothing is duplicated and
nothing overtakes. -/
theorem c05_fifo_window {s : State} (h : Reachable s) (acts : List Act) :
    ∃ (new : List Nat) (k : Nat),
      (run s acts).enq = s.enq ++ new
      ∧ (run s acts).deq = s.deq ++ (s.ready ++ new).take k
      ∧ (run s acts).ready = (s.ready ++ new).drop k := by
  have hI := (reachable_inv h).fifo
  have hT := (reachable_inv (reachable_run h acts)).fifo
  obtain ⟨⟨new, hn⟩, ⟨d, hd⟩⟩ := grows_run acts s
  generalize run s acts = t at *
  have key : d ++ t.ready = s.ready ++ new :=
    List.append_cancel_left (as := s.deq) (by rw [← List.append_assoc, hd, ← hT, ← hn, hI, List.append_assoc])
  exact ⟨new, d.length, hn.symm, by simp [← key, hd], by simp [← key]⟩

/-- **Any number of simultaneously ready coroutines is drained in queue order**: for every `n` — no bound — if `n` coroutines wait
in the ready queue, then in every later state in which at least `n` handles have been taken from the queue, the first `n` of them
were exactly those `n` coroutines, in the order in which they waited, before anything that was queued later. -/
theorem c05_fifo_any_width (n : Nat) {s : State} (h : Reachable s) (hn : s.ready.length = n) (acts : List Act)
    (hd : s.deq.length + n ≤ (run s acts).deq.length) :
    (s.deq ++ s.ready) <+: (run s acts).deq := by
  obtain ⟨new, k, _, h2, _⟩ := c05_fifo_window h acts
  rw [h2] at hd ⊢
  have hk : n ≤ k := by
    simp only [List.length_append, List.length_take] at hd
    omega
  refine (List.prefix_append_right_inj _).2 ?_
  have e : (s.ready ++ new).take n = s.ready := by
    rw [List.take_append_of_le_length (by omega), ← hn, List.take_length]
  have := List.take_prefix_take_left (l := s.ready ++ new) hk
  rwa [e] at this

/-- **Fan-out of any width** (decision logic, any state): a running coroutine that makes `cs` ready — any number of pairwise
different fresh or parked coroutines — and drops the suspend point appends all of them, in order, behind what is already queued
(of any length): the queue holds `s.ready.length + cs.length` handles afterwards, none is dropped, none is reordered. -/
theorem c05_fanout_any_width (s : State) (c : Nat) (cs : List Nat) (rev : Bool) (hc : s.cur = some c)
    (hnd : cs.Nodup) (hw : ∀ i ∈ cs, s.st i = St.fresh ∨ s.st i = St.parked) :
    (step s (Act.wake cs Mode.discard rev)).ready = s.ready ++ cs
    ∧ (step s (Act.wake cs Mode.discard rev)).ready.length = s.ready.length + cs.length
    ∧ (step s (Act.wake cs Mode.discard rev)).cur = some c := by
  have hh : handles s.st cs rev = cs := by
    unfold handles
    apply collect_all cs s.st hnd
    intro i hi
    rcases hw i hi with e | e <;> simp [e, wakeable]
  obtain ⟨h1, h2, _⟩ := c05_no_preempt s c cs rev hc
  refine ⟨by rw [h2, hh], by rw [h2, hh, List.length_append], h1⟩

/-- **Non-vacuity at every width**: for every list `cs` of pairwise different coroutines (any length — 33, 65, 1000 …) the program
"ordinary code starts coroutine 0; 0 makes all of `cs` ready, drops the suspend point and finishes; everybody finishes" is a run of
the model in which `cs.length` coroutines are ready at the same time; they are resumed from the queue in exactly the order `cs`,
each once, and when control is back in ordinary code the queue is empty and the thread has left coroutine mode. -/
theorem c05_wide_fanout_run (cs : List Nat) (hnd : cs.Nodup) (h0 : 0 ∉ cs) :
    (run init [Act.start 0 true, Act.wake cs Mode.discard false]).ready = cs
    ∧ (run init [Act.start 0 true, Act.wake cs Mode.discard false]).cur = some 0
    ∧ (run init (Act.start 0 true :: Act.wake cs Mode.discard false :: List.replicate (cs.length + 1) Act.fin)).deq = cs
    ∧ (run init (Act.start 0 true :: Act.wake cs Mode.discard false :: List.replicate (cs.length + 1) Act.fin)).runs = 0 :: cs
    ∧ (run init (Act.start 0 true :: Act.wake cs Mode.discard false :: List.replicate (cs.length + 1) Act.fin)).ready = []
    ∧ (run init (Act.start 0 true :: Act.wake cs Mode.discard false :: List.replicate (cs.length + 1) Act.fin)).cur = none
    ∧ (run init (Act.start 0 true :: Act.wake cs Mode.discard false :: List.replicate (cs.length + 1) Act.fin)).active = false := by
  have hr : (enqueue (step init (Act.start 0 true)) cs false).ready = cs :=
    collect_all cs _ hnd fun i hi => by
      have : i ≠ 0 := fun e => h0 (e ▸ hi)
      simp [step, init, mainStep, mainStart, upd, this, wakeable]
  have := drain_fins cs (enqueue (step init (Act.start 0 true)) cs false) 0 rfl rfl rfl hr fun _ => rfl
  exact ⟨hr, rfl, this.2.2.1, this.2.2.2.1, this.2.1, this.1, this.2.2.2.2.1⟩

/-- fan-out while the queue is being drained (the shape of `wide_fanout`/`wide_tree` of the generator): 0 readies 1, 2 and
finishes; 1 runs, readies 3, 4 and pauses; 2 runs, readies 5, 6 and pauses — the queue grows (2, 3, 4 handles …) while its head
advances; the handles leave it in exactly the order in which they entered -/
example :
    let p := [Act.start 0 true, Act.wake [1, 2] Mode.discard false, Act.fin,
              Act.wake [3, 4] Mode.discard false, Act.pause, Act.wake [5, 6] Mode.discard false, Act.pause]
    (run init p).cur = some 3 ∧ (run init p).ready = [4, 1, 5, 6, 2] ∧ (run init p).deq = [1, 2, 3]
    ∧ (run init p).enq = [1, 2, 3, 4, 1, 5, 6, 2]
    ∧ (run init (p ++ List.replicate 6 Act.fin)).deq = [1, 2, 3, 4, 1, 5, 6, 2]
    ∧ (run init (p ++ List.replicate 6 Act.fin)).cur = none
    ∧ (run init (p ++ List.replicate 6 Act.fin)).active = false := by decide

/-! ## `co_await` of a suspend point that holds the awaiting coroutine's own handle (self.h)

`sp = <make pre ready>; sp << co_await self(); sp << <make post ready>; co_await sp;` — `Act.awaitSelf pre post`.  The awaiting
coroutine handed in ONE handle of itself, so "each exactly once" of the statement says it is resumed exactly once: by the symmetric
transfer when its handle is the last one (then it must not be queued as well), from the ready queue otherwise (then it must not be
queued a second time "as the awaiting coroutine"). -/

/-- own handle LAST (decision logic, any state): the awaiting coroutine continues at once — the transfer goes to itself —, it is
not put into the ready queue; the handles of `pre` are appended in order; nothing is taken from the queue -/
theorem c05_await_own_handle_last (s : State) (c : Nat) (pre post : List Nat) (hc : s.cur = some c)
    (hp : (collect (collect s.st pre).1 post).2 = []) :
    (step s (Act.awaitSelf pre post)).cur = some c
    ∧ (step s (Act.awaitSelf pre post)).ready = s.ready ++ (collect s.st pre).2
    ∧ (step s (Act.awaitSelf pre post)).deq = s.deq
    ∧ (step s (Act.awaitSelf pre post)).runs = s.runs ++ [c]
    ∧ (step s (Act.awaitSelf pre post)).made = s.made ++ (collect s.st pre).2 ++ [c] := by
  simp [step, hc, coStep, coAwaitSelf, hp]

/-- own handle NOT last (decision logic, any state): the last handle `out` runs first; the handles of `pre`, the awaiting
coroutine — at the position of its own handle, once — and the other handles of `post` are appended to the queue in this order -/
theorem c05_await_own_handle_inside (s : State) (c : Nat) (pre post : List Nat) (hc : s.cur = some c) (out : Nat)
    (ho : (collect (collect s.st pre).1 post).2.getLast? = some out) :
    (step s (Act.awaitSelf pre post)).cur = some out
    ∧ (step s (Act.awaitSelf pre post)).ready
        = s.ready ++ (collect s.st pre).2 ++ [c] ++ (collect (collect s.st pre).1 post).2.dropLast
    ∧ (step s (Act.awaitSelf pre post)).deq = s.deq
    ∧ (step s (Act.awaitSelf pre post)).runs = s.runs ++ [out] := by
  simp [step, hc, coStep, coAwaitSelf, ho]

/-- **Exactly once, the own handle included** (every reachable state, any `pre`/`post`): after `co_await` of a suspend point
that holds its own handle the awaiting coroutine either continues at once or waits in the ready queue exactly once — never both
(no stale queue entry that would resume it a second time while it is suspended on something else), never twice, never neither. -/
theorem c05_await_own_handle_once {s : State} (h : Reachable s) (c : Nat) (pre post : List Nat) (hc : s.cur = some c) :
    (step s (Act.awaitSelf pre post)).ready.count c
      + (if (step s (Act.awaitSelf pre post)).cur = some c then 1 else 0) = 1 := by
  have hT := reachable_inv (reachable_step h (Act.awaitSelf pre post))
  have h1 := (hT.per c).handle_once
  have h2 := hT.running_iff c
  have : (step s (Act.awaitSelf pre post)).cur = some c ∨ 0 < (step s (Act.awaitSelf pre post)).ready.count c := by
    cases hp : (collect (collect s.st pre).1 post).2.getLast? with
    | none => exact .inl (c05_await_own_handle_last s c pre post hc (by simpa using hp)).1
    | some out => right; rw [(c05_await_own_handle_inside s c pre post hc out hp).2.1]; simp [List.count_append]; omega
  grind

/-- reachable states that use `Act.awaitSelf`: the demonstration program of the seeded change
`r6-c05-await-suspend-self-check-after-pop`
(1 parks; 0 makes 1 ready, adds its own handle LAST and awaits: 0 continues, 1 is queued, 0 is not; 0 parks: 1 runs, and when
control is back in ordinary code 0 is still parked — it was not resumed a second time); own handle first; own handle in the middle -/
example :
    (run init [Act.start 1 true, Act.park, Act.start 0 true, Act.awaitSelf [1] []]).cur = some 0
    ∧ (run init [Act.start 1 true, Act.park, Act.start 0 true, Act.awaitSelf [1] []]).ready = [1]
    ∧ (run init [Act.start 1 true, Act.park, Act.start 0 true, Act.awaitSelf [1] [], Act.park]).cur = some 1
    ∧ (run init [Act.start 1 true, Act.park, Act.start 0 true, Act.awaitSelf [1] [], Act.park, Act.fin]).cur = none
    ∧ (run init [Act.start 1 true, Act.park, Act.start 0 true, Act.awaitSelf [1] [], Act.park, Act.fin]).st 0 = St.parked
    ∧ (run init [Act.start 1 true, Act.park, Act.start 0 true, Act.awaitSelf [1] [], Act.park, Act.fin]).runs = [1, 0, 0, 1]
    ∧ (run init [Act.start 0 true, Act.awaitSelf [] [1, 2]]).cur = some 2
    ∧ (run init [Act.start 0 true, Act.awaitSelf [] [1, 2]]).ready = [0, 1]
    ∧ (run init [Act.start 0 true, Act.awaitSelf [1] [2, 3]]).cur = some 3
    ∧ (run init [Act.start 0 true, Act.awaitSelf [1] [2, 3]]).ready = [1, 0, 2]
    ∧ (run init [Act.start 0 true, Act.awaitSelf [] []]).cur = some 0
    ∧ (run init [Act.start 0 true, Act.awaitSelf [] []]).ready = [] := by decide

/-! ## Other threads: `parallel` (resume.h) and the thread pool as scheduling modifiers

What C05 promises about them: the resolver is not preempted and its ready queue is not touched (the awaiting
coroutine is handed to another thread instead of being queued); the hand-over happens exactly once (`c05_once`
counts the jobs); in the other thread the coroutine runs in coroutine mode, under a queue installed for the
activation (`c05_other_thread_job`, and `c05_active_iff`: whoever executes, `active` holds), which is drained
before that thread is done (`c05_drain`; `Act.job` runs in this context because a thread outside every
activation carries no executor state). `immediately<Awt>` does not compile when instantiated (its
`perform_resume` has not the type of `awaiter::resume_fn`) and is therefore outside every program. -/

/-- resolving a future awaited through `parallel(...)`, or `parallel_resume(sp)`: the caller keeps running, its
ready queue, the dequeue log and the resume log are unchanged; the handles go to a new thread -/
theorem c05_handoff_no_preempt (s : State) (d : Nat) (cs : List Nat) (rev : Bool) :
    ((step s (Act.wakePar d)).cur = s.cur ∧ (step s (Act.wakePar d)).ready = s.ready
      ∧ (step s (Act.wakePar d)).deq = s.deq ∧ (step s (Act.wakePar d)).runs = s.runs
      ∧ (s.st d = St.pparked → (step s (Act.wakePar d)).jobs = s.jobs ++ [([d], false)]))
    ∧ ((step s (Act.wake cs Mode.par rev)).cur = s.cur ∧ (step s (Act.wake cs Mode.par rev)).ready = s.ready
      ∧ (step s (Act.wake cs Mode.par rev)).deq = s.deq ∧ (step s (Act.wake cs Mode.par rev)).runs = s.runs
      ∧ (handles s.st cs rev ≠ [] →
          (step s (Act.wake cs Mode.par rev)).jobs = s.jobs ++ [(handles s.st cs rev, false)])) := by
  -- both acts do the same whoever performs them
  have e1 : step s (Act.wakePar d) = wakePar s d := by unfold step; split <;> rfl
  have e2 : step s (Act.wake cs Mode.par rev) = postJob s cs rev := by unfold step; split <;> rfl
  rw [e1, e2, wakePar, postJob]
  constructor <;> split <;> simp_all

/-- `co_await pool`: the coroutine's handle goes to the pool, once, behind the jobs posted before -/
theorem c05_hop (s : State) (c : Nat) (hc : s.cur = some c) :
    (step s Act.hop).jobs = s.jobs ++ [([c], true)] := by
  simp only [step, hc, coStep, coHop, settle]
  repeat' split
  all_goals rfl

/-- **A coroutine resumed in another thread runs in coroutine mode**: a pool worker / a `parallel` thread that
takes a job installs the queue for the activation (`coro_queue::resume`), resumes the first handle under it and
keeps the others for its `suspend_now` loop. -/
theorem c05_other_thread_job (s : State) (h : Nat) (hs : List Nat) (k : Bool) (js : List (List Nat × Bool))
    (hc : s.cur = none) (ha : s.active = false) (hb : s.blocks = []) (hcl : s.calls = [])
    (hj : s.jobs = (h :: hs, k) :: js) :
    (step s Act.job).active = true ∧ (step s Act.job).cur = some h
    ∧ (step s Act.job).base = some (Base.loop hs false) ∧ (step s Act.job).jobs = js
    ∧ (step s Act.job).ready = s.ready ∧ (step s Act.job).worker = k := by
  simp [step, hc, mainStep, mainJob, ha, hb, hj, settle, hcl]

/-- `coro_queue::can_block()`: outside every activation blocking starves nobody; in general it is refused
exactly when the thread is in coroutine mode with something queued -/
theorem c05_can_block {s : State} (h : Reachable s) :
    (s.cur = none → s.blocks = [] → canBlock s = true)
    ∧ (canBlock s = false ↔ (s.active = true ∧ s.ready ≠ [])) := by
  constructor
  · intro hc hb
    have := c05_drain h hc hb
    simp [canBlock, this.1]
  · simp [canBlock]

/-- **A blocking wait is not a suspension**: `force_wait()`/`force_sync()` on a future that another thread
resolves blocks the thread and returns; between the start and the end of the call nothing is resumed on this
thread: the caller is still the one executing, the ready queue, the dequeue log and the resume log are untouched,
no activation begins or ends (whatever the caller had made ready is still queued afterwards). -/
theorem c05_blocking_wait (s : State) : step s Act.fwait = s := by
  unfold step
  split <;> rfl

/-! ## Generators accessed synchronously (generator.h)

`bool(gen.next())`, `gen()` and `gen.next().subscribe(a)` resume the generator body directly, from whatever code makes the
access.  What C05 promises about the body — a coroutine running on the thread — is what it promises about every coroutine:
`c05_active_iff` (whoever executes, a queue is installed), `c05_no_preempt`, `c05_fifo`, `c05_pause_round_robin`, `c05_drain`
hold for every act list, the accesses (`Act.gnext`) and `co_yield`s (`Act.gyield`) included.  The pinned code resumed the body
by a bare `h.resume()` even from ordinary code outside coroutine mode (`c05_asis_generator_without_queue`, `/repo` commit
191263e). -/

/-- **An accessed generator body runs in coroutine mode.**  Accessing a generator whose body has not started or is suspended in
`co_yield` transfers control to the body with a queue installed, in every reachable state: from ordinary code outside coroutine
mode the access installs the queue for this activation (`Base.loop [] false`: when the body returns, the trailer runs everything
the body queued and then leaves coroutine mode — `c05_generator_yield`, `c05_drain`); with a queue installed (ordinary code inside
a block, or a coroutine, which is then blocked on the C stack) the body is resumed directly.  Nothing is taken from or added to
the ready queue by the access itself. -/
theorem c05_generator_access {s : State} (h : Reachable s) (d : Nat) (hd : resumable s d = true) :
    (step s (Act.gnext d)).cur = some d
    ∧ (step s (Act.gnext d)).active = true
    ∧ (step s (Act.gnext d)).ready = s.ready ∧ (step s (Act.gnext d)).deq = s.deq
    ∧ (step s (Act.gnext d)).enq = s.enq ∧ (step s (Act.gnext d)).runs = s.runs ++ [d]
    ∧ (s.cur = none → s.active = false →
        (step s (Act.gnext d)).base = some (Base.loop [] false) ∧ (step s (Act.gnext d)).blocks = [])
    ∧ (s.cur = none → s.active = true →
        (step s (Act.gnext d)).base = some Base.callMain ∧ (step s (Act.gnext d)).blocks = s.blocks)
    ∧ (∀ c, s.cur = some c →
        (step s (Act.gnext d)).calls = c :: s.calls ∧ (step s (Act.gnext d)).st c = St.stacked
        ∧ (step s (Act.gnext d)).base = s.base) := by
  have hI := reachable_inv h
  cases hc : s.cur with
  | some c =>
    obtain ⟨hr, hb, ha⟩ := cur_facts hI hc
    have hne : c ≠ d := by have := (resumable_iff s d).1 hd; grind
    simp [step, hc, coStep, coGnext, hd, ha, upd_apply, hne]
  | none =>
    cases ha : s.active with
    | true => simp [step, hc, mainStep, mainGnext, hd, ha]
    | false => simp [step, hc, mainStep, mainGnext, hd, ha, (outside_facts hI hc (by simp [ha])).1]

/-- **`co_yield` to a synchronous access returns to the accessor**, who is not preempted by what the body queued: a coroutine
that made the access continues with the queue untouched; ordinary code outside coroutine mode gets control back only after the
trailer of the queue installed for the access has run what the body made ready (the head of the queue is next), or at once when
nothing is queued — coroutine mode is then left. -/
theorem c05_generator_yield (s : State) (c : Nat) (hc : s.cur = some c) (hg : s.gen c = true) :
    step s Act.gyield = settle { s with st := upd s.st c St.yielded }
    ∧ (∀ p ps, s.calls = p :: ps →
        (step s Act.gyield).cur = some p ∧ (step s Act.gyield).ready = s.ready ∧ (step s Act.gyield).deq = s.deq
        ∧ (step s Act.gyield).runs = s.runs ∧ (step s Act.gyield).calls = ps)
    ∧ (∀ prev x q, s.calls = [] → s.base = some (Base.loop [] prev) → s.ready = x :: q →
        (step s Act.gyield).cur = some x ∧ (step s Act.gyield).ready = q ∧ (step s Act.gyield).deq = s.deq ++ [x]
        ∧ (step s Act.gyield).active = s.active)
    ∧ (∀ prev, s.calls = [] → s.base = some (Base.loop [] prev) → s.ready = [] →
        (step s Act.gyield).cur = none ∧ (step s Act.gyield).active = prev ∧ (step s Act.gyield).base = none) := by
  refine ⟨by simp [step, hc, coStep, coGyield, hg], ?_, ?_, ?_⟩
  · intro p ps hp; simp [step, hc, coStep, coGyield, hg, settle, hp]
  · intro prev x q hcl hb hr; simp [step, hc, coStep, coGyield, hg, settle, hcl, hb, hr]
  · intro prev hcl hb hr; simp [step, hc, coStep, coGyield, hg, settle, hcl, hb, hr]

/-- The pinned (unrepaired) generator access (before `/repo` commit 191263e "fix: synchronous and future access to a generator
ran its body without a coroutine queue"; replayed on the headers in corpus/c05_generator_access.txt): ordinary code reads
generator 0 synchronously, the body runs with no queue installed; it detaches coroutine 1 and drops the suspend point — 1 runs
at once, in the middle of the body, which has neither suspended nor finished.  Repaired: the body keeps running, 1 waits in the
ready queue and runs after the body has yielded, before the access returns to ordinary code. -/
theorem c05_asis_generator_without_queue :
    (runGenAsIs init [Act.gnext 0]).cur = some 0
    ∧ (runGenAsIs init [Act.gnext 0]).active = false
    ∧ (runGenAsIs init [Act.gnext 0, Act.wake [1] Mode.discard false]).cur = some 1
    ∧ (runGenAsIs init [Act.gnext 0, Act.wake [1] Mode.discard false]).st 0 = St.stacked
    ∧ (run init [Act.gnext 0]).active = true
    ∧ (run init [Act.gnext 0, Act.wake [1] Mode.discard false]).cur = some 0
    ∧ (run init [Act.gnext 0, Act.wake [1] Mode.discard false]).ready = [1]
    ∧ (run init [Act.gnext 0, Act.wake [1] Mode.discard false, Act.gyield]).cur = some 1
    ∧ (run init [Act.gnext 0, Act.wake [1] Mode.discard false, Act.gyield]).st 0 = St.yielded
    ∧ (run init [Act.gnext 0, Act.wake [1] Mode.discard false, Act.gyield, Act.fin]).cur = none
    ∧ (run init [Act.gnext 0, Act.wake [1] Mode.discard false, Act.gyield, Act.fin]).active = false := by decide

/-- reachable states that use `Act.gnext` / `Act.gyield`: a second access resumes the yielded body; a yielded generator cannot be made ready
by a `wake`; access from a coroutine (1 is blocked, what the body queued stays queued when 1 continues) and from ordinary code
inside a block; `pause` in a body with an empty queue continues the body; a finished generator is not resumed -/
example :
    (run init [Act.gnext 0, Act.gyield, Act.gnext 0]).cur = some 0
    ∧ (run init [Act.gnext 0, Act.gyield, Act.gnext 0]).runs = [0, 0]
    ∧ (run init [Act.gnext 0, Act.gyield, Act.wake [0] Mode.discard false]).cur = none
    ∧ (run init [Act.gnext 0, Act.gyield, Act.wake [0] Mode.discard false]).st 0 = St.yielded
    ∧ (run init [Act.start 1 true, Act.gnext 0, Act.wake [2] Mode.discard false, Act.gyield]).cur = some 1
    ∧ (run init [Act.start 1 true, Act.gnext 0, Act.wake [2] Mode.discard false, Act.gyield]).ready = [2]
    ∧ (run init [Act.enter, Act.gnext 0]).base = some Base.callMain
    ∧ (run init [Act.enter, Act.gnext 0, Act.wake [2] Mode.discard false, Act.gyield]).cur = none
    ∧ (run init [Act.enter, Act.gnext 0, Act.wake [2] Mode.discard false, Act.gyield]).ready = [2]
    ∧ (run init [Act.gnext 0, Act.pause, Act.fin, Act.gnext 0]).cur = none := by decide

/-- The pinned (unrepaired) `parallel`: the awaiting coroutine 0 was resumed in its new thread by a bare
`h.resume()`, i.e. outside coroutine mode; when it then detaches coroutine 1 and drops the suspend point, 1 runs
at once while 0 has neither suspended nor finished (replayed on the headers in corpus/c05_sched.txt; repaired by
`/repo` commit b372584, after which 0 keeps running and 1 waits in the ready queue). -/
theorem c05_asis_violation :
    (runAsIs init [Act.start 0 true, Act.parkPar, Act.wakePar 0, Act.job]).cur = some 0
    ∧ (runAsIs init [Act.start 0 true, Act.parkPar, Act.wakePar 0, Act.job]).active = false
    ∧ (runAsIs init [Act.start 0 true, Act.parkPar, Act.wakePar 0, Act.job,
                     Act.wake [1] Mode.discard false]).cur = some 1
    ∧ (runAsIs init [Act.start 0 true, Act.parkPar, Act.wakePar 0, Act.job,
                     Act.wake [1] Mode.discard false]).st 0 = St.stacked
    ∧ (run init [Act.start 0 true, Act.parkPar, Act.wakePar 0, Act.job]).active = true
    ∧ (run init [Act.start 0 true, Act.parkPar, Act.wakePar 0, Act.job,
                 Act.wake [1] Mode.discard false]).cur = some 0
    ∧ (run init [Act.start 0 true, Act.parkPar, Act.wakePar 0, Act.job,
                 Act.wake [1] Mode.discard false]).ready = [1] := by decide

/-- The pinned (unrepaired) `coro_queue::create_suspend_point` (before `/repo` commit 34c6158 "fix: create_suspend_point
returned the readied coroutines in reverse order"; replayed on the headers in corpus/c05_gather_order.txt): coroutine 0 makes
1, 2, 3 ready in this order under `create_suspend_point` (`made`), drops the returned suspend point and finishes — the ready
queue holds 3, 2, 1 and they are resumed 3, 2, 1, not in the order they were queued; the same calls without the wrapper, and
the repaired code with it, resume 1, 2, 3. -/
theorem c05_asis_create_reversed :
    (runGatherAsIs init [Act.start 0 true, Act.wake [1, 2, 3] Mode.discard true]).cur = some 0
    ∧ (runGatherAsIs init [Act.start 0 true, Act.wake [1, 2, 3] Mode.discard true]).made = [0, 1, 2, 3]
    ∧ (runGatherAsIs init [Act.start 0 true, Act.wake [1, 2, 3] Mode.discard true]).ready = [3, 2, 1]
    ∧ (runGatherAsIs init [Act.start 0 true, Act.wake [1, 2, 3] Mode.discard true, Act.fin, Act.fin, Act.fin, Act.fin]).runs
        = [0, 3, 2, 1]
    ∧ (runGatherAsIs init [Act.start 0 true, Act.wake [1, 2, 3] Mode.discard false, Act.fin, Act.fin, Act.fin, Act.fin]).runs
        = [0, 1, 2, 3]
    ∧ (run init [Act.start 0 true, Act.wake [1, 2, 3] Mode.discard true]).ready = [1, 2, 3]
    ∧ (run init [Act.start 0 true, Act.wake [1, 2, 3] Mode.discard true, Act.fin, Act.fin, Act.fin, Act.fin]).runs
        = [0, 1, 2, 3]
    ∧ (run init [Act.start 0 true, Act.wake [1, 2, 3] Mode.discard true, Act.fin, Act.fin, Act.fin, Act.fin]).made
        = [0, 1, 2, 3] := by decide

/-! ## Non-vacuity: the hypotheses are met by real runs

Program: ordinary code starts coroutine 0; 0 detaches 1 and 2 (suspend points dropped), pauses; 1 pauses;
2, 0, 1 finish. -/

def demo : List Act :=
  [Act.start 0 true, Act.wake [1, 2] Mode.discard false, Act.pause, Act.pause, Act.fin, Act.fin, Act.fin]

example : Reachable (run init demo) := ⟨_, rfl⟩

/-- after `0` dropped the suspend point it is still running and 1, 2 are queued in order -/
example : (run init (demo.take 2)).cur = some 0 ∧ (run init (demo.take 2)).ready = [1, 2]
    ∧ (run init (demo.take 2)).active = true := by decide

/-- `pause` of 0 with `[1, 2]` queued: 1 and 2 are taken from the queue before 0 continues; at the end the
queue is drained, the thread left coroutine mode and everybody was resumed as often as made ready -/
example : (run init (demo.take 5)).cur = some 0 ∧ (run init (demo.take 5)).deq = [1, 2, 0]
    ∧ (run init demo).cur = none ∧ (run init demo).blocks = [] ∧ (run init demo).active = false
    ∧ (run init demo).deq = [1, 2, 0, 1] ∧ (run init demo).enq = [1, 2, 0, 1]
    ∧ (run init demo).made = [0, 1, 2, 0, 1] ∧ (run init demo).runs = [0, 1, 2, 0, 1] := by decide

/-- awaited suspend point: the last handle runs first, the first one and the awaiting coroutine are queued;
nested `start()` inside a coroutine and an `install_queue_and_call` block of ordinary code -/
example :
    (run init [Act.start 0 true, Act.wake [1, 2] Mode.await false]).cur = some 2
    ∧ (run init [Act.start 0 true, Act.wake [1, 2] Mode.await false]).ready = [1, 0]
    ∧ (run init [Act.start 0 true, Act.start 1 true, Act.park]).cur = some 0
    ∧ (run init [Act.start 0 true, Act.start 1 true, Act.park]).st 1 = St.parked
    ∧ (run init [Act.enter, Act.wake [3] Mode.discard false]).cur = none
    ∧ (run init [Act.enter, Act.wake [3] Mode.discard false]).ready = [3]
    ∧ (run init [Act.enter, Act.wake [3] Mode.discard false, Act.leave]).cur = some 3
    ∧ (run init [Act.enter, Act.wake [3] Mode.discard false, Act.leave, Act.fin]).active = false := by decide

/-- nested start: 0 queues 2, starts 1; 1 parks; 0 continues with 2 still queued -/
example :
    (run init [Act.start 0 true, Act.wake [2] Mode.discard false, Act.start 1 true]).calls = [0]
    ∧ (run init [Act.start 0 true, Act.wake [2] Mode.discard false, Act.start 1 true, Act.park]).cur = some 0
    ∧ (run init [Act.start 0 true, Act.wake [2] Mode.discard false, Act.start 1 true, Act.park]).ready = [2]
    ∧ (run init [Act.enter, Act.wake [0] Mode.discard false, Act.start 1 true]).base = some Base.callMain
    ∧ (run init [Act.enter, Act.wake [0] Mode.discard false, Act.start 1 true, Act.park]).ready = [0] := by decide

/-- reachable states that use the acts of the other threads: pool hop and `hopCur` on the worker, `parallel_resume`;
a coroutine entered through `initial_awaiter` (`start _ false`) -/
example :
    (run init [Act.start 0 true, Act.hop]).jobs = [([0], true)]
    ∧ (run init [Act.start 0 true, Act.hop, Act.job]).cur = some 0
    ∧ (run init [Act.start 0 true, Act.hop, Act.job]).worker = true
    ∧ (run init [Act.start 0 true, Act.hop, Act.job, Act.hopCur]).jobs = [([0], true)]
    ∧ (run init [Act.start 0 true, Act.hop, Act.job, Act.hopCur]).cur = none
    ∧ (run init [Act.start 0 true, Act.hopCur]).cur = some 0
    ∧ (run init [Act.wake [1, 2] Mode.par false]).jobs = [([1, 2], false)]
    ∧ (run init [Act.wake [1, 2] Mode.par false, Act.job]).cur = some 1
    ∧ (run init [Act.wake [1, 2] Mode.par false, Act.job]).base = some (Base.loop [2] false)
    ∧ (run init [Act.start 0 false, Act.start 1 false, Act.fin]).cur = some 0
    ∧ (run init [Act.start 0 false, Act.start 1 false]).starter 1 = none := by decide

end Cocls.Exec
