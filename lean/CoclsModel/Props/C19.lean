import CoclsModel.StorageProofs
import CoclsModel.StorageMtProofs
import CoclsModel.StorageSelProofs
/-!
# C19 — coroutine storage policies give every frame exclusive, correctly freed memory

Models: `CoclsModel/Storage.lean` (one machine, the policy is a parameter: `default_storage`, `reusable_storage`,
`reusable_storage_mtsafe`, `stack_storage`, `placement_alloc`, `reusable_buffer_storage`, `static_storage`, each optionally
wrapped in `promise_extra_storage<T, ·>` — `Cfg.extra = sizeof(T)`), `CoclsModel/StorageMt.lean` (the thread-safe variant
under every interleaving of any number of threads, one step per hooked operation) and `CoclsModel/StorageSel.lean` (which
argument of a coroutine selects the storage; last section).

The theorems quantify over *all* configurations and *all* operation lists (`Reachable c s` = some list of frame
creations / completions / policy operations leads from the freshly constructed storage to `s`) resp. *all*
schedules; where no invariant is needed, over arbitrary states.  `s.ok = true` is the explicit totalisation: the caller
respected the documented contract of the single-block policies (they have no busy flag; the last examples of the section
"non-vacuity, and why the contract (`ok`) is needed" show what happens otherwise).
`CfgOK` only says `sizeof(Item) ≥ 1` for `reusable_buffer_storage`.
-/
namespace Cocls.Storage

/-- **Exclusive memory.** For every policy (with or without the extra-object wrapper), after every sequence of
operations that respects the documented contract, no two live frames share a block … -/
theorem c19_exclusive {c : Cfg} (hc : CfgOK c) {s : State} (h : Reachable c s) (hok : s.ok = true) : Exclusive s :=
  (reachable_inv hc h hok).mem.excl

/-- … and **at least as large as requested**: every live frame sits in memory that exists for its whole lifetime (a
live heap block / the caller's buffer) and is large enough for the frame, the extra object and the policy's trailer
(`need = sz + sizeof(T) + trailer`). -/
theorem c19_size {c : Cfg} (hc : CfgOK c) {s : State} (h : Reachable c s) (hok : s.ok = true) :
    ∀ f ∈ s.frames, Fits s f :=
  (reachable_inv hc h hok).mem.fits

/-- the three byte ranges inside a frame's heap block do not overlap and lie inside the block: frame `[0, sz)`,
extra object `[sz, sz + extra)`, trailer `[sz + extra, sz + extra + trailer)` -/
theorem c19_layout {c : Cfg} (hc : CfgOK c) {s : State} (h : Reachable c s) (hok : s.ok = true)
    (f : Frame) (hf : f ∈ s.frames) (b : Nat) (hb : f.blk = Blk.heap b) :
    ∃ n, (b, n) ∈ s.heap.live ∧ f.sz + c.extra + trailer c.pol ≤ n := by
  obtain rfl := reachable_cfg h
  have := c19_size hc h hok f hf
  simp only [Fits, hb, need] at this
  exact this

/-- **Released exactly once.** No heap block is ever deleted twice, only blocks that were obtained from
`operator new` are deleted, and a deleted block is not live. -/
theorem c19_released_at_most_once {c : Cfg} (hc : CfgOK c) {s : State} (h : Reachable c s) (hok : s.ok = true) (b : Nat) :
    s.heap.dels.count b ≤ 1 ∧ (b ∈ s.heap.dels → b < s.heap.next ∧ b ∉ s.heap.ids) := by
  have ho := (reachable_inv hc h hok).mem.heapOnce
  exact ⟨ho.dels_le_one b, ho.of_mem_dels⟩

/-- **No leak.** Every live heap block is either the storage's own block, the block of the other `reusable_storage`
object (source / target of moves), or the private block of exactly one live frame (a heap fallback / a
`default_storage` frame); nothing else is live, and these never coincide (each count is at most 1). -/
theorem c19_no_leak {c : Cfg} (hc : CfgOK c) {s : State} (h : Reachable c s) (hok : s.ok = true) (b : Nat) :
    s.heap.ids.count b = s.ptr.toList.count b + s.optr.toList.count b + (privBlocks s.frames).count b :=
  (reachable_inv hc h hok).mem.noleak b

/-- **Any heap fallback is released exactly once**: once all frames are gone and the storage object is destroyed,
the heap is empty and every block that was ever allocated has been deleted exactly once. -/
theorem c19_fallback_freed_once {c : Cfg} (hc : CfgOK c) {s : State} (h : Reachable c s) (hok : s.ok = true)
    (hq : s.frames = []) :
    (step s Op.destroy).1.heap.live = [] ∧
    ∀ b, (step s Op.destroy).1.heap.dels.count b = if b < (step s Op.destroy).1.heap.next then 1 else 0 := by
  have hok' : (step s Op.destroy).1.ok = true := by
    show (s.ok && s.frames.isEmpty) = true
    simp [hok, hq]
  have hi := reachable_inv hc (h.step Op.destroy) hok'
  have hids : (step s Op.destroy).1.heap.ids = [] :=
    List.eq_nil_iff_forall_not_mem.mpr fun b => List.count_eq_zero.mp (by
      rw [hi.mem.noleak b, show (step s Op.destroy).1.frames = [] from hq]
      rfl)
  refine ⟨List.map_eq_nil_iff.mp hids, fun b => ?_⟩
  have h1 := hi.mem.once b
  rwa [hids, List.count_nil, Nat.zero_add] at h1

/-- decision logic of `dealloc`: releasing a frame deletes exactly its own block iff the trailer / flag byte marks it
private, and makes no heap call otherwise -/
theorem c19_free_path (s : State) (f : Frame) (hfind : s.frames.find? (fun g => g.id == f.id) = some f) :
    (f.priv = true → ∀ b, f.blk = Blk.heap b → (stepFree s f.id).1.heap = s.heap.del b) ∧
    (f.priv = false → (stepFree s f.id).1.heap = s.heap) := by
  unfold stepFree release
  simp only [hfind]
  constructor
  · intro hp b hb; simp [hp, hb]
  · intro hp; simp only [hp, Bool.false_eq_true, if_false]; split <;> rfl

/-- **No heap memory after warm-up** (`reusable_storage`, `reusable_storage_mtsafe` with its block free,
`reusable_buffer_storage`): once a frame of `n` bytes was served from the storage's own block, *every* later
request of at most `n` bytes — after any further history that does not destroy the storage or switch to the other
storage object or contain a request whose `operator new` fails (moves of the storage and throwing factories are
allowed: the capacity moves with the block / is untouched) — is served without any heap call. -/
theorem c19_warm_no_alloc {c : Cfg} (hc : CfgOK c) (hr : Reusing c.pol) (ops1 ops2 : List Op) (k k' n m : Nat)
    (hm : m ≤ n) (hnd : Op.destroy ∉ ops2 ∧ Op.swapobj ∉ ops2 ∧ ∀ k sz, Op.allocFail k sz ∉ ops2)
    (hb1 : c.pol = Policy.mtsafe → (run (init c) ops1).busy = false)
    (hok : (run (init c) (ops1 ++ Op.alloc k n :: ops2)).ok = true)
    (hb2 : c.pol = Policy.mtsafe → (run (init c) (ops1 ++ Op.alloc k n :: ops2)).busy = false) :
    (step (run (init c) (ops1 ++ Op.alloc k n :: ops2)) (Op.alloc k' m)).1.heap
      = (run (init c) (ops1 ++ Op.alloc k n :: ops2)).heap := by
  have e : run (init c) (ops1 ++ Op.alloc k n :: ops2) = run (step (run (init c) ops1) (Op.alloc k n)).1 ops2 :=
    run_append _ ops1 _
  rw [e] at hok hb2 ⊢
  have h : Reachable c (run (init c) ops1) := ⟨ops1, rfl⟩
  generalize run (init c) ops1 = s at *
  obtain rfl := reachable_cfg h
  have hi := reachable_inv hc h ((step_later _ _).ok ((run_later _ ops2).ok hok))
  exact warm_no_alloc hc hi.mem.vsize_le hr ops2 k k' n m hm hnd hb1 hb2

/-- **`stack_storage` after warm-up.** A frame of `n` bytes that did not fit went to the heap and left its size in
the shared state; after any number of completions and further `stack_storage` objects, an object constructed from
that state serves *every* frame of at most `n` bytes in place (in its own buffer `ext k`), without a heap call. -/
theorem c19_warm_stack (s : State) (i : Nat) (hp : s.cfg.pol = Policy.stack i) (k n asz : Nat)
    (hk : s.objs[k]? = some asz) (hbig : ¬ need s.cfg n ≤ asz)
    (ops : List Op) (hq : ∀ op ∈ ops, Quiet op) (m : Nat) (hm : m ≤ n) :
    (step (step (run (step s (Op.alloc k n)).1 ops) Op.newobj).1
        (Op.alloc (run (step s (Op.alloc k n)).1 ops).objs.length m)).1.heap
      = (run (step s (Op.alloc k n)).1 ops).heap ∧
    (step (step (run (step s (Op.alloc k n)).1 ops) Op.newobj).1
        (Op.alloc (run (step s (Op.alloc k n)).1 ops).objs.length m)).2
      = Res.alloc (run (step s (Op.alloc k n)).1 ops).nextFrame (Blk.ext (run (step s (Op.alloc k n)).1 ops).objs.length) := by
  have h0 : (step s (Op.alloc k n)).1.sstate = need s.cfg n ∧ (step s (Op.alloc k n)).1.cfg = s.cfg := by
    simp only [step, stepAlloc, hp, hk, allocStack, hbig, if_false, addFrame, and_self]
  have h1 := quiet_run_sstate (step s (Op.alloc k n)).1 ops hq
  have hcfg := (run_later (step s (Op.alloc k n)).1 ops).cfg.trans h0.2
  generalize run (step s (Op.alloc k n)).1 ops = t at h1 hcfg ⊢
  have hpt : t.cfg.pol = Policy.stack i := by rw [hcfg]; exact hp
  have hget : (t.objs ++ [t.sstate])[t.objs.length]? = some t.sstate := by simp
  have hfit : need t.cfg m ≤ t.sstate := by rw [h1, h0.1, hcfg]; simp only [need]; omega
  simp only [step, stepNewobj, stepAlloc, hpt, hget, allocStack, hfit, if_true, addFrame, and_self]

/-- **The extra object is constructed exactly once and destroyed exactly once with the frame**
(`promise_extra_storage`; `born` / `died` log the constructor / destructor calls, which sit in `alloc` / `dealloc`):
every frame ever created has exactly one construction; it has exactly one destruction iff it is no longer live,
and none while it is live. -/
theorem c19_extra_object_once {c : Cfg} (hc : CfgOK c) {s : State} (h : Reachable c s) (hok : s.ok = true) (i : Nat) :
    s.born.count i = (if i < s.nextFrame then 1 else 0) ∧
    (s.frames.map (·.id)).count i + s.died.count i = s.born.count i := by
  have hb := (reachable_inv hc h hok).book
  exact ⟨hb.born_once i, by rw [hb.born_once i]; exact hb.life i⟩

/-- **… and is usable as soon as the coroutine object exists**: when `alloc` returns (i.e. before the coroutine
function has returned its object and long before the body runs) the extra object of *this* frame has been
constructed, has not been destroyed, and `inventory` points at it; it lies behind the frame inside the frame's
block (`c19_layout`). -/
theorem c19_extra_object_usable {c : Cfg} (hc : CfgOK c) {s : State} (h : Reachable c s) (k sz id : Nat) (blk : Blk)
    (hres : (step s (Op.alloc k sz)).2 = Res.alloc id blk) (hok : (step s (Op.alloc k sz)).1.ok = true) :
    (step s (Op.alloc k sz)).1.inventory = some id ∧ (step s (Op.alloc k sz)).1.born.count id = 1 ∧
    (step s (Op.alloc k sz)).1.died.count id = 0 ∧
    ∃ f ∈ (step s (Op.alloc k sz)).1.frames, f.id = id ∧ f.blk = blk ∧ f.sz = sz := by
  obtain ⟨_, hinv, _, _, p, hfr⟩ := alloc_result s k sz id blk hres
  have hb := (reachable_inv hc (h.step _) hok).book
  have hmem : (⟨id, blk, sz, p⟩ : Frame) ∈ (step s (Op.alloc k sz)).1.frames := by rw [hfr]; simp
  have hlt := hb.fid_lt _ hmem
  have h1 := hb.born_once id
  have h2 := hb.life id
  have h3 : 0 < ((step s (Op.alloc k sz)).1.frames.map (·.id)).count id :=
    List.count_pos_iff.mpr (List.mem_map.mpr ⟨_, hmem, rfl⟩)
  simp only [] at hlt
  rw [if_pos hlt] at h1 h2
  exact ⟨hinv, h1, by omega, ⟨id, blk, sz, p⟩, hmem, rfl, rfl, rfl⟩

/-- **A throwing factory leaves nothing behind** (`promise_extra_storage::alloc`, repaired): when constructing the
extra object throws, no frame and no extra object exist afterwards, every bookkeeping of frames is as before — and,
because `allocThrow` is an ordinary step of the machine, all theorems about `Reachable` states (`c19_no_leak`: no block
without an owner; `c19_mtsafe_sequential`: `_busy` only while a frame lives in the block; `c19_warm_no_alloc`) hold after
any number of such failed creations. -/
theorem c19_extra_factory_throws {c : Cfg} (hc : CfgOK c) {s : State} (h : Reachable c s) (hok : s.ok = true) (k sz : Nat)
    (hok' : (step s (Op.allocThrow k sz)).1.ok = true) :
    (step s (Op.allocThrow k sz)).1.frames = s.frames ∧ (step s (Op.allocThrow k sz)).1.born = s.born ∧
    (step s (Op.allocThrow k sz)).1.died = s.died ∧ (step s (Op.allocThrow k sz)).1.nextFrame = s.nextFrame ∧
    (∀ b, (step s (Op.allocThrow k sz)).1.heap.ids.count b
        = (step s (Op.allocThrow k sz)).1.ptr.toList.count b + (step s (Op.allocThrow k sz)).1.optr.toList.count b
          + (privBlocks s.frames).count b) ∧
    (c.pol = Policy.mtsafe → ((step s (Op.allocThrow k sz)).1.busy = true ↔ ∃ f ∈ s.frames, f.priv = false)) := by
  obtain rfl := reachable_cfg h
  have hi := (reachable_inv hc (h.step (Op.allocThrow k sz)) hok').mem
  have hfr := sameFrames_stepAllocThrow (reachable_inv hc h hok).book k sz
  have e : (step s (Op.allocThrow k sz)).1.frames = s.frames := hfr.frames
  exact ⟨e, hfr.born, hfr.died, hfr.nextFrame, fun b => e ▸ hi.noleak b,
    fun hp => e ▸ hi.busy_iff (hfr.cfg ▸ hp)⟩

/-- The pinned code violated the property here: the exception left `alloc` with the memory still taken.  With a
`reusable_storage_mtsafe` inside, `_busy` stays set although no frame exists, so the next — warmed-up — frame goes to
the heap; with `default_storage` inside the block is leaked.  Replayed on the headers by
corpus/c19_seq_extra_factory_throws.txt; repaired by `/repo` commit 85df56d. -/
theorem c19_extra_factory_throws_asis_violation :
    ((stepAllocThrowAsIs (run (init { pol := Policy.mtsafe, extra := 16 }) [Op.alloc 0 40, Op.free 0]) 0 40).1.busy = true
      ∧ (stepAllocThrowAsIs (run (init { pol := Policy.mtsafe, extra := 16 }) [Op.alloc 0 40, Op.free 0]) 0 40).1.frames = []
      ∧ (step (stepAllocThrowAsIs (run (init { pol := Policy.mtsafe, extra := 16 }) [Op.alloc 0 40, Op.free 0]) 0 40).1
            (Op.alloc 0 40)).1.heap.live = [(0, 64), (1, 64)])
    ∧ ((stepAllocThrowAsIs (init { pol := Policy.default, extra := 40 }) 0 24).1.heap.live = [(0, 64)]
      ∧ (stepAllocThrowAsIs (init { pol := Policy.default, extra := 40 }) 0 24).1.frames = []) := by decide

/-- the same history on the repaired step: `_busy` is clear again and the next frame reuses the block -/
example : (run (init { pol := Policy.mtsafe, extra := 16 }) [Op.alloc 0 40, Op.free 0, Op.allocThrow 0 40]).busy = false
    ∧ (run (init { pol := Policy.mtsafe, extra := 16 }) [Op.alloc 0 40, Op.free 0, Op.allocThrow 0 40, Op.alloc 0 40]).heap.live
        = [(0, 64)]
    ∧ (run (init { pol := Policy.default, extra := 40 }) [Op.allocThrow 0 24]).heap.live = []
    ∧ (run (init { pol := Policy.default, extra := 40 }) [Op.allocThrow 0 24]).heap.dels = [0]
    ∧ (run (init { pol := Policy.mtsafe, extra := 16 }) [Op.alloc 0 40, Op.free 0, Op.allocThrow 0 40]).ok = true := by decide

/-- **`reusable_buffer_storage<std::vector<Item>>` rounds up for every element size** (not only powers of two: 3, 12,
24-byte elements …): after a request the user's buffer — the vector's `size()`, not merely its capacity — holds at
least the frame (`ceil(need / sizeof(Item)) * sizeof(Item) ≥ need` for every `sizeof(Item) ≥ 1`). -/
theorem c19_buffer_user_size (s : State) (i : Nat) (hi : 0 < i) (hp : s.cfg.pol = Policy.buffer i) (k sz : Nat) :
    need s.cfg sz ≤ (step s (Op.alloc k sz)).1.vsize * i := by
  have h1 := ceil_mul_ge (need s.cfg sz) i hi
  have h2 : (need s.cfg sz + i - 1) / i ≤ (bufResized s i sz).vsize := by
    unfold bufResized
    split
    · rw [vresize_vsize]; exact Nat.le_refl _
    · omega
  have h3 := Nat.mul_le_mul_right i h2
  show need s.cfg sz ≤ (stepAlloc s k sz).1.vsize * i
  simp only [stepAlloc, hp, allocBuffer, addFrame]
  omega

/-- **A failed growth leaves an empty, reusable storage** (`reusable_storage::alloc` / `reusable_storage_mtsafe::alloc`,
repaired): when `operator new` throws `bad_alloc` while the block is being grown, the old block has been deleted
exactly once, `_ptr` is null, `_capacity` 0, `_busy` clear, no frame was created and all frames that live in private
blocks are untouched; the state satisfies the invariant again (`allocFail` is an ordinary step, so every theorem
about `Reachable` states covers histories with failed allocations) — in particular the next request obtains a fresh block. -/
theorem c19_failed_growth_leaves_empty_storage {c : Cfg} (hc : CfgOK c) (hp : c.pol = Policy.reusable ∨ c.pol = Policy.mtsafe)
    {s : State} (h : Reachable c s) (k sz : Nat) (hfree : s.busy = false) (hg : s.cap < need c sz)
    (hok' : (step s (Op.allocFail k sz)).1.ok = true) :
    (step s (Op.allocFail k sz)).2 = Res.failed ∧
    (step s (Op.allocFail k sz)).1.ptr = none ∧ (step s (Op.allocFail k sz)).1.cap = 0 ∧
    (step s (Op.allocFail k sz)).1.busy = false ∧ (step s (Op.allocFail k sz)).1.frames = s.frames ∧
    (step s (Op.allocFail k sz)).1.heap = s.heap.delOpt s.ptr ∧
    Inv (step s (Op.allocFail k sz)).1 ∧
    ∀ k' m, 0 < need c m → (step (step s (Op.allocFail k sz)).1 (Op.alloc k' m)).2
        = Res.alloc s.nextFrame (Blk.heap (step s (Op.allocFail k sz)).1.heap.next) := by
  obtain rfl : s.cfg = c := reachable_cfg h
  have hi := reachable_inv hc (h.step _) hok'
  have hg : need s.cfg sz > s.cap := hg
  -- the two policies differ in which of `_busy` and `ok` the failed growth writes
  obtain ⟨b, o, rfl, e⟩ : ∃ b o, b = false ∧ step s (Op.allocFail k sz) =
      ({ s with heap := s.heap.delOpt s.ptr, ptr := none, cap := 0, vsize := 0, busy := b, ok := o }, Res.failed) := by
    rcases hp with hp | hp
    · exact ⟨s.busy, s.ok && s.frames.isEmpty, hfree, by simp only [step, stepAllocFail, hp, hg, if_true]⟩
    · exact ⟨false, s.ok, rfl, by simp only [step, stepAllocFail, hp, hfree, hg, if_true, Bool.false_eq_true, if_false]⟩
  rw [e] at hi ⊢
  refine ⟨rfl, rfl, rfl, rfl, rfl, rfl, hi, fun k' m h0 => ?_⟩
  rcases hp with hp | hp <;>
    simp only [step, stepAlloc, hp, Bool.false_eq_true, if_false, rsAlloc, State.ptrBlk, h0, if_true]

/-- The pinned code violated the property here: `delete _ptr; _ptr = new(sz)` — when `new` throws, `_ptr` keeps the
address of the deleted block and `_capacity` its size.  The next, smaller frame is placed in memory that is not live
(block 0 was deleted), and the destructor deletes block 0 a second time; a `reusable_storage_mtsafe` additionally keeps
`_busy` set although no frame exists.  Replayed on the headers by corpus/c19_seq_failed_growth.txt (ASan: attempting
double-free / heap-use-after-free); repaired by `/repo` commit a532e23. -/
theorem c19_failed_growth_asis_violation :
    ((step (stepAllocFailAsIs (run (init { pol := Policy.reusable }) [Op.alloc 0 40, Op.free 0]) 0 100).1 (Op.alloc 0 8)).1.frames.map (·.blk)
        = [Blk.heap 0]
      ∧ (step (stepAllocFailAsIs (run (init { pol := Policy.reusable }) [Op.alloc 0 40, Op.free 0]) 0 100).1 (Op.alloc 0 8)).1.heap.live = []
      ∧ (run (stepAllocFailAsIs (run (init { pol := Policy.reusable }) [Op.alloc 0 40, Op.free 0]) 0 100).1
            [Op.alloc 0 8, Op.free 1, Op.destroy]).heap.dels = [0, 0])
    ∧ ((stepAllocFailAsIs (run (init { pol := Policy.mtsafe }) [Op.alloc 0 40, Op.free 0]) 0 100).1.busy = true
      ∧ (stepAllocFailAsIs (run (init { pol := Policy.mtsafe }) [Op.alloc 0 40, Op.free 0]) 0 100).1.frames = []) := by decide

/-- the same history on the repaired step: the storage is empty, the next frame gets a fresh block, one delete per block -/
example : (run (init { pol := Policy.reusable }) [Op.alloc 0 40, Op.free 0, Op.allocFail 0 100, Op.alloc 0 8]).heap.live = [(1, 8)]
    ∧ (run (init { pol := Policy.reusable }) [Op.alloc 0 40, Op.free 0, Op.allocFail 0 100, Op.alloc 0 8, Op.free 1, Op.destroy]).heap.dels
        = [0, 1]
    ∧ (run (init { pol := Policy.mtsafe }) [Op.alloc 0 40, Op.free 0, Op.allocFail 0 100]).busy = false
    ∧ (run (init { pol := Policy.mtsafe }) [Op.alloc 0 40, Op.free 0, Op.allocFail 0 100]).ok = true := by decide

/-- **`static_storage<space>`**: a frame is placed in the object's own buffer exactly when frame + trailer fit
(`need ≤ space`, the library's `assert`); with the `assert` compiled in a larger request is rejected and nothing
happens; without it (`NDEBUG`) the frame goes to a fresh heap block of exactly `need` bytes, marked private, which
`dealloc` (`ptr != _buffer`) deletes — exclusivity, size and exactly-once release of both paths are
`c19_exclusive` / `c19_size` / `c19_released_at_most_once` / `c19_fallback_freed_once` with `c.pol = static …`.
The buffer has no busy flag: it is handed out again only after the caller released it (`ok`). -/
theorem c19_static_storage (s : State) (space : Nat) (a : Bool) (hp : s.cfg.pol = Policy.static space a) (k sz : Nat) :
    (need s.cfg sz ≤ space →
        (step s (Op.alloc k sz)).2 = Res.alloc s.nextFrame (Blk.ext 0) ∧ (step s (Op.alloc k sz)).1.heap = s.heap ∧
        ((step s (Op.alloc k sz)).1.ok = true ↔ s.ok = true ∧ ∀ f ∈ s.frames, f.blk ≠ Blk.ext 0)) ∧
    (space < need s.cfg sz → a = true → step s (Op.alloc k sz) = (s, Res.rejected)) ∧
    (space < need s.cfg sz → a = false →
        (step s (Op.alloc k sz)).2 = Res.alloc s.nextFrame (Blk.heap s.heap.next) ∧
        (step s (Op.alloc k sz)).1.heap = s.heap.new (need s.cfg sz) ∧
        (step s (Op.alloc k sz)).1.frames = s.frames ++ [⟨s.nextFrame, Blk.heap s.heap.next, sz, true⟩]) := by
  simp only [step, stepAlloc, hp]
  refine ⟨?_, ?_, ?_⟩
  · intro hfit
    have : ¬ space < need s.cfg sz := by omega
    simp only [this, decide_false, Bool.and_false, Bool.false_eq_true, if_false, allocStatic, hfit, if_true, addFrame]
    refine ⟨trivial, trivial, ?_⟩
    simp [Bool.and_eq_true, List.all_eq_true]
  · intro hbig ha
    simp [hbig, ha]
  · intro hbig ha
    have : ¬ need s.cfg sz ≤ space := by omega
    simp [hbig, ha, allocStatic, this, addFrame]

/-- **Moves of a `reusable_storage`** (move construction into a re-constructed object and move assignment are the
same transition): the receiving object takes over block and capacity — a frame living in the block stays where it
is, in live memory —, whatever the receiving object owned before is deleted exactly once, nothing else is touched. -/
theorem c19_move_transfers_block (s : State) (hp : s.cfg.pol = Policy.reusable) :
    (step s Op.moveOut).1.ptr = s.ptr ∧ (step s Op.moveOut).1.cap = s.cap ∧ (step s Op.moveOut).1.frames = s.frames ∧
    (step s Op.moveOut).1.optr = none ∧ (step s Op.moveOut).1.heap = s.heap.delOpt s.optr ∧
    (step s Op.moveOut).1.ok = s.ok := by
  simp [step, stepMoveOut, hp]

/-- the two storage objects never own the same block, both own live blocks of their recorded capacity (so the
destructor of either deletes a block that is live and its own: no double free, `c19_released_at_most_once`) -/
theorem c19_two_objects_disjoint {c : Cfg} (hc : CfgOK c) (hp : c.pol = Policy.reusable) {s : State} (h : Reachable c s)
    (hok : s.ok = true) :
    (∀ p, s.ptr = some p → s.optr ≠ some p ∧ (p, s.cap) ∈ s.heap.live) ∧
    (∀ q, s.optr = some q → (q, s.ocap) ∈ s.heap.live) := by
  obtain rfl := reachable_cfg h
  have hi := (reachable_inv hc h hok).mem
  refine ⟨fun p hpp => ⟨hi.ptr_ne_optr hpp, ?_⟩, hi.optr_live⟩
  simpa only [capBytes, hp] using hi.ptr_live p hpp

/-- `reusable_storage_mtsafe`, one thread at a time: at most one live frame sits in the shared block, `_busy` is set
exactly while it does, and every other live frame has a private heap block -/
theorem c19_mtsafe_sequential {c : Cfg} (hc : CfgOK c) (hp : c.pol = Policy.mtsafe) {s : State} (h : Reachable c s)
    (hok : s.ok = true) :
    (s.busy = true ↔ ∃ f ∈ s.frames, f.priv = false) ∧
    (∀ f ∈ s.frames, ∀ g ∈ s.frames, f.priv = false → g.priv = false → f = g) ∧
    (∀ f ∈ s.frames, f.priv = false ↔ f.blk = s.ptrBlk) := by
  obtain rfl := reachable_cfg h
  have hi := (reachable_inv hc h hok).mem
  exact ⟨hi.busy_iff hp, fun f hf g hg => hi.shared_unique hp hf hg, fun f hf =>
    ⟨fun hq => by simpa only [SharedAt, hp] using hi.shared_blk f hf hq,
     fun hb => Bool.eq_false_iff.mpr fun hq => hi.priv_ne_ptrBlk hf hq hb⟩⟩

/-! ### non-vacuity, and why the contract (`ok`) is needed -/

/-- `c19_warm_no_alloc` is not vacuous: buffer storage over `std::vector<uint32_t>`, a 33 byte frame, then a 20 byte
frame after the owner shrank the vector in between -/
example : (run (init { pol := Policy.buffer 4 }) ([] ++ Op.alloc 0 33 :: [Op.free 0, Op.bufset 3])).ok = true
    ∧ (run (init { pol := Policy.buffer 4 }) ([] ++ Op.alloc 0 33 :: [Op.free 0, Op.bufset 3])).heap.live = [(0, 36)] := by decide

/-- `c19_warm_stack` is not vacuous: fresh state variable (0), the first frame goes to the heap -/
example : (run (init { pol := Policy.stack 0 }) [Op.newobj]).objs[0]? = some 0
    ∧ ¬ need (run (init { pol := Policy.stack 0 }) [Op.newobj]).cfg 30 ≤ 0 := by decide

/-- `c19_fallback_freed_once` is not vacuous: a shared frame and a fallback frame, both released, storage destroyed:
blocks 0 and 1 were each deleted once -/
example : (run (init { pol := Policy.mtsafe }) [Op.alloc 0 40, Op.alloc 0 24, Op.free 0, Op.free 1]).ok = true
    ∧ (run (init { pol := Policy.mtsafe }) [Op.alloc 0 40, Op.alloc 0 24, Op.free 0, Op.free 1]).frames = []
    ∧ (run (init { pol := Policy.mtsafe }) [Op.alloc 0 40, Op.alloc 0 24, Op.free 0, Op.free 1, Op.destroy]).heap.dels = [1, 0] := by
  decide

/-- static storage, both builds: a frame that fits sits in the buffer; a larger one is rejected (assert) or goes to
a private heap block of frame + trailer bytes (NDEBUG) and is released by `dealloc` -/
example : (run (init { pol := Policy.static 64 true }) [Op.alloc 0 40, Op.alloc 0 100]).ok = true
    ∧ ((run (init { pol := Policy.static 64 true }) [Op.alloc 0 40, Op.alloc 0 100]).frames.map (·.blk)) = [Blk.ext 0] := by
  decide
example : (run (init { pol := Policy.static 64 false }) [Op.alloc 0 40, Op.alloc 0 100]).ok = true
    ∧ ((run (init { pol := Policy.static 64 false }) [Op.alloc 0 40, Op.alloc 0 100]).frames.map (·.blk)) = [Blk.ext 0, Blk.heap 0]
    ∧ (run (init { pol := Policy.static 64 false }) [Op.alloc 0 40, Op.alloc 0 100]).heap.live = [(0, 108)]
    ∧ (run (init { pol := Policy.static 64 false }) [Op.alloc 0 40, Op.alloc 0 100, Op.free 1, Op.free 0, Op.destroy]).heap.dels = [0] := by
  decide

/-- moves: both objects own a block; a frame is created, the storage is moved while the frame is live (the block of
the receiving object, 0, is deleted), the frame is released, both objects are destroyed: each block deleted once -/
example : (run (init { pol := Policy.reusable }) [Op.alloc 0 16, Op.free 0, Op.swapobj, Op.alloc 0 40, Op.moveOut]).ok = true
    ∧ ((run (init { pol := Policy.reusable }) [Op.alloc 0 16, Op.free 0, Op.swapobj, Op.alloc 0 40, Op.moveOut]).frames.map (·.blk))
        = [Blk.heap 1]
    ∧ (run (init { pol := Policy.reusable }) [Op.alloc 0 16, Op.free 0, Op.swapobj, Op.alloc 0 40, Op.moveOut]).heap.live = [(1, 40)]
    ∧ (run (init { pol := Policy.reusable }) [Op.alloc 0 16, Op.free 0, Op.swapobj, Op.alloc 0 40, Op.moveOut, Op.free 1,
          Op.destroy]).heap.dels = [0, 1] := by
  decide

/-- reachable, contract respected, with a reused block and a live frame -/
example : (run (init { pol := Policy.reusable }) [Op.alloc 0 40, Op.free 0, Op.alloc 0 24]).ok = true
    ∧ (run (init { pol := Policy.reusable }) [Op.alloc 0 40, Op.free 0, Op.alloc 0 24]).heap.live = [(0, 40)]
    ∧ (run (init { pol := Policy.reusable }) [Op.alloc 0 40, Op.free 0, Op.alloc 0 24]).frames.length = 1 := by decide

/-- mtsafe with extra object: a shared frame and a fallback frame live at once, contract respected -/
example : (run (init { pol := Policy.mtsafe, extra := 16 }) [Op.alloc 0 40, Op.alloc 0 24]).ok = true
    ∧ ((run (init { pol := Policy.mtsafe, extra := 16 }) [Op.alloc 0 40, Op.alloc 0 24]).frames.map (·.blk))
        = [Blk.heap 0, Blk.heap 1]
    ∧ (run (init { pol := Policy.mtsafe, extra := 16 }) [Op.alloc 0 40, Op.alloc 0 24]).heap.live = [(0, 64), (1, 48)] := by
  decide

/-- `reusable_storage` has no busy flag: a second frame while the first is live gets the *same* block (and a larger
one would even delete the block under the first frame).  This is the documented contract, recorded by `ok`. -/
example : ((run (init { pol := Policy.reusable }) [Op.alloc 0 40, Op.alloc 0 24]).frames.map (·.blk)) = [Blk.heap 0, Blk.heap 0]
    ∧ (run (init { pol := Policy.reusable }) [Op.alloc 0 40, Op.alloc 0 24]).ok = false := by decide

example : ((run (init { pol := Policy.reusable }) [Op.alloc 0 40, Op.alloc 0 48]).frames.map (·.blk)) = [Blk.heap 0, Blk.heap 1]
    ∧ (run (init { pol := Policy.reusable }) [Op.alloc 0 40, Op.alloc 0 48]).heap.live = [(1, 48)] := by decide

end Cocls.Storage

/-! ## the thread-safe variant under all interleavings -/
namespace Cocls.Storage.Mt

/-! `Reachable s` (StorageMtProofs.lean): `s = run init sched` for some schedule; a schedule step names a thread and what
it does next — begin an `alloc`, continue its operation by one hooked operation (`Act.fail`: the `operator new` it is about
to call throws), or `dealloc` a live frame. -/

/-- **The thread-safe variant never hands its block to two simultaneously live frames** — for every interleaving of
any number of threads: at most one live frame is marked as living in the shared block; no two live frames (shared or
private) share a block; every live frame's block is live — in particular the shared block is never deleted or
replaced under its frame — and holds frame + trailer. -/
theorem c19_mtsafe_exclusive {s : State} (h : Reachable s) :
    (∀ f ∈ s.frames, ∀ g ∈ s.frames, f.priv = false → g.priv = false → f = g) ∧
    (s.frames.map (·.blk)).Nodup ∧
    (∀ f ∈ s.frames, ∃ b n, f.blk = Blk.heap b ∧ (b, n) ∈ s.heap.live ∧ f.sz + 8 ≤ n) := by
  have hi := reachable_minv h
  exact ⟨fun f hf g hg => hi.shared_unique hf hg, hi.mem.excl, hi.fits⟩

/-- `_busy` is set exactly while a thread is growing the block or a frame lives in it; these exclude each other and
there is at most one growing thread (mutual exclusion on the shared block) -/
theorem c19_mtsafe_busy {s : State} (h : Reachable s) :
    (s.busy = true ↔ (∃ t, (s.pc t).holder = true) ∨ (∃ f ∈ s.frames, f.priv = false)) ∧
    (∀ t u, (s.pc t).holder = true → (s.pc u).holder = true → t = u) ∧
    (∀ t, (s.pc t).holder = true → ∀ f ∈ s.frames, f.priv = true) :=
  ⟨(reachable_minv h).busy_iff, (reachable_minv h).holder_unique, (reachable_minv h).holder_noshared⟩

/-- heap accounting under all interleavings: no block is deleted twice; the live blocks are exactly the storage's
current block (none between the two halves of a growth) and one private block per live fallback frame -/
theorem c19_mtsafe_heap_once {s : State} (h : Reachable s) (b : Nat) :
    s.heap.dels.count b ≤ 1 ∧ s.heap.ids.count b = (owned s).count b + (privBlocks s.frames).count b := by
  exact ⟨(reachable_minv h).mem.heapOnce.dels_le_one b, (reachable_minv h).noleak b⟩

/-- the right free path: releasing a live frame deletes exactly its own block iff its trailer is null (private
block), and otherwise only clears `_busy` without touching the heap — decided without reading `_ptr` -/
theorem c19_mtsafe_free_path (s : State) (f : Frame) (hfind : s.frames.find? (fun g => g.id == f.id) = some f) :
    (f.priv = true → ∀ b, f.blk = Blk.heap b →
        (stepFree s f.id).1.heap = s.heap.del b ∧ (stepFree s f.id).1.busy = s.busy) ∧
    (f.priv = false → (stepFree s f.id).1.heap = s.heap ∧ (stepFree s f.id).1.busy = false) := by
  unfold stepFree
  simp only [hfind]
  constructor
  · intro hp b hb; simp [hp, hb]
  · intro hp; simp [hp]

/-- at quiescence (no thread inside an operation, no live frame) the heap holds exactly the storage's own block:
every fallback block was released, exactly once (`c19_mtsafe_heap_once`) -/
theorem c19_mtsafe_quiescent {s : State} (h : Reachable s) (hidle : ∀ t, s.pc t = Pc.idle) (hq : s.frames = []) (b : Nat) :
    s.heap.ids.count b = s.ptr.toList.count b ∧ s.busy = false := by
  have hi := reachable_minv h
  have hb : s.busy = false := Bool.eq_false_iff.mpr fun hb => by
    rcases hi.busy_iff.mp hb with ⟨t, ht⟩ | ⟨f, hf, _⟩
    · rw [hidle t] at ht; cases ht
    · rw [hq] at hf; cases hf
  have h1 := hi.noleak b
  simp only [owned, (hi.free_block hb).2.2, hq, privBlocks_nil, List.count_nil, Nat.add_zero, Bool.false_eq_true,
    if_false] at h1
  exact ⟨h1, hb⟩

/-- **A failed growth under interleaving** (repaired `reusable_storage_mtsafe::alloc`): the thread that holds the block and
whose `operator new` throws first empties the storage (`_ptr = nullptr; _capacity = 0;`, still holding `_busy`, so nobody
else can touch the fields) and with its next hooked operation clears `_busy`; heap and live frames (all of them in
private blocks at that moment) are untouched, no frame is created, and both states are reachable states of the machine,
so `c19_mtsafe_exclusive` / `c19_mtsafe_busy` / `c19_mtsafe_heap_once` hold throughout — other threads may allocate
private blocks meanwhile and may take the (empty) shared storage afterwards. -/
theorem c19_mtsafe_failed_growth {s : State} (h : Reachable s) (t fid sz : Nat) (ht : s.pc t = Pc.needNew fid sz) :
    (step s t Act.fail).1.ptr = none ∧ (step s t Act.fail).1.cap = 0 ∧ (step s t Act.fail).1.busy = true ∧
    (step s t Act.fail).1.frames = s.frames ∧ (step s t Act.fail).1.heap = s.heap ∧
    (step s t Act.fail).1.pc t = Pc.needUnbusy fid ∧ Reachable (step s t Act.fail).1 ∧
    (step (step s t Act.fail).1 t Act.go).2 = Res.failed fid ∧
    (step (step s t Act.fail).1 t Act.go).1.busy = false ∧ (step (step s t Act.fail).1 t Act.go).1.ptr = none ∧
    (step (step s t Act.fail).1 t Act.go).1.cap = 0 ∧ (step (step s t Act.fail).1 t Act.go).1.frames = s.frames ∧
    (step (step s t Act.fail).1 t Act.go).1.heap = s.heap ∧ (step (step s t Act.fail).1 t Act.go).1.pc t = Pc.idle := by
  have hr : Reachable (step s t Act.fail).1 := by
    obtain ⟨sched, rfl⟩ := h
    exact ⟨sched ++ [(t, Act.fail)], by simp [run, List.foldl_append]⟩
  have hb : s.busy = true := (reachable_minv h).busy_iff.mpr (Or.inl ⟨t, by rw [ht]; rfl⟩)
  have e1 : step s t Act.fail = (setPc { s with ptr := none, cap := 0, dangling := false } t (Pc.needUnbusy fid), Res.paused "store") := by
    simp [step, ht, stepGoFail]
  have e2 : step (setPc { s with ptr := none, cap := 0, dangling := false } t (Pc.needUnbusy fid)) t Act.go
      = (setPc { (setPc { s with ptr := none, cap := 0, dangling := false } t (Pc.needUnbusy fid)) with busy := false } t Pc.idle,
         Res.failed fid) := by
    simp [step, stepGo, setPc]
  rw [e1] at hr ⊢
  simp only []
  rw [e2]
  refine ⟨rfl, rfl, hb, rfl, rfl, by simp [setPc], hr, rfl, rfl, rfl, rfl, rfl, rfl, by simp [setPc]⟩

/-- The pinned code violated the property: `dealloc` compared the frame's address with `me->_ptr`.  Thread 0 grows the
block (`delete` … `new`); in between thread 1 obtains a private block at the just-freed address and releases it: it is
taken for the shared block (never deleted: leaked; `_busy` cleared), and thread 1's next frame is placed in thread 0's
block — two live frames at one address.  Replayed on the headers by corpus/c19_mtsafe_stale_ptr.txt; repaired by
`/repo` commit 714a5b6 (the trailer decides). -/
theorem c19_mtsafe_asis_violation :
    ((AsIs.run {} [(0, Act.alloc 64), (0, Act.go), (0, Act.free 0), (0, Act.alloc 128), (0, Act.go), (1, Act.alloc 64),
        (1, Act.go), (1, Act.free 2), (0, Act.go), (1, Act.alloc 100)]).frames.map (·.addr)) = [2, 2] ∧
    (AsIs.run {} [(0, Act.alloc 64), (0, Act.go), (0, Act.free 0), (0, Act.alloc 128), (0, Act.go), (1, Act.alloc 64),
        (1, Act.go), (1, Act.free 2), (0, Act.go), (1, Act.alloc 100)]).live = [(1, 72), (2, 136)] := by decide

/-- the same schedule on the repaired model: thread 1's second frame does not get the shared block -/
example : ((run init [(0, Act.alloc 64), (0, Act.go), (0, Act.free 0), (0, Act.alloc 128), (0, Act.go), (1, Act.alloc 64),
        (1, Act.go), (1, Act.free 2), (0, Act.go), (1, Act.alloc 100), (1, Act.go)]).frames.map (·.blk))
      = [Blk.heap 2, Blk.heap 3] := by decide

/-- non-vacuity: a reachable state with a frame in the shared block, a private fallback frame and a third thread paused
before the `operator new` of its private block (a thread in the middle of a growth beside a shared frame is excluded by
`c19_mtsafe_busy`) -/
example : Reachable (run init [(0, Act.alloc 64), (0, Act.go), (1, Act.alloc 8), (1, Act.go), (2, Act.alloc 8)]) := ⟨_, rfl⟩
example : ((run init [(0, Act.alloc 64), (0, Act.go), (1, Act.alloc 8), (1, Act.go), (2, Act.alloc 8)]).frames.map (·.priv))
      = [false, true] := by decide

end Cocls.Storage.Mt

/-! ## which argument of the coroutine selects the storage

`CoclsModel/StorageSel.lean`: `custom_allocator_base`'s overload set `operator new(sz, Allocator &, …)` /
`operator new(sz, This &, Allocator &, …)` as a function `select` of the coroutine's argument list (`stor k`: an lvalue
of exactly the storage type, `derived k`: an object of a class derived from it — `class connection: reusable_storage`,
`reusable_storage_mtsafe`, `promise_extra_storage` —, `other`), and a machine with any number of `reusable_storage`
objects on which coroutines of *every* signature are created and completed.  `Reachable s` = some list of such
operations leads from the initial state to `s`; `s.ok` = the caller never created a coroutine whose selected storage
still held a live frame (the one-live-frame contract of `reusable_storage`). -/
namespace Cocls.StorageSel
open Cocls.Storage (Blk nodup_map_inj)

def Reachable (s : State) : Prop := ∃ ops, s = run init ops

theorem reachable_inv {s : State} (h : Reachable s) : Inv s := by
  obtain ⟨ops, rfl⟩ := h
  exact inv_run inv_init ops

/-- **The selection is the documented one, for every signature.**  `rest` is arbitrary: arguments from the third
position on never matter.
* free function with the storage first (1, 2); member function / lambda of a class unrelated to the storage type: the
  first declared parameter, be it the storage itself or an object derived from it (3, 4);
* the object of a member coroutine (or a leading argument) merely *derives* from the storage type and a storage is
  passed explicitly right behind it: the explicit storage is used, the object's own block is left alone (5);
  without an explicit storage the object's own storage is used (6, 7);
* two explicit storages in the first two positions: the second (8: both overloads are exact, the one with `This &` is
  more specialised); two derived objects, or nothing convertible in the first two positions: does not compile (9, 10). -/
theorem c19_select_documented (rest : List Arg) (a b d e : Nat) :
    select [Arg.stor a] = some a ∧
    (∀ x, (∀ c, x ≠ Arg.stor c) → select (Arg.stor a :: x :: rest) = some a) ∧
    select (Arg.other :: Arg.stor a :: rest) = some a ∧
    select (Arg.other :: Arg.derived d :: rest) = some d ∧
    select (Arg.derived d :: Arg.stor a :: rest) = some a ∧
    select [Arg.derived d] = some d ∧
    select (Arg.derived d :: Arg.other :: rest) = some d ∧
    select (Arg.stor a :: Arg.stor b :: rest) = some b ∧
    select (Arg.derived d :: Arg.derived e :: rest) = none ∧
    select (Arg.other :: Arg.other :: rest) = none := by
  refine ⟨rfl, ?_, rfl, rfl, rfl, rfl, rfl, rfl, rfl, rfl⟩
  intro x hx
  cases x with
  | stor c => exact absurd rfl (hx c)
  | derived c => rfl
  | other => rfl

/-- the selected storage is always one that was passed in the first or second position (as the storage itself or as an
object derived from it) — never a later argument, never anything that was not passed -/
theorem c19_select_position (args : List Arg) (k : Nat) (h : select args = some k) :
    args[0]? = some (Arg.stor k) ∨ args[0]? = some (Arg.derived k) ∨ args[1]? = some (Arg.stor k) ∨ args[1]? = some (Arg.derived k) := by
  unfold select at h
  split at h
  · injection h with h; subst h; exact Or.inr (Or.inr (Or.inl rfl))
  · injection h with h; subst h; exact Or.inl rfl
  · injection h with h; subst h; exact Or.inr (Or.inr (Or.inl rfl))
  · cases h
  · injection h with h; subst h; exact Or.inr (Or.inl rfl)
  · injection h with h; subst h; exact Or.inr (Or.inr (Or.inl rfl))
  · injection h with h; subst h; exact Or.inr (Or.inr (Or.inr rfl))
  · cases h

/-- **Every frame lives in the storage the API selects for it**: for every sequence of coroutine creations (any
signatures, any objects, any frame sizes), completions and storage destructions that respects the contract, every live
frame was served by the object `select` names for its arguments, sits in the block that object currently owns, that
block is live and at least as large as the frame; a frame without a block has size 0. -/
theorem c19_sel_frame_in_selected_storage {s : State} (h : Reachable s) (hok : s.ok = true) :
    ∀ f ∈ s.frames, select f.args = some f.obj ∧ f.blk = ptrBlk (s.ptr f.obj) ∧ f.sz ≤ s.cap f.obj ∧
      (∀ b, f.blk = Blk.heap b → (b, s.cap f.obj) ∈ s.heap.live) ∧ (f.blk = Blk.null → f.sz = 0) := by
  intro f hf
  have hi := reachable_inv h
  obtain ⟨hb, hsz⟩ := hi.home hok f hf
  refine ⟨hi.sel f hf, hb, hsz, ?_, ?_⟩
  · intro b hbb
    exact hi.ptr_live f.obj b (ptrBlk_eq_heap (hb ▸ hbb))
  · intro hn
    rw [hb] at hn
    cases hp : s.ptr f.obj with
    | none => have := hi.ptr_none f.obj hp; omega
    | some p => simp [hp, ptrBlk] at hn

/-- **Two live frames never overlap**, whatever the signatures of their coroutines: two different live frames were
served by different storage objects and do not share a heap block. -/
theorem c19_sel_exclusive {s : State} (h : Reachable s) (hok : s.ok = true) :
    ∀ f ∈ s.frames, ∀ g ∈ s.frames, f ≠ g → f.obj ≠ g.obj ∧ ∀ b, f.blk = Blk.heap b → g.blk ≠ Blk.heap b := by
  intro f hf g hg hne
  have hi := reachable_inv h
  have hobj : f.obj ≠ g.obj := fun e => hne (nodup_map_inj (hi.one hok) hf hg e)
  refine ⟨hobj, ?_⟩
  intro b hfb hgb
  have h1 := ptrBlk_eq_heap ((hi.home hok f hf).1 ▸ hfb)
  have h2 := ptrBlk_eq_heap ((hi.home hok g hg).1 ▸ hgb)
  exact hobj (hi.ptr_inj f.obj g.obj b h1 h2)

/-- **Released exactly once, nothing leaked** — with or without the contract: no block is deleted twice, a deleted
block is not live, and every live block is the block of exactly one storage object. -/
theorem c19_sel_freed_once {s : State} (h : Reachable s) (b : Nat) :
    s.heap.dels.count b ≤ 1 ∧ (b ∈ s.heap.dels → b < s.heap.next ∧ b ∉ s.heap.ids) ∧
    (b ∈ s.heap.ids → ∃ k, s.ptr k = some b ∧ ∀ j, s.ptr j = some b → j = k) := by
  have hi := reachable_inv h
  refine ⟨hi.once.dels_le_one b, hi.once.of_mem_dels, ?_⟩
  · intro hid
    obtain ⟨k, hk⟩ := hi.owned b hid
    exact ⟨k, hk, fun j hj => hi.ptr_inj j k b hj hk⟩

/-- **No heap call after warm-up, per selected object**: a coroutine whose selected storage already has room for its
frame causes no `operator new` / `operator delete`. -/
theorem c19_sel_warm (s : State) (args : List Arg) (k sz : Nat) (hs : select args = some k) (hc : sz ≤ s.cap k) :
    (stepCoro s args sz).1.heap = s.heap := by
  have : ¬ sz > s.cap k := by omega
  simp [stepCoro, hs, rsAlloc, this]

/-! non-vacuity: the configuration of seeded/r6-c19-operator-new-first-convertible-arg — an object that owns the storage
of its long-running member coroutine by inheritance (object 2), a second member coroutine that receives an explicit
storage (object 0) while the first is alive: contract respected, two frames, two objects, two blocks. -/
example : Reachable (run init [Op.coro [Arg.derived 2, Arg.other] 104, Op.coro [Arg.derived 2, Arg.stor 0, Arg.other] 112]) :=
  ⟨_, rfl⟩
example : (run init [Op.coro [Arg.derived 2, Arg.other] 104, Op.coro [Arg.derived 2, Arg.stor 0, Arg.other] 112]).ok = true
    ∧ (run init [Op.coro [Arg.derived 2, Arg.other] 104, Op.coro [Arg.derived 2, Arg.stor 0, Arg.other] 112]).frames.map
        (fun f => (f.obj, f.blk)) = [(2, Blk.heap 0), (0, Blk.heap 1)] := by decide

/-- "the first argument that converts to the storage" — the selection rule of that seeded change -/
def selectFirstConvertible : List Arg → Option Nat
  | Arg.stor a :: _ => some a
  | Arg.derived a :: _ => some a
  | Arg.other :: r => selectFirstConvertible r
  | [] => none

/-- … differs from the overload set exactly where it matters: the explicit storage is ignored in favour of the object's
own block, in which (here) the first coroutine is still alive -/
example : selectFirstConvertible [Arg.derived 2, Arg.stor 0, Arg.other] = some 2
    ∧ select [Arg.derived 2, Arg.stor 0, Arg.other] = some 0 := by decide

/-- what the contract is for: a second coroutine on an occupied storage gets the same block -/
example : (run init [Op.coro [Arg.stor 0] 104, Op.coro [Arg.other, Arg.stor 0] 96]).ok = false
    ∧ (run init [Op.coro [Arg.stor 0] 104, Op.coro [Arg.other, Arg.stor 0] 96]).frames.map (·.blk) = [Blk.heap 0, Blk.heap 0] := by
  decide

end Cocls.StorageSel
