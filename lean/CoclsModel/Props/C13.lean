import CoclsModel.GeneratorProofs
import CoclsModel.GeneratorHandover
/-!
# C13 — generator: the consumer sees exactly the yielded sequence, in every access style

Model: `CoclsModel/Generator.lean`.  The theorems about a `Reachable` state hold for all body scripts, both generator types (with /
without argument) and all operation lists; an interleaving of the consumer thread with the threads that complete awaited
operations is such a list.  The others speak of an arbitrary state, or replay one concrete run.

`s.seen` is the chronological list of what the consumer's accesses delivered (one entry per completed access, whatever its
style); `yields sc` / `ending sc` are read off the script.
-/
namespace Cocls.Gen

def Reachable (mode : Bool) (sc : List Act) (s : State) : Prop := ∃ ops, s = run (init mode sc) ops

theorem reachable_next {mode : Bool} {sc : List Act} {s : State} (h : Reachable mode sc s) : Next (init mode sc) s := by
  obtain ⟨ops, rfl⟩ := h
  exact next_run (inv_init mode sc) ops

theorem reachable_inv {mode : Bool} {sc : List Act} {s : State} (h : Reachable mode sc s) : Inv s := (reachable_next h).inv

theorem reachable_fixed {mode : Bool} {sc : List Act} {s : State} (h : Reachable mode sc s) : s.script0 = sc :=
  (reachable_next h).stable.1

theorem reachable_not_run {mode : Bool} {sc : List Act} {s : State} (h : Reachable mode sc s) : s.bst ≠ .run :=
  (reachable_next h).stable.2 nofun

theorem reachable_run {mode : Bool} {sc : List Act} {s : State} (h : Reachable mode sc s) (ops : List Op) :
    Reachable mode sc (run s ops) := by
  obtain ⟨ops0, rfl⟩ := h
  exact ⟨ops0 ++ ops, by simp [run, List.foldl_append]⟩

theorem reachable_step {mode : Bool} {sc : List Act} {s : State} (h : Reachable mode sc s) (op : Op) :
    Reachable mode sc (step s op).1 :=
  reachable_run h [op]

theorem reachable_mid {mode : Bool} {sc : List Act} {s : State} (h : Reachable mode sc s) :
    midAccess s = true ↔ ∃ k, s.bst = .await k := by
  have hnr := reachable_not_run h
  rw [midAccess_eq]
  cases hb : s.bst <;> simp [hb] at hnr ⊢

/-- what the body itself hands over (`s.obs`) is a prefix of its sequence — `expected sc` = the yielded values, then the exception /
the end: no value skipped, repeated or reordered at the hand-over, the ending handed over at most once -/
theorem c13_handed_over_prefix {mode : Bool} {sc : List Act} {s : State} (h : Reachable mode sc s) : s.obs <+: expected sc := by
  have hi := reachable_inv h
  have hk := reachable_fixed h
  by_cases hf : s.bst = .final
  · exact ⟨pend s, by rw [hi.seq_fin hf, hk]⟩
  · exact ⟨pend s ++ expectedFrom s.acc s.script, by rw [← List.append_assoc, hi.seq_run hf, hk]⟩

theorem obs_complete {mode : Bool} {sc : List Act} {s : State} (h : Reachable mode sc s) (hp : s.post ≠ []) :
    s.obs = expected sc := by
  have hi := reachable_inv h
  have hns : inSync s = false := Bool.eq_false_iff.mpr fun hs => hp (hi.sync_post hs)
  simpa [pend, hns, reachable_fixed h] using hi.seq_fin (hi.post_fin hp)

/-- **Sequence.** For every script and every operation list mixing the access styles, what the consumer has observed so far
is a prefix of: the yielded values in order (none skipped, none repeated), then the body's own ending (exception or end marker),
then end-of-sequence indications only. One entry per completed access, so each access advances by exactly one. -/
theorem c13_sequence {mode : Bool} {sc : List Act} {s : State} (h : Reachable mode sc s) :
    ∃ ends, (∀ e ∈ ends, e = Item.fin ∨ e = Item.nomore) ∧
      s.seen <+: (yields sc).map Item.val ++ [ending sc] ++ ends := by
  have hi := reachable_inv h
  by_cases hp : s.post = []
  · refine ⟨[], by simp, ?_⟩
    rw [hi.seen_eq, hp, List.append_nil, List.append_nil]
    exact c13_handed_over_prefix h
  · refine ⟨s.post, hi.post_end, ?_⟩
    rw [hi.seen_eq, obs_complete h hp]
    exact List.prefix_refl _

/-- **Sequence, position by position**: the i-th completed access (counting from 0, in whatever style) delivered the i-th
yielded value; the access after the last value delivered the body's ending; every later access an end indication. -/
theorem c13_positions {mode : Bool} {sc : List Act} {s : State} (h : Reachable mode sc s) (i : Nat)
    (hi : i < s.seen.length) :
    (i < (yields sc).length → s.seen[i]? = ((yields sc)[i]?).map Item.val) ∧
    (i = (yields sc).length → s.seen[i]? = some (ending sc)) ∧
    ((yields sc).length < i → s.seen[i]? = some Item.fin ∨ s.seen[i]? = some Item.nomore) := by
  obtain ⟨ends, hends, t, ht⟩ := c13_sequence h
  have hget : s.seen[i]? = ((yields sc).map Item.val ++ [ending sc] ++ ends)[i]? := by
    rw [← ht, List.getElem?_append_left hi]
  have hl : ((yields sc).map Item.val).length = (yields sc).length := List.length_map _
  refine ⟨fun h1 => ?_, fun h1 => ?_, fun h1 => ?_⟩
  · rw [hget, List.append_assoc, List.getElem?_append_left (by rw [hl]; exact h1), List.getElem?_map]
  · rw [hget, List.append_assoc, List.getElem?_append_right (by rw [hl]; omega), hl, h1]
    simp
  · rw [List.append_assoc, List.getElem?_append_right (by rw [hl]; omega), hl,
      List.getElem?_append_right (by simp; omega)] at hget
    have hlt : i - (yields sc).length - [ending sc].length < ends.length := by
      have : s.seen.length ≤ ((yields sc).map Item.val ++ [ending sc] ++ ends).length := by
        rw [← ht]; simp
      simp at this ⊢; omega
    have hmem := hends _ (List.getElem_mem hlt)
    rw [hget, List.getElem?_eq_getElem hlt]
    rcases hmem with hm | hm
    · exact Or.inl (congrArg some hm)
    · exact Or.inr (congrArg some hm)

/-- **End, once.** The body hands over its ending at most once (`s.obs`, the part of `seen` handed over by the body, is a prefix
of values ++ [ending], so the ending cannot be preceded by a missing value nor repeated); an access is answered *without
resuming the body* only after that complete sequence was delivered, and such answers are end indications —
`no_more_values_exception` only, if the body ended with an exception. -/
theorem c13_end_once {mode : Bool} {sc : List Act} {s : State} (h : Reachable mode sc s) :
    s.seen = s.obs ++ s.post ∧ s.obs <+: (yields sc).map Item.val ++ [ending sc] ∧
    (s.post ≠ [] → s.obs = (yields sc).map Item.val ++ [ending sc]) ∧
    (∀ e ∈ s.post, e = Item.fin ∨ e = Item.nomore) ∧
    (s.exp = true → ∀ e ∈ s.post, e = Item.nomore) := by
  have hi := reachable_inv h
  exact ⟨hi.seen_eq, c13_handed_over_prefix h, obs_complete h, hi.post_end, hi.post_exc⟩

/-- **Exception position.** If an exception escapes the body, the consumer meets it at exactly the position after the last
yielded value — never earlier, never later, never twice — whatever the access styles. -/
theorem c13_exception_position {mode : Bool} {sc : List Act} {s : State} (h : Reachable mode sc s)
    (hexc : ending sc = Item.exc) (i : Nat) (hi : i < s.seen.length) :
    s.seen[i]? = some Item.exc ↔ i = (yields sc).length := by
  obtain ⟨h1, h2, h3⟩ := c13_positions h i hi
  constructor
  · intro he
    rcases Nat.lt_trichotomy i (yields sc).length with hlt | heq | hgt
    · have := h1 hlt
      rw [he] at this
      cases hy : (yields sc)[i]? <;> simp [hy] at this
    · exact heq
    · rcases h3 hgt with h4 | h4 <;> rw [he] at h4 <;> simp at h4
  · intro he
    rw [h2 he, hexc]

/-- the flags the consumer reads agree with the script: a finished body has `_done` set iff it ended regularly and `_exp` set iff
an exception escaped; a body that has not finished has neither — so `value()` rethrows exactly from the exception position on -/
theorem c13_exception_flag {mode : Bool} {sc : List Act} {s : State} (h : Reachable mode sc s) :
    (s.bst ≠ .final → s.done = false ∧ s.exp = false) ∧ (s.bst = .final → s.done = !s.exp) ∧
    (s.exp = true → readVal s = Item.exc) := by
  have hi := reachable_inv h
  exact ⟨hi.flags_run, hi.flags_fin, fun he => by simp [readVal, he]⟩

/-- **Argument.** Whenever the body receives an argument — as the result of the `co_yield` it is resumed from, or of
`co_yield nullptr` (on its first activation or later) — it is exactly the argument of the call that resumed it (the most recent
access); and no null `_arg` / `_caller` / `_ret` is ever dereferenced. -/
theorem c13_argument {mode : Bool} {sc : List Act} {s : State} (h : Reachable mode sc s) :
    (∀ p ∈ s.gotLog, p.1 = p.2) ∧ s.ub = false :=
  ⟨(reachable_inv h).got_ok, (reachable_inv h).noub⟩

/-- while the body is inside an access (parked on an awaited operation), `*_arg` still is the argument of that access -/
theorem c13_argument_kept {mode : Bool} {sc : List Act} {s : State} (h : Reachable mode sc s) (k : Nat)
    (hm : s.mode = true) (hb : s.bst = .await k) : s.arg = some s.lastArg :=
  (reachable_inv h).arg_ok hm (mid_await hb)

/-- **Asynchronous body, no lost wake-up.** A synchronous access stays blocked (`_block` false), a consumer coroutine stays
parked, a future stays pending **only while** the body is parked on an awaited operation that has not completed … -/
theorem c13_waits_only_for_awaited {mode : Bool} {sc : List Act} {s : State} (h : Reachable mode sc s)
    (hw : (inSync s = true ∧ s.block = false) ∨ s.cons = .parked ∨ s.fut = .pending) :
    ∃ k, s.bst = .await k ∧ k ∉ s.resolved := by
  have hi := reachable_inv h
  have hm : midAccess s = true := by
    cases hm : midAccess s
    · have := hi.c_none hm
      rcases hw with ⟨h1, h2⟩ | h1 | h1 <;> simp_all
    · rfl
  obtain ⟨k, hk⟩ := (reachable_mid h).mp hm
  exact ⟨k, hk, hi.await_unres k hk⟩

/-- … and conversely the body is parked on an awaited operation only while exactly one consumer access waits for it
(`_caller` designates it): the blocked synchronous access, the parked coroutine, or the pending future. -/
theorem c13_awaiting_body_has_a_waiter {mode : Bool} {sc : List Act} {s : State} (h : Reachable mode sc s) (k : Nat)
    (hb : s.bst = .await k) :
    (s.caller = .internal ∧ s.ifn = .sync ∧ inSync s = true ∧ s.block = false) ∨
    (s.caller = .awt ∧ s.cons = .parked) ∨
    (s.caller = .internal ∧ s.ifn = .future ∧ s.awaiting = true ∧ s.fut = .pending) := by
  rcases (reachable_inv h).waits (mid_await hb) with ⟨hc, hp, _⟩ | ⟨hc, hi, hs, hbl, _⟩ | ⟨hc, hi, ha, hf, _⟩
  · exact .inr (.inl ⟨hc, hp⟩)
  · exact .inl ⟨hc, hi, inSync_eq s ▸ hs, hbl⟩
  · exact .inr (.inr ⟨hc, hi, ha, hf⟩)

/-- **Asynchronous body** (summary of the two theorems above; the sequence theorems hold for these scripts and schedules like for
any other): an access is outstanding — the synchronous caller blocked in `_block.wait`, the consumer coroutine parked, the future
pending — **iff** the body is parked on an awaited operation, and that operation has not completed. -/
theorem c13_async_body {mode : Bool} {sc : List Act} {s : State} (h : Reachable mode sc s) :
    (((inSync s = true ∧ s.block = false) ∨ s.cons = .parked ∨ s.fut = .pending) ↔ ∃ k, s.bst = .await k) ∧
    (∀ k, s.bst = .await k → k ∉ s.resolved) := by
  refine ⟨⟨fun hw => ?_, fun ⟨k, hk⟩ => ?_⟩, (reachable_inv h).await_unres⟩
  · obtain ⟨k, hk, _⟩ := c13_waits_only_for_awaited h hw
    exact ⟨k, hk⟩
  · rcases c13_awaiting_body_has_a_waiter h k hk with ⟨_, _, a, b⟩ | ⟨_, a⟩ | ⟨_, _, _, a⟩
    · exact Or.inl ⟨a, b⟩
    · exact Or.inr (Or.inl a)
    · exact Or.inr (Or.inr a)

/-- **Asynchronous body, progress.** Completing the operation the body waits for (on any thread) resumes it; afterwards it has
finished, or is parked at a `co_yield`, or waits for another operation — with a strictly shorter rest of the script (so finitely
many completions serve the access); and at a `co_yield` / at the end nobody is left waiting (`c13_served_when_parked`). -/
theorem c13_complete_progress {mode : Bool} {sc : List Act} {s : State} (h : Reachable mode sc s) (k : Nat)
    (hb : s.bst = .await k) :
    ((step s (.complete k)).1.bst = .final ∨ (step s (.complete k)).1.script.length < s.script.length) ∧
    ((step s (.complete k)).1.bst = .final ∨ (step s (.complete k)).1.bst = .yield ∨
      ∃ k', (step s (.complete k)).1.bst = .await k') := by
  have hi := reachable_inv h
  have hal := hi.alive (mid_await hb)
  have hk := hi.await_unres k hb
  have : (step s (.complete k)).1 = exec s.script { s with resolved := k :: s.resolved, bst := .run } := by
    simp [step, stepComplete, hk, hal, hb, resumeBody]
  rw [this]
  exact (exec_ran _ _).2

/-- when the body is parked at a `co_yield` or has finished, every access has been served: nobody is blocked, parked or pending -/
theorem c13_served_when_parked {mode : Bool} {sc : List Act} {s : State} (h : Reachable mode sc s)
    (hb : s.bst = .yield ∨ s.bst = .final ∨ s.bst = .init) :
    s.cons ≠ .parked ∧ s.fut ≠ .pending ∧ (inSync s = true → s.block = true) := by
  apply (reachable_inv h).c_none
  rw [midAccess_eq]
  rcases hb with hb | hb | hb <;> simp [hb]

/-- `value()` re-reads exactly what the last access delivered: parked at a `co_yield`, with no synchronous access in flight,
`value()` is the value delivered last -/
theorem c13_value_rereads_last {mode : Bool} {sc : List Act} {s : State} (h : Reachable mode sc s)
    (hy : s.bst = .yield) (hns : inSync s = false) :
    ∃ v, readVal s = Item.val v ∧ s.obs.getLast? = some (Item.val v) := by
  have hi := reachable_inv h
  have hfl := hi.flags_run (by simp [hy])
  obtain ⟨h1, h2⟩ := hi.ret_yield hy
  have hpe : pend s = [] := by simp [pend, hns]
  rw [hpe, List.append_nil] at h2
  cases hr : s.ret with
  | none => exact absurd hr h1
  | some v => exact ⟨v, by simp [readVal, hfl.2, hr], by rw [h2, hr]; rfl⟩

/-- what a synchronous access returns is what was logged: when `bool(next())` (or `begin()` / `++it`) returns `b`, exactly one
item was appended to `seen`; `b` is true iff that item is not the end marker, and then `value()` reads that very item -/
theorem c13_sync_result_logged (s : State) (b : Bool) (hr : (step s .syncEnd).2 = .next b) :
    ∃ i, (step s .syncEnd).1.seen = s.seen ++ [i] ∧ (b = true ↔ i ≠ Item.fin) ∧ (b = true → i = readVal s) := by
  have hrv : readVal s ≠ Item.fin := by
    unfold readVal; split
    · simp
    · split <;> simp
  simp only [step, stepSyncEnd] at hr ⊢
  cases hc : s.cons with
  | idle => simp [hc] at hr
  | parked => simp [hc] at hr
  | inSync kind =>
      simp only [hc] at hr ⊢
      cases hb : s.block with
      | false => simp [hb] at hr
      | true =>
          simp only [hb, if_true] at hr ⊢
          refine ⟨cur s, ?_, ?_, ?_⟩
          · cases kind <;> rfl
          · cases kind <;> simp [endSync] at hr <;> (cases b <;> simp [cur, hr, hrv])
          · cases kind <;> simp [endSync] at hr <;> (cases b <;> simp [cur, hr])

/-- **`while (gen)`** — `generator::operator bool` (`!done()`): it reads false exactly when the body has ended regularly, and then the
complete sequence including the end marker has been handed over — so a consumer looping on it never stops early. After an
exception it stays true (`_done` is only set by `return_void`); the next access then reports the end (`c13_end_once`). -/
theorem c13_operator_bool {mode : Bool} {sc : List Act} {s : State} (h : Reachable mode sc s) (b : Bool)
    (hr : (step s .active).2 = .active b) :
    (b = false ↔ (s.bst = .final ∧ s.exp = false)) ∧
    (b = false → s.obs ++ pend s = (yields sc).map Item.val ++ [ending sc]) := by
  have hi := reachable_inv h
  have hk := reachable_fixed h
  obtain rfl := stepActive_res hr
  refine ⟨⟨fun hd => hi.done_fin (by simpa using hd), fun ⟨hf, he⟩ => by simp [hi.flags_fin hf, he]⟩, fun hd => ?_⟩
  rw [hi.seq_fin (hi.done_fin (by simpa using hd)).1, hk]; rfl

/-- **Kept `next()` object.** Once a consultation of a kept `auto n = gen.next(a)` has answered true (`_state`), every further
truth test `bool(n)` / `!n` of the same object is **not a step of the generator**: it answers true and leaves the whole state —
hence the sequence position, the body, the hand-over record — unchanged, for any number of re-consultations. (Only `co_await n`
does not look at `_state`: it always is a fresh access, and so is a truth test of an object that has not answered true yet.) -/
theorem c13_kept_reconsult_no_step (s : State) (hk : s.kept ≠ none) (hal : s.alive = true) (hns : inSync s = false)
    (hst : s.kstate = true) (n : Nat) :
    run s (List.replicate n .ktest) = s ∧ (step s .ktest).2 = .next true := by
  have hstep : step s .ktest = (s, .next true) := by
    simp only [step, stepKtest]
    cases hkk : s.kept with
    | none => exact absurd hkk hk
    | some a => simp [hal, hns, hst]
  exact ⟨run_replicate (by rw [hstep]) n, by rw [hstep]⟩

/-- a run with a kept object: the first truth test is an access (served with 1, which sets the flag), the next two answer from the
flag and are none, `co_await n` is one (2), and the truth test after it again answers from the flag -/
example :
    let s := run (init false [.yield 1, .yield 2, .yield 3]) [.keep 0, .ktest, .syncEnd, .ktest, .ktest, .kawait, .ktest]
    s.seen = [.val 1, .val 2] ∧ s.kstate = true := by decide

/-- **Locals destroyed exactly once.** At any time every guard constructed by the body is either still in scope or was
destroyed exactly once — never twice, never lost; a finished body has none in scope. -/
theorem c13_guards_once {mode : Bool} {sc : List Act} {s : State} (h : Reachable mode sc s) (g : Nat) :
    s.dtors.count g + s.live.count g = (if g < s.made then 1 else 0) ∧ s.dtors.count g ≤ 1 ∧
    (s.bst = .final → s.live = []) := by
  have hi := reachable_inv h
  have := hi.guards g
  refine ⟨this, ?_, hi.live_fin⟩
  split at this <;> omega

/-- **Destroying a parked generator** (at a `co_yield`, before its first activation, or finished) destroys each of its locals
exactly once: afterwards every guard ever constructed has been destroyed once, none is left, and whatever the consumer still
does (reading futures, stray operations), nothing is destroyed again. -/
theorem c13_destroy_parked {mode : Bool} {sc : List Act} {s : State} (h : Reachable mode sc s)
    (hd : (step s .destroy).2 = .destroyed) (ops : List Op) (g : Nat) :
    (step s .destroy).1.alive = false ∧ (step s .destroy).1.live = [] ∧
    (step s .destroy).1.dtors.count g = (if g < (step s .destroy).1.made then 1 else 0) ∧
    (run (step s .destroy).1 ops).dtors.count g ≤ 1 := by
  have hr' := reachable_step h .destroy
  have hi' := reachable_inv hr'
  have hal : (step s .destroy).1.alive = false := destroyed_dead s hd
  have hl := (hi'.live_dead hal).1
  have hg := hi'.guards g
  rw [hl] at hg
  refine ⟨hal, hl, by simpa using hg, ?_⟩
  exact (c13_guards_once (reachable_run hr' ops) g).2.1

/-- **When is the generator "busy"?** `_caller` is non-null (the assert of next_sync / next_async / next_future fires)
exactly while the body is parked on an awaited operation inside an access — or after `next_async` (`co_await next()` on a generator
that ended with an exception, `next().subscribe()` on any finished generator) threw `no_more_values_exception`: it stores `_caller`
*before* it throws (`c13_next_async_stores_caller_before_throwing`). That access is answered without resuming the body, i.e. it
comes after the complete sequence and its ending were delivered (`c13_end_once`) — beyond what the property speaks about. -/
theorem c13_busy_iff {mode : Bool} {sc : List Act} {s : State} (h : Reachable mode sc s) :
    (s.caller ≠ .none ↔ ((∃ k, s.bst = .await k) ∨ s.stuck = true)) ∧
    (s.stuck = true → s.bst = .final ∧ s.post ≠ []) := by
  have hi := reachable_inv h
  exact ⟨by rw [hi.busy_iff, reachable_mid h], fun hs => ⟨(hi.stuck_fin hs).1, (hi.stuck_fin hs).2.2⟩⟩

/-! ### the hand-over at a `co_yield` between two threads (micro-steps, `CoclsModel/GeneratorHandover.lean`)

The theorems above treat one operation as one step. That is sound for the threads involved because the thread that runs the body
up to a `co_yield` (it completed the awaited operation) writes nothing to the hand-over record after it has notified the
consumer — so the consumer's next access (from its own thread, or re-entrantly from inside the notification) never overlaps
with it. -/

/-- **Notify last.** In every interleaving of the yielding thread (`_arg = nullptr; caller = exchange(_caller, nullptr);
caller->resume()`) with the consumer's next access (`set_arg; assert(_caller == nullptr); _caller = &_internal; h.resume()`,
enabled as soon as the consumer is notified): the assert holds, the body reads the new access's argument, and the new caller
slot is still set when the body runs on. -/
theorem c13_yield_notifies_last {s : Handover.HS} (h : Handover.Reach Handover.asIs s) (hdone : s.pcA = 4) :
    s.assertOk = true ∧ s.got = some .new ∧ s.callerAtResume = some true :=
  Handover.chain_ok s (Handover.reach_chain h) hdone

/-- the order matters — witness for "notify first, clear afterwards": an interleaving in which the consumer's next access trips the
"Generator is busy" assert, and one in which it passes the assert but its argument is wiped before the body reads it (a null
reference) -/
theorem c13_late_clear_breaks :
    (∃ s, Handover.Reach Handover.late s ∧ s.pcA = 4 ∧ s.assertOk = false) ∧
    (∃ s, Handover.Reach Handover.late s ∧ s.pcA = 4 ∧ s.assertOk = true ∧ s.got = some .null) :=
  -- B: notify; A: set_arg, assert (fires: `_caller` not yet cleared), `_caller = &_internal`, resume
  ⟨Handover.Reach.of_play [true, false, false, false, false] (by decide),
  -- B: notify; A: set_arg; B: `_caller = nullptr`; A: assert (passes), `_caller = &_internal`; B: `_arg = nullptr` (wipes the new
  -- argument); A: resume
   Handover.Reach.of_play [true, false, true, false, false, true, false] (by decide)⟩

/-! ### `co_await pause()` between yields

The body scripts every theorem above quantifies over include `Act.pause` (`co_await cocls::pause()`, an awaitable that is never
ready and resumes the body through its thread's coroutine queue).  For the consumer it is invisible: -/

/-- a `pause` anywhere in the body changes neither what the consumer must see nor what the body does next: the sequence, end
and exception position of `c13_sequence` / `c13_positions` / `c13_end_once` are those of the body without it.  (The pinned
code ran a body that is read by ordinary code without a coroutine queue, where `pause` dereferences a null pointer:
`c13_asis_pause_without_queue`, `/repo` commit 191263e.) -/
theorem c13_pause_is_transparent (a b : List Act) :
    expected (a ++ Act.pause :: b) = expected (a ++ b)
    ∧ ∀ s : State, exec (Act.pause :: b) s = exec b { s with script := b } :=
  ⟨expectedFrom_insert (fun _ _ => rfl) a b 0, fun s => by simp [exec]⟩

/-- The pinned synchronous access (before `/repo` commit 191263e "fix: synchronous and future access to a generator ran its body
without a coroutine queue"; replayed on the headers in corpus/c13_pause_in_body.txt): `bool(gen.next())` from ordinary code on a
body that pauses before its first / between its first and second `co_yield` dereferences the null `coro_queue::instance`
(`ub`, contradicting `c13_argument`'s `s.ub = false`): the consumer never sees the value.  The repaired access installs a
queue: the consumer sees 1, 2, end. -/
theorem c13_asis_pause_without_queue :
    (stepSyncBeginAsIs (init false [.pause, .yield 1]) .plain 0).1.ub = true
    ∧ (stepSyncBeginAsIs (init false [.yield 1, .pause, .yield 2]) .plain 0).1.ub = false
    ∧ (stepSyncBeginAsIs (run (init false [.yield 1, .pause, .yield 2]) [.syncBegin 0, .syncEnd]) .plain 0).1.ub = true
    ∧ (run (init false [.yield 1, .pause, .yield 2]) [.syncBegin 0, .syncEnd, .syncBegin 0, .syncEnd, .syncBegin 0, .syncEnd]).seen
        = [.val 1, .val 2, .fin]
    ∧ (run (init false [.yield 1, .pause, .yield 2]) [.syncBegin 0, .syncEnd, .syncBegin 0, .syncEnd, .syncBegin 0, .syncEnd]).ub
        = false := by decide

/-! ### the body's own variable, yielded as an lvalue (`acc.append(c); co_yield acc;`) -/

/-- **The yielded variable is the body's.** The library never modifies the variable the body yielded as an lvalue: on every
resumption from `co_yield acc` the body finds in it exactly what it had yielded (`accLog`), and while the body is parked there,
`value()` reads the content of that very variable. -/
theorem c13_body_variable_untouched {mode : Bool} {sc : List Act} {s : State} (h : Reachable mode sc s) :
    (∀ p ∈ s.accLog, p.1 = p.2) ∧ (s.bst = .yield → s.atAcc = true → readVal s = Item.val s.acc) := by
  have hi := reachable_inv h
  refine ⟨hi.acc_ok, fun hy ha => ?_⟩
  have hfl := hi.flags_run (by simp [hy])
  simp [readVal, hfl.2, hi.acc_ret hy ha]

/-- what a body that keeps appending the digits `cs` to one variable holding `a` yields: every prefix, built on the previous one -/
def running : Nat → List Nat → List Nat
  | _, [] => []
  | a, c :: cs => (a * 10 + c) :: running (a * 10 + c) cs

/-- **Accumulated values.** A stretch of `acc.append(c); co_yield acc;` statements must deliver every prefix of the accumulated
content, each built on the previous one, and the rest of the body continues from the final content — so with `c13_sequence` the
consumer sees 1, 12, 123, … and never a stale or a doubled prefix. -/
theorem c13_accumulator_values (acc : Nat) (cs : List Nat) (rest : List Act) :
    yieldsFrom acc (cs.map Act.yieldAcc ++ rest)
      = running acc cs ++ yieldsFrom (cs.foldl (fun a c => a * 10 + c) acc) rest := by
  induction cs generalizing acc with
  | nil => simp [running]
  | cons c cs ih => simp [running, yieldsFrom, ih]

/-! ### the consumer's execution context (`resume_in_queue`) -/

theorem call_pending_fut (s : State) (a : Nat) (hp : (stepCall s a).2 = .pending) : (stepCall s a).1.fut = .pending := by
  revert hp
  unfold stepCall callGo futRes
  repeat' split
  all_goals first | exact fun _ => eq_of_beq ‹_› | nofun

/-- **Served inside the call, in every execution context.** Whether the consumer is ordinary code or itself runs inside a
coroutine (`s.coro` is arbitrary), an access made by non-awaiting code — `bool(gen.next(a))`, `gen(a)` — runs the body inside the
call: the synchronous access is left blocked, the returned future pending, only if the body itself waits for an operation that
has not completed. -/
theorem c13_served_inside_the_call {mode : Bool} {sc : List Act} {s : State} (h : Reachable mode sc s) (a : Nat) :
    (inSync (step s (.syncBegin a)).1 = true ∧ (step s (.syncBegin a)).1.block = false →
      ∃ k, (step s (.syncBegin a)).1.bst = .await k ∧ k ∉ (step s (.syncBegin a)).1.resolved) ∧
    ((step s (.call a)).2 = .pending →
      ∃ k, (step s (.call a)).1.bst = .await k ∧ k ∉ (step s (.call a)).1.resolved) :=
  ⟨fun hw => c13_waits_only_for_awaited (reachable_step h _) (Or.inl hw),
   fun hp => c13_waits_only_for_awaited (reachable_step h _) (Or.inr (Or.inr (call_pending_fut s a hp)))⟩

/-- `resume_in_queue` is `resume()`: the execution context decides only whether a queue is installed for the activation (which is
counted), never whether or how the body runs -/
theorem c13_context_only_counts (s : State) :
    resumeInQueue s = resumeBody s ∨ (s.coro = false ∧ resumeInQueue s = resumeBody { s with qinst := s.qinst + 1 }) := by
  unfold resumeInQueue
  cases hc : s.coro
  · exact Or.inr ⟨rfl, by simp⟩
  · exact Or.inl (by simp)

/-! #### nothing but `resume_in_queue` looks at the execution context

`Blind v f`: `f` maps a state and the same state as ordinary code without a queue would present it (`erase s`) to results with
the same view `v` (`erase` for a state, `eraseR` for a state with a result).  Such functions are closed under composition,
under conditionals and case distinctions on values read from other fields; everything else is an update of other fields, and
`resumeInQueue` consults the context only to decide whether it bumps the count. -/

def erase (s : State) : State := { s with coro := false, qinst := 0 }

section
variable {β γ : Type} {v : β → γ}

def Blind (v : β → γ) (f : State → β) : Prop := ∀ s, v (f s) = v (f (erase s))

theorem Blind.of_erase {f : State → β} (h : Blind v f) {s t : State} (he : erase s = erase t) : v (f s) = v (f t) := by
  rw [h s, he, ← h t]

/-- `f` reads and writes other fields only: seen by unfolding it -/
theorem Blind.plain {f : State → β} (h : ∀ s, v (f s) = v (f (erase s)) := by intros; rfl) : Blind v f := h

theorem Blind.comp {f : State → State} {g : State → β} (hf : Blind erase f) (hg : Blind v g) : Blind v fun s => g (f s) :=
  fun s => hg.of_erase (hf s)

/-- the test `c` reads other fields (`hc`, by unfolding) -/
theorem Blind.ite {c : State → Prop} {d : ∀ s, Decidable (c s)} {f g : State → β} (hf : Blind v f) (hg : Blind v g)
    (hc : ∀ s, c s = c (erase s) := by intros; rfl) : Blind v fun s => if c s then f s else g s := by
  intro s
  by_cases hcs : c s
  · simpa only [if_pos hcs, if_pos (hc s ▸ hcs)] using hf s
  · simpa only [if_neg hcs, if_neg (hc s ▸ hcs)] using hg s

/-- … and one branch answers from other fields -/
theorem Blind.exit {c : State → Prop} {d : ∀ s, Decidable (c s)} {l r : State → β} (hr : Blind v r)
    (hc : ∀ s, c s = c (erase s) := by intros; rfl)
    (hl : ∀ s, v (l s) = v (l (erase s)) := by intros; rfl) : Blind v fun s => if c s then l s else r s :=
  .ite hl hr hc

/-- a `match` (`K`, with two / three alternatives) on a value `p s` read from other fields -/
theorem Blind.match2 {α A B : Type} {K : α → A → B → β} {p : State → α} {a1 : State → A} {a2 : State → B}
    (h : ∀ x, Blind v fun s => K x (a1 s) (a2 s))
    (hp : ∀ s, p s = p (erase s) := by intros; rfl) : Blind v fun s => K (p s) (a1 s) (a2 s) := by
  intro s; dsimp only; rw [← hp s]; exact h _ s

theorem Blind.match3 {α A B C : Type} {K : α → A → B → C → β} {p : State → α} {a1 : State → A} {a2 : State → B}
    {a3 : State → C} (h : ∀ x, Blind v fun s => K x (a1 s) (a2 s) (a3 s))
    (hp : ∀ s, p s = p (erase s) := by intros; rfl) : Blind v fun s => K (p s) (a1 s) (a2 s) (a3 s) := by
  intro s; dsimp only; rw [← hp s]; exact h _ s

end

/-- a state and a result, compared up to the execution context -/
abbrev eraseR : State × Res → State × Res := Prod.map erase id

theorem Blind.fst {f : State → State × Res} (hf : Blind eraseR f) {s t : State} (h : erase s = erase t) :
    erase (f s).1 = erase (f t).1 :=
  congrArg Prod.fst (hf.of_erase h)

theorem Blind.withRes {f : State → State} (hf : Blind erase f) (r : Res) : Blind eraseR fun s => (f s, r) :=
  fun s => congrArg (·, r) (hf s)

theorem wakeReader_blind (i : Item) : Blind erase (wakeReader · i) :=
  .match3 fun x => by
    cases x with
    | none => exact .plain
    | some r => cases r <;> exact .plain

theorem unblockFuture_blind : Blind erase unblockFuture :=
  .ite (.exit fun s => (wakeReader_blind (cur s)).of_erase rfl) .plain

theorem deliver_blind : Blind erase deliver :=
  .match3 fun c => by
    cases c with
    | none => exact .plain
    | awt => exact .plain
    | internal =>
      dsimp only
      refine .match3 fun i => ?_
      cases i with
      | null => exact .plain
      | sync => exact .plain
      | future => exact .comp .plain unblockFuture_blind

theorem seeAcc_blind : Blind erase seeAcc := .exit .plain

theorem recvArg_blind : Blind erase recvArg :=
  .ite (.match2 fun x => by cases x <;> exact .plain) .plain

theorem exec_blind : ∀ (sc : List Act), Blind erase (exec sc)
  | [] | .ret :: _ | .throw :: _ | .yield _ :: _ | .yieldAcc _ :: _ =>
      .comp (g := deliver) .plain deliver_blind
  | .yieldNull :: rest => .comp (g := exec rest) (.comp .plain recvArg_blind) (exec_blind rest)
  | .awaitReady :: rest | .pause :: rest | .guard :: rest =>
      .comp (g := exec rest) .plain (exec_blind rest)
  | .await _ :: rest => .ite (.comp .plain (exec_blind rest)) .plain

theorem resumeBody_blind : Blind erase resumeBody := fun s => by
  simp only [resumeBody, show (erase s).bst = s.bst from rfl, show (erase s).script = s.script from rfl]
  cases s.bst with
  | init => exact (exec_blind _).of_erase rfl
  | yield => exact (exec_blind _).of_erase (seeAcc_blind.of_erase (recvArg_blind.of_erase rfl))
  | await k => exact (exec_blind _).of_erase rfl
  | run => rfl
  | final => rfl

theorem resumeInQueue_blind : Blind erase resumeInQueue := fun s => by
  rw [resumeInQueue_eq, resumeInQueue_eq]
  exact resumeBody_blind.of_erase rfl

theorem setArg_blind (a : Nat) : Blind erase (setArg · a) := fun s => by simp only [setArg_eq]; rfl

theorem syncGo_blind (kind : SyncKind) : Blind eraseR (syncGo · kind) :=
  .exit (.exit (.withRes (.comp .plain resumeInQueue_blind) _)) (hl := fun _ => by cases kind <;> rfl)

theorem anextGo_blind : Blind eraseR anextGo := .exit (.exit (.withRes (.comp .plain resumeBody_blind) _))

theorem subGo_blind : Blind eraseR subGo := .exit (.withRes (.comp .plain resumeInQueue_blind) _)

theorem kawaitGo_blind : Blind eraseR kawaitGo := .exit (.exit (.withRes (.comp .plain resumeBody_blind) _))

theorem callGo_blind : Blind eraseR callGo := .exit (.comp (.comp .plain resumeInQueue_blind) .plain)

/-- the common prologue of an access -/
theorem Blind.guarded {r : State → State × Res} (hr : Blind eraseR r) :
    Blind eraseR fun s => if !s.alive then (s, Res.gone) else if inSync s then (s, .blocked)
      else if s.caller != .none then (s, .busy) else r s :=
  .exit (.exit (.exit hr))

theorem stepValue_blind : Blind eraseR stepValue := .exit (.exit (.exit .plain))

theorem step_blind (op : Op) (hop : ∀ b, op ≠ .ctx b) : Blind eraseR (step · op) := by
  cases op with
  | ctx b => exact absurd rfl (hop b)
  | syncBegin a => exact .guarded (.comp (setArg_blind a) (syncGo_blind _))
  | syncEnd =>
      refine .match2 fun c => ?_
      cases c with
      | inSync kind => exact .exit .plain (hl := fun _ => by cases kind <;> rfl)
      | _ => exact .plain
  | value => exact stepValue_blind
  | active => exact .exit (.exit (.exit .plain))
  | anext a => exact .guarded (.comp (setArg_blind a) anextGo_blind)
  | sub a => exact .guarded (.comp (setArg_blind a) subGo_blind)
  | call a => exact .guarded (.comp (setArg_blind a) callGo_blind)
  | keep a => exact .guarded fun s => by simp only [setArg_eq]; rfl
  | ktest =>
      refine .exit (.exit (.match2 fun k => ?_))
      cases k with
      | none => exact .plain
      | some a => exact .exit (.exit (.exit (syncGo_blind _)))
  | kawait =>
      refine .exit (.exit (.match2 fun k => ?_))
      cases k with
      | none => exact .plain
      | some a => exact .exit (.exit kawaitGo_blind)
  | futWait | futGet => exact .exit (.match3 fun f => by cases f <;> exact .plain)
  | futAwait | futHas =>
      refine .exit (.match3 fun f => ?_)
      cases f with
      | pending => exact .exit .plain
      | _ => exact .plain
  | itBegin => exact .guarded (.exit (.comp (setArg_blind 0) (syncGo_blind _)))
  | itInc => exact .guarded (.exit (.exit (.comp (setArg_blind 0) (syncGo_blind _))))
  | itDeref => exact .exit (.exit (.exit stepValue_blind))
  | itIsEnd => exact .exit (.exit (.exit (.match2 fun x => by cases x <;> exact .plain)))
  | itPostInc =>
      refine .guarded (.exit (.exit (.match2 fun i => ?_)))
      cases i with
      | val v => exact .comp (setArg_blind 0) (syncGo_blind _)
      | _ => exact .plain
  | itDrop => exact .plain
  | complete k => exact .exit (.ite (.withRes (.comp .plain resumeBody_blind) _) .plain)
  | destroy => exact .exit (.exit (.exit (.match3 fun x => by cases x <;> exact .plain)))

def notCtx : Op → Bool
  | .ctx _ => false
  | _ => true

theorem run_blind (ops : List Op) : ∀ s t : State, erase s = erase t →
    erase (run s ops) = erase (run t (ops.filter notCtx)) := by
  induction ops with
  | nil => intro s t h; exact h
  | cons op rest ih =>
    intro s t h
    cases op with
    | ctx b => exact ih { s with coro := b } t h
    | _ =>
      simp only [List.filter, notCtx]
      exact ih _ _ ((step_blind _ (by intro b hb; cases hb)).fst h)

/-- one operation (other than a change of context): the result and every other component of the state are those obtained by
ordinary code -/
theorem c13_context_transparent_step (s : State) (op : Op) (hop : ∀ b, op ≠ .ctx b) :
    erase (step s op).1 = erase (step (erase s) op).1 ∧ (step s op).2 = (step (erase s) op).2 :=
  Prod.ext_iff.mp (step_blind op hop s)

/-- **The execution context is transparent.** Whatever mix of execution contexts the consumer uses (`ctx` operations anywhere in
the list), every component of the final state other than the context itself and the count of installed queues — what was seen,
the events, the hand-over record, the body — is what the same operations give when issued by ordinary code throughout. -/
theorem c13_context_transparent (s : State) (ops : List Op) :
    erase (run s ops) = erase (run (erase s) (ops.filter notCtx)) :=
  run_blind ops s (erase s) rfl

theorem notCtx_eq : notCtx = fun o => match o with
    | .ctx _ => false
    | _ => true := by
  funext o; cases o <;> rfl

def setCQ (b : Bool) (n : Nat) (s : State) : State := { s with coro := b, qinst := n }

@[simp] theorem inSync_cq (b n s) : inSync (setCQ b n s) = inSync s := rfl
@[simp] theorem inflight_cq (b n s) : inflight (setCQ b n s) = inflight s := rfl
@[simp] theorem readVal_cq (b n s) : readVal (setCQ b n s) = readVal s := rfl
@[simp] theorem cur_cq (b n s) : cur (setCQ b n s) = cur s := rfl
@[simp] theorem keptArgOk_cq (b n s a) : keptArgOk (setCQ b n s) a = keptArgOk s a := rfl
@[simp] theorem cq_alive (b n s) : (setCQ b n s).alive = s.alive := rfl
@[simp] theorem cq_reader (b n s) : (setCQ b n s).reader = s.reader := rfl
@[simp] theorem cq_awaiting (b n s) : (setCQ b n s).awaiting = s.awaiting := rfl
@[simp] theorem cq_done (b n s) : (setCQ b n s).done = s.done := rfl
@[simp] theorem cq_exp (b n s) : (setCQ b n s).exp = s.exp := rfl
@[simp] theorem cq_ret (b n s) : (setCQ b n s).ret = s.ret := rfl
@[simp] theorem cq_caller (b n s) : (setCQ b n s).caller = s.caller := rfl
@[simp] theorem cq_ifn (b n s) : (setCQ b n s).ifn = s.ifn := rfl
@[simp] theorem cq_atAcc (b n s) : (setCQ b n s).atAcc = s.atAcc := rfl
@[simp] theorem cq_mode (b n s) : (setCQ b n s).mode = s.mode := rfl
@[simp] theorem cq_arg (b n s) : (setCQ b n s).arg = s.arg := rfl
@[simp] theorem cq_bst (b n s) : (setCQ b n s).bst = s.bst := rfl
@[simp] theorem cq_script (b n s) : (setCQ b n s).script = s.script := rfl
@[simp] theorem cq_resolved (b n s) : (setCQ b n s).resolved = s.resolved := rfl
@[simp] theorem cq_cons (b n s) : (setCQ b n s).cons = s.cons := rfl
@[simp] theorem cq_block (b n s) : (setCQ b n s).block = s.block := rfl
@[simp] theorem cq_kept (b n s) : (setCQ b n s).kept = s.kept := rfl
@[simp] theorem cq_kstate (b n s) : (setCQ b n s).kstate = s.kstate := rfl
@[simp] theorem cq_fut (b n s) : (setCQ b n s).fut = s.fut := rfl
@[simp] theorem cq_it (b n s) : (setCQ b n s).it = s.it := rfl
@[simp] theorem cq_coro (b n s) : (setCQ b n s).coro = b := rfl
@[simp] theorem cq_qinst (b n s) : (setCQ b n s).qinst = n := rfl

/-- the yielded variable across accesses in both contexts: a fresh value, then the accumulated 1, 12, 123, then the end; each
time the body was resumed from `co_yield acc` its variable held what it had yielded -/
example :
    (run (init false [.yield 7, .yieldAcc 1, .yieldAcc 2, .yieldAcc 3])
      [.call 0, .call 0, .value, .call 0, .ctx true, .call 0, .syncBegin 0, .syncEnd]).seen
      = [.val 7, .val 1, .val 12, .val 123, .fin] ∧
    (run (init false [.yield 7, .yieldAcc 1, .yieldAcc 2, .yieldAcc 3])
      [.call 0, .call 0, .value, .call 0, .ctx true, .call 0, .syncBegin 0, .syncEnd]).accLog
      = [(1, 1), (12, 12), (123, 123)] := by decide

/-- a synchronous access made from inside a coroutine is served within the call under the coroutine's own queue (none
installed); made by ordinary code, a queue is installed for the activation -/
example :
    (run (init false [.yield 1, .pause, .yieldAcc 2]) [.ctx true, .syncBegin 0]).block = true ∧
    (run (init false [.yield 1, .pause, .yieldAcc 2]) [.ctx true, .syncBegin 0]).qinst = 0 ∧
    (run (init false [.yield 1, .pause, .yieldAcc 2]) [.syncBegin 0]).block = true ∧
    (run (init false [.yield 1, .pause, .yieldAcc 2]) [.syncBegin 0]).qinst = 1 := by decide

/-! ### the hypotheses are satisfiable: concrete non-trivial runs (kernel-evaluated) -/

/-- a body that constructs a local, yields, waits for a pending operation, yields again and throws; the consumer mixes a
synchronous access (blocked until another thread completes operation 0), `co_await next()`, a call, and further accesses -/
example :
    (run (init false [.guard, .yield 1, .await 0, .yield 2, .throw])
      [.syncBegin 0, .syncEnd, .syncBegin 0, .syncEnd, .complete 0, .syncEnd, .anext 0, .call 0, .syncBegin 0]).seen
      = [.val 1, .val 2, .exc, .nomore, .nomore] := by decide

/-- `while (gen)`: true at a value, false once the body has returned, still true after an exception -/
example :
    (step (run (init false [.yield 1]) [.syncBegin 0, .syncEnd]) .active).2 = .active true ∧
    (step (run (init false [.yield 1]) [.syncBegin 0, .syncEnd, .syncBegin 0, .syncEnd]) .active).2 = .active false ∧
    (step (run (init false [.throw]) [.syncBegin 0, .syncEnd]) .active).2 = .active true := by decide

/-- the synchronous access is blocked while the body awaits operation 0 -/
example :
    (step (run (init false [.yield 1, .await 0, .yield 2]) [.syncBegin 0, .syncEnd, .syncBegin 0]) .syncEnd).2
      = .blocked := by decide

/-- arguments: `co_yield nullptr` on the first activation returns the first call's argument, every `co_yield v` the argument
of the call that resumed it -/
example :
    (run (init true [.yieldNull, .yield 1, .yield 2]) [.syncBegin 10, .syncEnd, .anext 11, .call 12]).gotLog
      = [(10, 10), (11, 11), (12, 12)] := by decide

/-- destroying a generator parked at a `co_yield` with two live locals destroys both, once -/
example :
    (run (init false [.guard, .guard, .yield 1, .yield 2]) [.syncBegin 0, .syncEnd, .destroy]).dtors = [0, 1] := by
  decide

/-- a callback consumer (`next(a).subscribe(&cb)`, re-armed each time the callback is called) over a body that awaits operation 0
between its yields: the second access is left pending inside the first notification and is served when operation 0 completes -/
example :
    (run (init true [.yield 1, .await 0, .yieldNull, .yield 2]) [.sub 10, .sub 11, .complete 0, .sub 12]).seen
      = [.val 1, .val 2, .fin] ∧
    (run (init true [.yield 1, .await 0, .yieldNull, .yield 2]) [.sub 10, .sub 11, .complete 0, .sub 12]).gotLog
      = [(11, 11), (11, 11), (12, 12)] := by decide

/-- **Witness of the `next_async` ordering quirk** (as-is code, generator.h:202-208): after the body's exception was
delivered, a `co_await next()` throws `no_more_values_exception` but leaves `_caller` set, so the following access trips the
"Generator is busy" assert although nothing is outstanding. -/
theorem c13_next_async_stores_caller_before_throwing :
    let s := run (init false [.throw]) [.anext 0, .anext 0]
    s.seen = [.exc, .nomore] ∧ s.caller = .awt ∧ s.cons = .idle ∧ s.fut = .none ∧
      (step s (.syncBegin 0)).2 = .busy := by decide

/-- The pinned `it++` (before `/repo` commit 6a6ab43 "fix: generator_iterator::operator++(int) moved the current value out of the
generator body's own variable"; replayed on the headers in corpus/c13_postinc_moves_variable.txt): `generator_iterator::operator++(int)`
built its stored copy with `std::move(_gen->value())` - with a value type whose move empties the source it emptied the variable the
body had yielded as an lvalue. A body that keeps extending one variable (1, 12, 123) then delivers 1, 2, 3, and finds its variable
empty on every resumption (contradicting `c13_body_variable_untouched` and `c13_sequence`). The repaired `it++` copies: 1, 12, 123. -/
theorem c13_asis_postinc_empties_the_bodys_variable :
    (let s0 := run (init false [.yieldAcc 1, .yieldAcc 2, .yieldAcc 3]) [.itBegin, .syncEnd]
     let s1 := run (stepItPostIncAsIs s0).1 [.syncEnd]
     let s2 := run (stepItPostIncAsIs s1).1 [.syncEnd]
     s2.seen = [.val 1, .val 2, .val 3] ∧ s2.accLog = [(1, 0), (2, 0)]) ∧
    (let t := run (init false [.yieldAcc 1, .yieldAcc 2, .yieldAcc 3]) [.itBegin, .syncEnd, .itPostInc, .syncEnd, .itPostInc, .syncEnd]
     t.seen = [.val 1, .val 12, .val 123] ∧ t.accLog = [(1, 1), (12, 12)]) := by decide

end Cocls.Gen
