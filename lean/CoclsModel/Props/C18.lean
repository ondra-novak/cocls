import CoclsModel.CallbackProofs
/-!
# C18 — callback adapters fire exactly once with the right outcome

Model: `CoclsModel/Callback.lean` (micro-step machines of `callback_await`, `make_promise`, `future_with_cb::operator<<`,
`discard`, `future_conv`, `call_fn_future_awaiter` and the hand-subscribed `call_fn_awaiter` around one awaited operation).

Every theorem quantifies over **all** well-formed configurations `c` — adapter, converter behaviour and conversion
function, outcome kinds, any number `c.n - 1` of promise invocations / destructor agents on other threads with arbitrary
kinds (`c.rk`), resolution inside the factory (`c.pre`: "already resolved at registration"), by the registering thread
afterwards (`c.selfRes`) or by the other agents (concurrently) — and over **all** schedules (`Reach`: any list of agent
ids, by induction).  Re-use of the member-object adapters for any number of successive operations (every combination of
timings) is `c18_reuse_reach` / `c18_once_per_operation`.  The allocator (heap / storage) only names where the helper
block comes from: `allocs`/`frees` count blocks of whichever allocator was chosen.

No theorem carries a precondition on the user's code: a callback of `callback_await` may throw (`c.cbThrows`, any value)
and the start of the awaited operation may throw (`c.startThrew`) — "exactly once, with the operation's outcome" holds all
the same (`c18_once`, `c18_throwing_callback_once`, `c18_start_throws`).
-/
namespace Cocls.Callback

def Reach (c : Cfg) (s : State) : Prop := ∃ sched : List Nat, s = run c (init c) sched

theorem reachable_inv {c : Cfg} {s : State} (hwf : c.WF) (hr : Reach c s) : Inv c s := by
  obtain ⟨sched, rfl⟩ := hr
  exact inv_reach hwf sched

def AllDone (c : Cfg) (s : State) : Prop := ∀ t, t < c.n → s.pc t = Pc.done

theorem allDone_iff (c : Cfg) (s : State) : allDone c s = true ↔ AllDone c s := by
  simp [allDone, AllDone, List.all_eq_true]

/-- the adapters that invoke a user callback (the others, `discard` and `future_conv`, have a finaliser / a converter) -/
def Adapter.hasCallback : Adapter → Bool
  | Adapter.discard => false
  | Adapter.conv => false
  | _ => true

section
variable {c : Cfg} {s : State}

theorem sawOf_eq (p : Outcome) : sawOf c p = if c.adapter.hasCallback = true then [p.obs] else [] := by
  unfold sawOf
  cases c.adapter <;> rfl

theorem sawOf_length_le (p : Outcome) : (sawOf c p).length ≤ 1 := by
  rw [sawOf_eq]
  split <;> simp

theorem convInOf_length_le (p : Outcome) : (convInOf c p).length ≤ 1 := by
  unfold convInOf
  split
  · cases convArg c p <;> simp
  · simp

/-- **At most once, always.**  In every reachable state the completion has run at most once, the converter was invoked
at most once, the outer promise was resolved at most once, and the user callback was invoked at most once — whether or
not it throws. -/
theorem c18_at_most_once (hwf : c.WF) (hr : Reach c s) :
    s.calls ≤ 1 ∧ s.convIn.length ≤ 1 ∧ s.outerSets ≤ 1 ∧ s.saw.length ≤ 1 := by
  rcases (reachable_inv hwf hr).phase with h | h
  · refine ⟨by rw [h.calls]; omega, by rw [h.convIn]; exact convInOf_length_le _, by rw [h.outerSets]; split <;> omega, ?_⟩
    rw [h.saw]; exact sawOf_length_le _
  · simp [h.calls, h.convIn, h.outerSets, h.saw]

theorem Inv.all_done (h : Inv c s) (hd : AllDone c s) (t : Nat) : s.pc t = Pc.done :=
  if ht : t < c.n then hd t ht else h.range t (Nat.le_of_not_lt ht)

/-- at quiescence nobody holds the completion any more, and a resolved operation has been completed -/
theorem Inv.quiescent (h : Inv c s) (hd : AllDone c s) (hs : s.slot = Slot.ready) : Completed c s := by
  rcases h.phase with hc | hf
  · exact hc
  · cases htok : s.tok with
    | used => exact absurd htok hf.tok
    | slot => have := h.tok_slot.1 htok; rw [hs] at this; cases this
    | agent t => have := (h.tok_agent t).1 htok; rw [h.all_done hd t] at this; cases this

/-- **Exactly once at quiescence.**  When all agents have finished and the awaited operation is resolved, the completion
has run exactly once; the user callback of `callback_await` / `make_promise` / `future_with_cb::operator<<` /
`call_fn_future_awaiter` / `call_fn_awaiter` was invoked exactly once and saw the operation's outcome (value, exception, or
broken promise) — also when it throws (`c.cbThrows` is unconstrained) and when the operation failed at its start
(`c.startThrew`). -/
theorem c18_once (hwf : c.WF) (hr : Reach c s) (hd : AllDone c s) (hs : s.slot = Slot.ready) :
    s.calls = 1 ∧
    (c.adapter.hasCallback = true → s.saw = [s.payload.obs]) ∧
    (c.adapter = Adapter.discard ∨ c.adapter = Adapter.conv → s.saw = []) := by
  have h := (reachable_inv hwf hr).quiescent hd hs
  refine ⟨h.calls, fun ha => by rw [h.saw, sawOf_eq, if_pos ha], fun ha => ?_⟩
  rw [h.saw, sawOf_eq]
  rcases ha with ha | ha <;> rw [ha] <;> rfl

/-- **The operation does get resolved.**  Once every agent has finished and the promise has been invoked or destroyed
at all (`owner = false`), the future is resolved — in particular whenever there is at least one agent besides the
registrar, or the registrar invokes the promise itself, or the factory resolved it. -/
theorem c18_resolved_at_quiescence (hwf : c.WF) (hr : Reach c s) (hd : AllDone c s) :
    (s.owner = false → s.slot = Slot.ready) ∧
    (1 < c.n ∨ c.selfRes.isSome = true → s.owner = false) ∧
    (c.pre.isSome = true → s.slot = Slot.ready) := by
  have h := reachable_inv hwf hr
  have hpos := hwf.pos
  refine ⟨?_, ?_, h.pre_ready⟩
  · intro ho
    by_cases hs : s.slot = Slot.ready
    · exact hs
    · exfalso
      obtain ⟨_, w, hw⟩ := h.own_f ho
      obtain ⟨t, _, hres⟩ := (h.pending_phase hs).2 w hw
      rw [h.all_done hd t] at hres
      cases hres
  · intro hc
    rcases hc with hc | hc
    · exact h.claimed 1 (Or.inr ⟨hc, hd 1 hc, Or.inl (by omega)⟩)
    · exact h.claimed 0 (Or.inr ⟨hpos, hd 0 hpos, Or.inr hc⟩)

/-- **Right outcome.**  Whatever a user callback was shown is the operation's (final) outcome: the future is resolved at
that point and the observation is the resolved payload — the value, the exception, or "canceled" for a broken promise. -/
theorem c18_outcome (hwf : c.WF) (hr : Reach c s) :
    ∀ o ∈ s.saw, s.slot = Slot.ready ∧ o = s.payload.obs := by
  intro o ho
  rcases (reachable_inv hwf hr).phase with h | h
  · rw [h.saw, sawOf_eq] at ho
    split at ho <;> simp at ho
    exact ⟨h.ready, ho⟩
  · rw [h.saw] at ho; cases ho

/-- the resolved payload is the one supplied by the unique winner of the promise: the factory, an invocation (its
argument), or a destructor agent (no value) -/
theorem c18_result_is_winners (hwf : c.WF) (hr : Reach c s) (hs : s.slot = Slot.ready) :
    s.wins = 1 ∧ ∃ w, s.winner = some w ∧ s.payload = winPayload c w := by
  have h := reachable_inv hwf hr
  obtain ⟨w, hw, _, hp⟩ := h.ready_phase hs
  have ho : s.owner = false := by
    cases hown : s.owner with
    | false => rfl
    | true => have := (h.own_t hown).2; rw [hw] at this; cases this
  exact ⟨(h.own_f ho).1, w, hw, hp⟩

/-- **The outcome is final.**  Once the operation is resolved no step of any agent changes the slot or the payload any
more: what a callback was shown (`c18_outcome`) stays the operation's outcome. -/
theorem c18_result_stable (hwf : c.WF) (hr : Reach c s) (t : Nat) (hs : s.slot = Slot.ready) :
    (astep c s t).1.slot = Slot.ready ∧ (astep c s t).1.payload = s.payload :=
  (reachable_inv hwf hr).result_stable hwf t hs

/-- **Helper block released exactly once, afterwards.**  At most one block is ever allocated (none by the member-object
adapters), it is released at most once, never before the completion has run, … -/
theorem c18_helper_freed_once (hwf : c.WF) (hr : Reach c s) :
    s.allocs ≤ 1 ∧ s.frees ≤ s.allocs ∧ s.frees ≤ s.calls ∧ (c.adapter.allocates = false → s.allocs = 0) := by
  have h := reachable_inv hwf hr
  have ha := h.allocs_eq
  refine ⟨by rw [ha]; split <;> (try split) <;> omega, ?_, ?_, fun hn => by rw [ha, hn]; simp⟩
  · rcases h.phase with hc | hf
    · rw [hc.frees]; exact Nat.le_refl _
    · rw [hf.frees]; exact Nat.zero_le _
  · rcases h.phase with hc | hf
    · rw [hc.frees, hc.allocs, hc.calls]; split <;> omega
    · rw [hf.frees]; exact Nat.zero_le _

/-- … and exactly once when everything has finished and the operation was resolved: nothing leaks. -/
theorem c18_helper_freed_at_quiescence (hwf : c.WF) (hr : Reach c s) (hd : AllDone c s) (hs : s.slot = Slot.ready) :
    s.frees = s.allocs ∧ (c.adapter.allocates = true → s.frees = 1) := by
  have h := (reachable_inv hwf hr).quiescent hd hs
  exact ⟨h.frees, fun ha => by rw [h.frees, h.allocs, if_pos ha]⟩

/-- the completion's plain segment runs callback(s), converter and release in this order: the block is released after
the callback returned -/
theorem c18_free_follows_callback (c : Cfg) (s : State) :
    (complete c s).2 = (sawOf c s.payload).map Ev.cb ++ (convInOf c s.payload).map Ev.conv
        ++ (if c.adapter.allocates then [Ev.free] else []) := rfl

/-- **Single responsibility.**  At any time at most one party is responsible for the completion: an adapter parked in
the slot excludes every agent, and two agents never hold it together; once it ran nobody holds it. -/
theorem c18_single_holder (hwf : c.WF) (hr : Reach c s) :
    (s.slot = Slot.node → ∀ t, holds (s.pc t) = false) ∧
    (∀ t u, holds (s.pc t) = true → holds (s.pc u) = true → t = u) ∧
    (s.calls = 1 → s.slot ≠ Slot.node ∧ ∀ t, holds (s.pc t) = false) := by
  have h := reachable_inv hwf hr
  refine ⟨fun hs t => h.not_holding (by rw [h.tok_slot.2 hs]; nofun), fun t u ht hu => ?_, fun hc => ?_⟩
  · have h1 := (h.tok_agent t).2 ht
    rw [(h.tok_agent u).2 hu] at h1
    cases h1
    rfl
  · rcases h.phase with hp | hp
    · exact ⟨by rw [hp.ready]; nofun, hp.idle⟩
    · rw [hp.calls] at hc; cases hc

/-- **Already resolved at registration.**  When the registrar finds the future resolved — `ready()` says yes
(`callback_await`, `call_fn_awaiter`) or the subscribing CAS is refused (all others, `future_with_cb::operator<<` among
them, and these two after a late resolution) — it takes the completion itself: it is the one holder (`Pc.comp _ Who.reg`),
nothing was parked in the slot, and by `c18_single_holder` / `c18_once` it runs the completion exactly once.
(`callback_await` whose operation threw at its start has no future to ask: `c18_start_throws_inline`.) -/
theorem c18_already_resolved (hwf : c.WF) (hr : Reach c s) (hs : s.slot = Slot.ready)
    (hpc : s.pc 0 = Pc.gStart ∨ s.pc 0 = Pc.gCas) (hnt : c.adapter = Adapter.cbAwait → c.startThrew = false) :
    (astep c s 0).1.pc 0 = Pc.comp (nloads c s.payload) Who.reg ∧ (astep c s 0).1.tok = Tok.agent 0
      ∧ (astep c s 0).1.slot = Slot.ready ∧ (astep c s 0).1.calls = s.calls :=
  (reachable_inv hwf hr).already_resolved hwf hs hpc hnt

/-- **The start of the awaited operation threw (`callback_await`).**  The awaitable is constructed inside the helper's try
block: within the registrar's first segment — no operation on a shared atomic in between — the callback is called once
with the exceptional state and the frame is released. -/
theorem c18_start_throws_inline (hwf : c.WF) (hr : Reach c s) (hs : s.slot = Slot.ready) (hpc : s.pc 0 = Pc.gStart)
    (ha : c.adapter = Adapter.cbAwait) (ht : c.startThrew = true) :
    (astep c s 0).1.calls = 1 ∧ (astep c s 0).1.saw = [s.payload.obs] ∧ (astep c s 0).1.tok = Tok.used
      ∧ (astep c s 0).1.allocs = 1 ∧ (astep c s 0).1.frees = 1
      ∧ (astep c s 0).2 = prepEvs c s ++ [Ev.cb s.payload.obs, Ev.free] ++ (contReg c (setPc (complete c (setPc (prep c s) 0 (Pc.comp 0 Who.reg))).1 0 Pc.gParked)).2 :=
  (reachable_inv hwf hr).start_throws_inline hs hpc ha ht

/-- **Parked, then resumed by the resolver.**  A successful subscription parks the completion in the slot; the one
exchange that finds it there (`resolve()` of the winner) hands it to that agent, who then holds it alone. -/
theorem c18_resolver_takes_over (t : Nat) (dt : Bool) (hpc : s.pc t = Pc.rResolve dt)
    (hs : s.slot = Slot.node) :
    (∃ k w, (astep c s t).1.pc t = Pc.comp k w) ∧ (astep c s t).1.tok = Tok.agent t ∧ (astep c s t).1.slot = Slot.ready := by
  unfold astep; rw [hpc]; simp only
  unfold resolveStep; rw [hs]; simp [setPc]

/-- **Converters.**  The outer future is resolved at most once, only after the source is resolved, and holds exactly
`convRes` of the source's outcome; at quiescence it *is* resolved. -/
theorem c18_conv_outcome (hwf : c.WF) (hr : Reach c s) (ha : c.adapter = Adapter.conv) :
    (∀ r, s.outer = some r → s.slot = Slot.ready ∧ r = convRes c s.payload) ∧
    (∀ a ∈ s.convIn, convArg c s.payload = some a) ∧
    (AllDone c s → s.slot = Slot.ready → s.outer = some (convRes c s.payload) ∧ s.outerSets = 1) := by
  have hout : outerOf c s.payload = some (convRes c s.payload) := if_pos ha
  refine ⟨?_, ?_, fun hd hs => ?_⟩
  · rcases (reachable_inv hwf hr).phase with h | h <;> intro r hr'
    · rw [h.outer, hout] at hr'
      cases hr'
      exact ⟨h.ready, rfl⟩
    · rw [h.outer] at hr'; cases hr'
  · rcases (reachable_inv hwf hr).phase with h | h <;> intro a hain
    · rw [h.convIn, convInOf, if_pos ha] at hain
      exact Option.mem_toList.1 hain
    · rw [h.convIn] at hain; cases hain
  · have h := (reachable_inv hwf hr).quiescent hd hs
    rw [h.outer, h.outerSets, if_pos ha]
    exact ⟨hout, rfl⟩

/-- what `convRes` is: a source value goes through the converter (its result, its exception, or a promise it left
unresolved) … -/
theorem c18_conv_value (hrd : c.convReads = true) (v : Nat) :
    convArg c (Outcome.val v) = some (if c.srcVoid then none else some v) ∧
    convRes c (Outcome.val v) =
      (match c.cvb with
       | ConvB.ret => OuterRes.val (c.cvf (if c.srcVoid then none else some v))
       | ConvB.throw e => OuterRes.exc e
       | ConvB.leave => OuterRes.noValue) := by
  refine ⟨by simp [convArg, hrd], ?_⟩
  simp only [convRes, convArg, hrd]
  cases c.cvb <;> simp

/-- … a source exception reaches the outer future unchanged and the converter is not invoked … -/
theorem c18_conv_source_exception (hrd : c.convReads = true) (e : Nat) :
    convArg c (Outcome.exc e) = none ∧ convRes c (Outcome.exc e) = OuterRes.exc e := by
  simp [convRes, convArg, hrd]

/-- … and a dropped source reaches it as the broken-promise exception. -/
theorem c18_conv_source_dropped (hrd : c.convReads = true) :
    convArg c Outcome.none = none ∧ convRes c Outcome.none = OuterRes.canceledExc := by
  simp [convRes, convArg, hrd]

/-- after every step of every run the adapter's awaiter node is unlinked again (`_next = nullptr`): whether the
subscription was refused, or the node was parked and detached by the resolver — the helper can be re-armed -/
theorem c18_rearmed (hwf : c.WF) (hr : Reach c s) : s.nxt = Slot.null :=
  (reachable_inv hwf hr).nxt_null

/-- only two program counters wait for something: an invocation for the promise to exist, `~promise` for the invocations -/
theorem enabled_iff {t : Nat} : enabled c s t = true ↔
    s.pc t ≠ Pc.done ∧ (s.pc t = Pc.rBlocked → s.published = true) ∧ (s.pc t = Pc.dBlocked → dtorReady c s = true) := by
  unfold enabled
  cases s.pc t <;> simp

theorem dtorReady_of (hpub : s.published = true)
    (h0 : c.selfRes.isSome = true → s.pc 0 = Pc.done)
    (hres : ∀ i, i < c.n → i ≠ 0 → (c.rk i).isSome = true → s.pc i = Pc.done) : dtorReady c s = true := by
  unfold dtorReady
  simp only [Bool.and_eq_true, List.all_eq_true, List.mem_range]
  refine ⟨hpub, ?_⟩
  intro i hi
  by_cases hi0 : i = 0
  · subst hi0
    cases hsr : c.selfRes with
    | none => simp
    | some k => simp [h0 (by simp [hsr])]
  · simp only [hi0, if_false]
    cases hk : c.rk i with
    | none => rfl
    | some k => simp [hres i hi hi0 (by simp [hk])]

/-- **No hang.**  As long as some agent has not finished, some agent is enabled: nobody waits for a wake-up that never
comes (the registrar never blocks; invocations wait only for the promise to exist; `~promise` only for the invocations). -/
theorem c18_no_hang (hwf : c.WF) (hr : Reach c s) (hnd : ¬ AllDone c s) : ∃ t, t < c.n ∧ enabled c s t = true := by
  have h := reachable_inv hwf hr
  by_cases h0 : s.pc 0 = Pc.done
  · have hpub : s.published = true := h.pub.2 (by rw [h0]; nofun)
    by_cases hres : ∀ i, i < c.n → i ≠ 0 → (c.rk i).isSome = true → s.pc i = Pc.done
    · -- only destructor agents are left
      simp only [AllDone, Classical.not_forall] at hnd
      obtain ⟨t, ht, hne⟩ := hnd
      exact ⟨t, ht, enabled_iff.2 ⟨hne, fun _ => hpub, fun _ => dtorReady_of hpub (fun _ => h0) hres⟩⟩
    · simp only [Classical.not_forall] at hres
      obtain ⟨i, hi, hi0, hk, hne⟩ := hres
      refine ⟨i, hi, enabled_iff.2 ⟨hne, fun _ => hpub, fun hb => ?_⟩⟩
      have := h.kindpc i
      simp [hb, pcOK, isDt, Option.isSome_iff_ne_none.1 hk] at this
  · refine ⟨0, hwf.pos, enabled_iff.2 ⟨h0, fun hb => ?_, fun hb => ?_⟩⟩ <;>
      · have := h.kindpc 0
        simp [hb, pcOK, isDt] at this

end

/-! ## When the helper of `callback_await` starts, and what the awaited operation is constructed from

From ordinary code the helper coroutine starts inside the call.  From inside a running coroutine (`c.inCoro`: active
`coro_queue`) `detach()` only queues it: it starts after the caller's full expression — and every temporary argument —
is gone (`tmpLive = false`).  The awaited operation (`Awt awt(args...)`) is constructed in the helper's *body*, so it must
be built from the copies the helper frame owns. -/

/-- the operation has been constructed exactly when the registrar is past its first segment, and at that moment the
caller's temporaries are dead exactly when the start was deferred -/
theorem c18_deferred_start (hwf : c.WF) (hr : Reach c s) :
    (s.built = true ↔ s.pc 0 ≠ Pc.gStart) ∧ (s.built = true → (s.tmpLive = false ↔ deferred c = true)) := by
  have h := reachable_inv hwf hr
  refine ⟨h.built_iff, fun hb => ?_⟩
  have hp := h.built_iff.1 hb
  rw [h.tmp_iff]
  exact ⟨fun hx => hx.1, fun hx => ⟨hx, hp⟩⟩

/-- **The awaited operation is never constructed from a dead argument**: the helper takes its arguments by value, its
frame owns the copies, and the frame is alive from its allocation until after the completion — whichever context the
registration is made from and whenever the helper starts -/
theorem c18_operation_built_from_live_args (hwf : c.WF) (hr : Reach c s) (hv : c.argsByRef = false) :
    s.builtLive = true :=
  (reachable_inv hwf hr).built_val hv

/-- why the by-reference variant survives every test that registers from ordinary code: a helper that starts inside the
call finds the caller's arguments alive either way -/
theorem c18_inline_start_args_live (hwf : c.WF) (hr : Reach c s) (hd : deferred c = false) : s.builtLive = true :=
  (reachable_inv hwf hr).built_ctx hd

/-- NOT the code — `callback_await_coro(Alloc &, Fn, Args && ...)`, the frame holding references: registered from inside a
running coroutine the operation is constructed after the caller's temporaries died (the seeded change
r3-c18-callback-await-args-by-ref; the harness reports it as `dead-arg`) -/
theorem c18_args_by_ref_witness :
    let c : Cfg := { adapter := Adapter.cbAwait, n := 2, rk := fun _ => some (RK.value 42), inCoro := true, argsByRef := true }
    let s := run c (init c) [0]
    s.built = true ∧ s.tmpLive = false ∧ s.builtLive = false ∧ (astep c (init c) 0).2 = [Ev.alloc, Ev.callerCont, Ev.deadArg, Ev.opLoadSlot 0 Slot.null] := by
  decide

/-- the code as it is, same scenario: deferred start, the caller carries on first, the operation is built from the frame's
copies; the completion still runs exactly once -/
example :
    let c : Cfg := { adapter := Adapter.cbAwait, n := 2, rk := fun _ => some (RK.value 42), inCoro := true }
    let s := run c (init c) [0, 0, 1, 1, 1, 0]
    (astep c (init c) 0).2 = [Ev.alloc, Ev.callerCont, Ev.opLoadSlot 0 Slot.null] ∧
    s.tmpLive = false ∧ s.builtLive = true ∧ s.calls = 1 ∧ s.saw = [Obs.val 42] ∧ s.frees = 1 := by
  decide

/-! ## Re-use of the member-object adapters: exactly once *per awaited operation*

`future_conv` and `call_fn_future_awaiter` objects are re-armed with `<<` for one operation after the other; the awaiter
node (and its `_next` link, the expected value of the next subscribing CAS) is the same object every time.  `runOps`
chains any number of operations — each with its own adapter configuration, outcome kinds, agents, timing (already
resolved / same thread later / concurrent) and schedule — through that link. -/

/-- every operation of every sequence is a run of the single-operation machine from its standard initial state (the
link it inherits is null), so each of the theorems above holds for each operation separately -/
theorem c18_reuse_reach (ops : List OpRun) (hwf : ∀ o ∈ ops, o.c.WF) :
    Pointwise (fun o s => Reach o.c s) ops (runOps Slot.null ops) := by
  induction ops with
  | nil => exact Pointwise.nil
  | cons o rest ih =>
    have hr : Reach o.c (run o.c (initWith o.c Slot.null) o.sched) := ⟨o.sched, rfl⟩
    unfold runOps
    rw [c18_rearmed (hwf o (by simp)) hr]
    exact Pointwise.cons hr (ih fun o' ho' => hwf o' (by simp [ho']))

/-- **Exactly once per awaited operation**, for any number of successive operations on one helper object and every
combination of timings: each operation that has finished and is resolved ran its completion exactly once, showed its
callback exactly that operation's outcome, delivered exactly `convRes` of that operation's outcome to that operation's
outer future, and released what it allocated. -/
theorem c18_once_per_operation (ops : List OpRun) (hwf : ∀ o ∈ ops, o.c.WF) :
    Pointwise (fun o s => AllDone o.c s → s.slot = Slot.ready →
        s.calls = 1 ∧ s.frees = s.allocs ∧
        (o.c.adapter.hasCallback = true → s.saw = [s.payload.obs]) ∧
        (o.c.adapter = Adapter.conv → s.outer = some (convRes o.c s.payload) ∧ s.outerSets = 1))
      ops (runOps Slot.null ops) := by
  have hr := c18_reuse_reach ops hwf
  generalize runOps Slot.null ops = ss at hr
  induction hr with
  | nil => exact Pointwise.nil
  | @cons o s os ss' h _ ih =>
    refine Pointwise.cons ?_ (ih (fun o' ho' => hwf o' (by simp [ho'])))
    intro hd hs
    have hw := hwf o (by simp)
    have h1 := c18_once hw h hd hs
    exact ⟨h1.1, (c18_helper_freed_at_quiescence hw h hd hs).1, h1.2.1,
      fun ha => (c18_conv_outcome hw h ha).2.2 hd hs⟩

/-! ## The pinned code: `future_conv` over a `future<void>` source ignored the source's failure

`convReads := false` is the step of the two void-source specialisations as they were at the pinned commit (the resume
function never looked at `_fut`).  The source fails with exception 5, yet the outer future receives the converter's
value.  Repaired in /repo by reading the source first (`fix:` commit); the theorems above are about the repaired step
(`convReads = true`, hypothesis of `c18_conv_source_exception` / `c18_conv_source_dropped`). -/

def asIsVoidConv : Cfg :=
  { adapter := Adapter.conv, n := 2, rk := fun _ => some (RK.exc 5), srcVoid := true, convReads := false }

theorem c18_void_source_asis_witness :
    let s := run asIsVoidConv (init asIsVoidConv) [0, 1, 1, 1, 0]
    allDone asIsVoidConv s = true ∧ s.payload = Outcome.exc 5 ∧ s.outer = some (OuterRes.val 7000) ∧ s.convIn = [none] := by
  decide

/-- the same schedule on the repaired step delivers the source's exception and does not run the converter -/
theorem c18_void_source_fixed_witness :
    let c := { asIsVoidConv with convReads := true }
    let s := run c (init c) [0, 1, 1, 1, 1, 0]
    allDone c s = true ∧ s.payload = Outcome.exc 5 ∧ s.outer = some (OuterRes.exc 5) ∧ s.convIn = [] := by
  decide

/-! ## Source flavours: the value the adapter reads back is the operation's value

`payload = val v` is what `future<T>::value()` of the adapter's future returns for every flavour of source the factory may
return — a `future<T>`, a `future<T&>` resolved through its promise, an already resolved `future<T&>::set_value(x)`. -/

theorem c18_source_flavour_read (fl : SrcFlavour) (v a : Nat) : readBack fl (storedState false fl) v a = some v := by
  cases fl <;> rfl

/-- the pinned code: the static reference factory stored the address under `State::value`, so an adapter whose
`future<T>` was constructed from it read the pointer bits — the completion ran once but received the address of the
operation's value.  Repaired in /repo (`fix:` commit: `__SetReferenceTag` stores `State::value_ref`). -/
theorem c18_static_ref_asis_witness :
    readBack SrcFlavour.refStatic (storedState true SrcFlavour.refStatic) 10 764171228 = some 764171228 ∧
    readBack SrcFlavour.refPromise (storedState true SrcFlavour.refPromise) 10 764171228 = some 10 := by
  decide

/-! ## A throwing callback, a throwing start, `future_with_cb::operator<<`: the repaired behaviour, and the pinned code

Three defects of the pinned headers were repaired in /repo; the theorems above are about the repaired steps.  The corollaries
below spell the three situations out; `astepAsIs` / `runAsIs` (`Callback.lean`) keep the pinned steps, and each witness shows
"exactly once, and the block released once" failing for them on a concrete run. -/

section
variable {c : Cfg} {s : State}

/-- an adapter that allocates a helper block and invokes a user callback: one call with the outcome, one block, released -/
theorem once_released (hwf : c.WF) (hr : Reach c s) (hd : AllDone c s) (hs : s.slot = Slot.ready)
    (hcb : c.adapter.hasCallback = true) (hal : c.adapter.allocates = true) :
    s.calls = 1 ∧ s.saw = [s.payload.obs] ∧ s.allocs = 1 ∧ s.frees = 1 := by
  have h := (reachable_inv hwf hr).quiescent hd hs
  have ha : s.allocs = 1 := by rw [h.allocs, if_pos hal]
  exact ⟨h.calls, by rw [h.saw, sawOf_eq, if_pos hcb], ha, h.frees.trans ha⟩

/-- **A callback that throws is still called exactly once** (`callback_await`): whatever exception `e` the callback throws
after it was handed the outcome, at quiescence it has been invoked once, with the operation's outcome — never a second time
with its own exception — and the frame was released once. -/
theorem c18_throwing_callback_once (hwf : c.WF) (hr : Reach c s) (hd : AllDone c s) (hs : s.slot = Slot.ready)
    (ha : c.adapter = Adapter.cbAwait) (e : Nat) (_hthrow : c.cbThrows = some e) :
    s.calls = 1 ∧ s.saw = [s.payload.obs] ∧ s.allocs = 1 ∧ s.frees = 1 :=
  once_released hwf hr hd hs (by rw [ha]; rfl) (by rw [ha]; rfl)

/-- **The start of the awaited operation throws** exception `e` (`c.pre = exc e`, `c.startThrew`: the factory / the
constructor of the awaitable throws instead of returning): the operation's outcome is that exception, and at quiescence
the completion has run exactly once with it — the callback of `callback_await` / `future_with_cb::operator<<` /
`call_fn_future_awaiter` saw `exc e`, the outer future of a converter holds `exc e` and the converter was not run — and
what was allocated has been released.  No agent can change the outcome (the promise, if any, is already spent). -/
theorem c18_start_throws (hwf : c.WF) (hr : Reach c s) (hd : AllDone c s) (e : Nat) (hp : c.pre = some (RK.exc e)) :
    s.slot = Slot.ready ∧ s.payload = Outcome.exc e ∧ s.calls = 1 ∧ s.frees = s.allocs ∧
    (c.adapter.hasCallback = true → s.saw = [Obs.exc e]) ∧
    (c.adapter = Adapter.conv → c.convReads = true → s.outer = some (OuterRes.exc e) ∧ s.convIn = []) := by
  have h := reachable_inv hwf hr
  have hs : s.slot = Slot.ready := h.pre_ready (by simp [hp])
  have hw : s.winner = some Win.factory := h.pre_winner (by simp [hp])
  obtain ⟨w, hw', _, hpay⟩ := h.ready_phase hs
  rw [hw] at hw'; injection hw' with hw'; subst hw'
  have hpay' : s.payload = Outcome.exc e := by rw [hpay]; simp [winPayload, hp, RK.payload]
  have hq := h.quiescent hd hs
  refine ⟨hs, hpay', hq.calls, (c18_helper_freed_at_quiescence hwf hr hd hs).1, fun hcb => ?_, fun ha hrd => ?_⟩
  · rw [hq.saw, sawOf_eq, if_pos hcb, hpay']; rfl
  · rw [hq.outer, hq.convIn, hpay', outerOf, if_pos ha, convInOf, if_pos ha, (c18_conv_source_exception hrd e).1, (c18_conv_source_exception hrd e).2]
    exact ⟨rfl, rfl⟩

/-- **`future_with_cb::operator<<`**: the callback is registered on the re-created future — parked in its slot by the
subscribing CAS, or, when that future is already resolved, run by the registrar at once (`c18_already_resolved`) — and at
quiescence it has been called exactly once with the operation's outcome and the object has been released exactly once. -/
theorem c18_lshift_once (hwf : c.WF) (hr : Reach c s) (hd : AllDone c s) (hs : s.slot = Slot.ready)
    (ha : c.adapter = Adapter.mkCb) :
    s.calls = 1 ∧ s.saw = [s.payload.obs] ∧ s.allocs = 1 ∧ s.frees = 1 :=
  once_released hwf hr hd hs (by rw [ha]; rfl) (by rw [ha]; rfl)

/-- its registration step: one subscribing CAS on the re-created future's slot (expected value null: the node is fresh),
which parks the object — nobody else holds the completion then -/
theorem c18_lshift_registers (hwf : c.WF) (hr : Reach c s) (hpc : s.pc 0 = Pc.gStart) (ha : c.adapter = Adapter.mkCb)
    (hs : s.slot = Slot.null) :
    (astep c s 0).1.slot = Slot.node ∧ (astep c s 0).1.tok = Tok.slot ∧ (astep c s 0).1.pc 0 = Pc.gParked
      ∧ (astep c s 0).2 = prepEvs c s ++ [Ev.opCas 0 true Slot.null] := by
  unfold astep; rw [hpc]; simp only
  unfold startStep
  simp [ha, hs, casStep, prep, setPc, Adapter.allocates]

/-- the pinned steps differ from the repaired ones in exactly the three repaired situations: for every other
configuration `astepAsIs` *is* `astep` -/
theorem c18_asis_differs_only (t : Nat) (hm : c.adapter ≠ Adapter.mkCb)
    (hcb : c.adapter = Adapter.cbAwait → c.cbThrows = none ∧ c.startThrew = false) :
    astepAsIs c s t = astep c s t := by
  have hsaw : ∀ p, sawOfAsIs c p = sawOf c p := by
    intro p
    unfold sawOfAsIs
    cases ha : c.adapter <;> simp
    simp [sawOf, ha, cbAwaitSees, cbAwaitSeesAsIs, (hcb ha).1]
  unfold astepAsIs astep
  cases hpc : s.pc t <;> simp only
  · unfold startStepAsIs
    cases ha : c.adapter <;> simp [ha] at hm ⊢
    simp [(hcb ha).2]
  · unfold compStepAsIs compStep completeAsIs complete
    simp only [hsaw]

end

def throwingCb : Cfg :=
  { adapter := Adapter.cbAwait, n := 2, rk := fun _ => some (RK.value 42), cbThrows := some 88 }

/-- AS-IS witness for /repo 963fa92 ("fix: callback_await called the callback a second time when it threw"): on the pinned
step the callback, which throws after it received the value 42, is invoked a second time — with an exceptional state
carrying its own exception 88 — for one awaited operation -/
theorem c18_throwing_callback_asis_witness :
    let s := runAsIs throwingCb (init throwingCb) [0, 0, 0, 1, 1, 1]
    allDone throwingCb s = true ∧ s.slot = Slot.ready ∧ s.payload = Outcome.val 42 ∧ s.calls = 1
      ∧ s.saw = [Obs.val 42, Obs.exc 88] ∧ s.frees = 1 := by
  decide

/-- the same run on the repaired step: called once, with the value -/
theorem c18_throwing_callback_fixed_witness :
    let s := run throwingCb (init throwingCb) [0, 0, 0, 1, 1, 1]
    throwingCb.WF ∧ allDone throwingCb s = true ∧ s.slot = Slot.ready ∧ s.calls = 1 ∧ s.saw = [Obs.val 42] ∧ s.frees = 1 := by
  refine ⟨⟨by decide, by decide⟩, ?_⟩
  decide

def throwingStart : Cfg :=
  { adapter := Adapter.cbAwait, n := 1, rk := fun _ => none, pre := some (RK.exc 6), startThrew := true }

/-- AS-IS witness for /repo 42a8746 ("fix: callback_await lost the completion when starting the awaited operation
threw"): on the pinned step the registration returns normally, the frame is released, and the callback registered for the
operation — whose outcome is exception 6 — is never called -/
theorem c18_start_throws_asis_witness :
    let s := runAsIs throwingStart (init throwingStart) [0]
    allDone throwingStart s = true ∧ s.slot = Slot.ready ∧ s.payload = Outcome.exc 6 ∧ s.calls = 0 ∧ s.saw = []
      ∧ s.allocs = 1 ∧ s.frees = 1
      ∧ (astepAsIs throwingStart (init throwingStart) 0).2 = [Ev.alloc, Ev.free, Ev.fin 0] := by
  decide

/-- the same run on the repaired step: the callback receives the exception, within the registration, then the frame goes -/
theorem c18_start_throws_fixed_witness :
    let s := run throwingStart (init throwingStart) [0]
    throwingStart.WF ∧ allDone throwingStart s = true ∧ s.calls = 1 ∧ s.saw = [Obs.exc 6] ∧ s.allocs = 1 ∧ s.frees = 1
      ∧ (astep throwingStart (init throwingStart) 0).2 = [Ev.alloc, Ev.cb (Obs.exc 6), Ev.free, Ev.fin 0] := by
  refine ⟨⟨by decide, by decide⟩, ?_⟩
  decide

def lshiftCb : Cfg :=
  { adapter := Adapter.mkCb, n := 2, rk := fun _ => some (RK.value 5) }

/-- AS-IS witness for /repo edcba93 ("fix: future_with_cb::operator<< lost the callback"): on the pinned step nothing is
subscribed to the re-created future; the resolver's exchange finds an empty slot, the callback is never called and the
object never released — also when the future is already resolved at `<<` (second run) -/
theorem c18_lshift_asis_witness :
    (let s := runAsIs lshiftCb (init lshiftCb) [0, 0, 1, 1, 1]
     allDone lshiftCb s = true ∧ s.slot = Slot.ready ∧ s.payload = Outcome.val 5 ∧ s.calls = 0 ∧ s.saw = []
       ∧ s.allocs = 1 ∧ s.frees = 0) ∧
    (let c : Cfg := { adapter := Adapter.mkCb, n := 1, rk := fun _ => none, pre := some (RK.value 5) }
     let s := runAsIs c (init c) [0]
     allDone c s = true ∧ s.slot = Slot.ready ∧ s.calls = 0 ∧ s.saw = [] ∧ s.allocs = 1 ∧ s.frees = 0) := by
  decide

/-- the same two runs on the repaired step: parked and resumed by the resolver / called at once by the registrar; one
call with the value, the object released once -/
theorem c18_lshift_fixed_witness :
    (let s := run lshiftCb (init lshiftCb) [0, 0, 1, 1, 1]
     lshiftCb.WF ∧ allDone lshiftCb s = true ∧ s.calls = 1 ∧ s.saw = [Obs.val 5] ∧ s.allocs = 1 ∧ s.frees = 1) ∧
    (let c : Cfg := { adapter := Adapter.mkCb, n := 1, rk := fun _ => none, pre := some (RK.value 5) }
     let s := run c (init c) [0, 0]
     c.WF ∧ allDone c s = true ∧ s.calls = 1 ∧ s.saw = [Obs.val 5] ∧ s.allocs = 1 ∧ s.frees = 1
       ∧ (astep c (init c) 0).2 = [Ev.alloc, Ev.opCas 0 false Slot.ready]) := by
  refine ⟨⟨⟨by decide, by decide⟩, ?_⟩, ⟨⟨by decide, by decide⟩, ?_⟩⟩ <;> decide

/-! ## Non-vacuity: the hypotheses are met by non-trivial reachable states -/

/-- `callback_await`, resolver racing between `ready()` and the CAS: refused subscription, the registrar completes -/
example :
    let c : Cfg := { adapter := Adapter.cbAwait, n := 3, rk := fun i => if i = 1 then some (RK.exc 3) else none }
    let s := run c (init c) [0, 1, 1, 0, 0, 1, 2, 2, 0]
    c.WF ∧ AllDone c s ∧ s.slot = Slot.ready ∧ s.calls = 1 ∧ s.saw = [Obs.exc 3] ∧ s.allocs = 1 ∧ s.frees = 1 := by
  refine ⟨⟨by decide, by decide⟩, ?_, ?_⟩
  · rw [← allDone_iff]; decide
  · decide

/-- `make_promise`, two invocations racing plus the destructor: one callback with the winner's value -/
example :
    let c : Cfg := { adapter := Adapter.mkProm, n := 4, rk := fun i => if i = 1 then some (RK.value 7) else if i = 2 then some RK.drop else none }
    let s := run c (init c) [3, 0, 2, 1, 1, 2, 2, 2, 1, 3, 3]
    c.WF ∧ AllDone c s ∧ s.slot = Slot.ready ∧ s.calls = 1 ∧ s.saw = [Obs.canceled] ∧ s.frees = 1 ∧ s.wins = 1 := by
  refine ⟨⟨by decide, by decide⟩, ?_, ?_⟩
  · rw [← allDone_iff]; decide
  · decide

/-- `future_conv`, source resolved inside the factory (already resolved at registration), throwing converter -/
example :
    let c : Cfg := { adapter := Adapter.conv, n := 1, rk := fun _ => none, pre := some (RK.value 4), cvb := ConvB.throw 77 }
    let s := run c (init c) [0, 0, 0]
    c.WF ∧ AllDone c s ∧ s.slot = Slot.ready ∧ s.outer = some (OuterRes.exc 77) ∧ s.convIn = [some 4] := by
  refine ⟨⟨by decide, by decide⟩, ?_, ?_⟩
  · rw [← allDone_iff]; decide
  · decide

/-- `discard`, resolved later by the registering thread itself; a state in the middle of a run where the adapter is
parked (`c18_single_holder`, first clause) -/
example :
    let c : Cfg := { adapter := Adapter.discard, n := 1, rk := fun _ => none, selfRes := some (RK.value 1) }
    let s := run c (init c) [0]
    c.WF ∧ s.slot = Slot.node ∧ s.calls = 0 ∧ s.allocs = 1 ∧ s.frees = 0 ∧ ¬ AllDone c s := by
  refine ⟨⟨by decide, by decide⟩, by decide, by decide, by decide, by decide, ?_⟩
  rw [← allDone_iff]; decide

/-- re-use: three operations on one `call_fn_future_awaiter` — already resolved, already resolved again (the window of
the stale `_next` link), then parked and resumed by another thread; one callback with its own outcome each time -/
example :
    let o1 : OpRun := { c := { adapter := Adapter.callFn, n := 1, rk := fun _ => none, pre := some (RK.value 3) }, sched := [0, 0] }
    let o2 : OpRun := { c := { adapter := Adapter.callFn, n := 1, rk := fun _ => none, pre := some (RK.exc 4) }, sched := [0, 0] }
    let o3 : OpRun := { c := { adapter := Adapter.callFn, n := 2, rk := fun _ => some (RK.value 5) }, sched := [0, 1, 0, 1, 1] }
    (runOps Slot.null [o1, o2, o3]).map (fun s => (s.calls, s.saw, s.slot, s.nxt)) =
      [(1, [Obs.val 3], Slot.ready, Slot.null), (1, [Obs.exc 4], Slot.ready, Slot.null), (1, [Obs.val 5], Slot.ready, Slot.null)] := by
  decide

/-- `call_fn_awaiter` driven by hand (`ready()` load, then CAS), two operations on the same awaiter node: first the
resolver slips in between the load and the CAS (refused, the caller resumes the awaiter himself), then an operation that
is already resolved at `ready()`; one callback each, nothing allocated, the node unlinked again -/
example :
    let o1 : OpRun := { c := { adapter := Adapter.callAwt, n := 2, rk := fun _ => some (RK.value 8) }, sched := [0, 1, 1, 0, 0, 1] }
    let o2 : OpRun := { c := { adapter := Adapter.callAwt, n := 1, rk := fun _ => none, pre := some RK.drop }, sched := [0, 0, 0] }
    (runOps Slot.null [o1, o2]).map (fun s => (s.calls, s.saw, s.allocs, s.slot, s.nxt)) =
      [(1, [Obs.val 8], 0, Slot.ready, Slot.null), (1, [Obs.canceled], 0, Slot.ready, Slot.null)] := by
  decide

end Cocls.Callback
