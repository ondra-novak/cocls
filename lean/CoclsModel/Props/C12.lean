import CoclsModel.SchedulerHeap
/-!
# C12 — scheduler: never early, in deadline order, cancel hits exactly its target

Model: `CoclsModel/Scheduler.lean`.  Every theorem quantifies over

* every heap implementation `H` that meets the contract of `std::push_heap`/`std::pop_heap` (`HeapSpec H`) — hence every
  tie-break among equal deadlines and every choice among equal identifiers; `c12_stdHeap_spec` proves the contract for the
  transcription of libstdc++'s algorithms that the driver runs against the real header;
* every operation list (`Reachable`): any history of schedule / get_expired / remove / cancel / destroy / worker
  iterations of any number of workers, with arbitrary (equal, past) time points and identifiers.  Every public method is
  one lock region, so an interleaving of threads is an operation list.

Below that level three things are modelled as programs over the scheduler mutex: `interval()`'s stop callback and the
worker's loop body (`workerIter`: which part of an iteration runs under `_mx` and which does not — the promise is resolved
with `_mx` released, so an awaiter that is a callback may call the scheduler again) as lock programs (`runProg`), and the
stop handshake between `~scheduler()` and the worker as a micro-step model (`Stop.*`, every interleaving).  The defects
of the pinned code and two seeded changes (`c12_asis_gap_*`) are kept as witnesses on as-is variants (`c12_asis_*`).
-/
namespace Cocls.Sched

def Reachable (H : Heap) (s : State) : Prop := ∃ ops, s = run H init ops

theorem reachable_inv {H : Heap} (hH : HeapSpec H) {s : State} (h : Reachable H s) : Inv s := by
  obtain ⟨ops, rfl⟩ := h
  exact inv_run hH ops inv_init

theorem Reachable.run {H : Heap} {s : State} (h : Reachable H s) (ops : List Op) : Reachable H (run H s ops) := by
  obtain ⟨ops0, rfl⟩ := h
  exact ⟨ops0 ++ ops, by simp only [Sched.run, List.foldl_append]⟩

/-- The transcription of libstdc++'s `__push_heap`/`__adjust_heap` used by the driver meets the contract the theorems
assume: results are permutations and heaps. -/
theorem c12_stdHeap_spec : HeapSpec stdHeap := stdHeap_spec

/-! ## never early -/

/-- Whatever `get_expired(now)` hands out (manual mode) and whatever a worker resolves at clock reading `now` is a live
entry whose time point is `≤ now` — for *any* heap implementation, correct or not, and any state. -/
theorem c12_never_early_step (H : Heap) (s : State) (now : Nat) (e : Entry) :
    ((step H s (Op.getExpired now)).2 = Res.expired e → e.tp ≤ now ∧ e.alive = true) ∧
    (∀ w, (step H s (Op.poll w now)).2 = Res.expired e → e.tp ≤ now ∧ e.alive = true) := by
  have key : (getExpiredLk H s.heap now).2 = some e → e.tp ≤ now ∧ e.alive = true := fun h => by
    have ⟨hc, ha⟩ := popLoop_some H _ _ _ e h
    exact ⟨by simpa [dueOrDead, ha] using hc, ha⟩
  exact ⟨fun h => key (expired_of_step.1 h), fun w h => key (expired_of_step.2 w h)⟩

/-- History form: in every reachable state, every sleep that completed by expiry did so at a clock reading that was not
before its time point. -/
theorem c12_never_early {H : Heap} (hH : HeapSpec H) {s : State} (h : Reachable H s) :
    ∀ d ∈ s.log, ∀ now, d.fate = Fate.expired now → d.tp ≤ now :=
  (reachable_inv hH h).not_early

/-! ## deadline order -/

/-- The entry handed out by `get_expired` / resolved by a worker has the smallest time point of all sleeps pending at
that moment (equal time points: any of them). -/
theorem c12_deadline_order_step {H : Heap} (hH : HeapSpec H) {s : State} (h : Reachable H s) (now : Nat) (e : Entry) :
    ((step H s (Op.getExpired now)).2 = Res.expired e → ∀ y ∈ s.heap, y.alive = true → e.tp ≤ y.tp) ∧
    (∀ w, (step H s (Op.poll w now)).2 = Res.expired e → ∀ y ∈ s.heap, y.alive = true → e.tp ≤ y.tp) := by
  obtain ⟨_, t2, _⟩ := getExpiredLk_spec hH now (reachable_inv hH h).heap_ok
  exact ⟨fun h => (t2 e (expired_of_step.1 h)).2, fun w h => (t2 e (expired_of_step.2 w h)).2⟩

/-- History form: if `x` expired before `y` did and `y` was already scheduled when `x` expired (`y.serial < x.stamp`, so
both were pending together), then `x`'s time point is not later than `y`'s — sleepers complete in time-point order,
for every sequence of `now` values and every interleaving with cancels and new sleeps. -/
theorem c12_deadline_order {H : Heap} (hH : HeapSpec H) {s : State} (h : Reachable H s) :
    s.log.Pairwise (fun x y => x.isExpired = true → y.isExpired = true → y.serial < x.stamp → x.tp ≤ y.tp) :=
  (reachable_inv hH h).ord_log

/-- … and not later than anything that was pending then and is still pending now. -/
theorem c12_deadline_order_pending {H : Heap} (hH : HeapSpec H) {s : State} (h : Reachable H s) :
    ∀ d ∈ s.log, d.isExpired = true → ∀ y ∈ s.heap, y.alive = true → y.serial < d.stamp → d.tp ≤ y.tp :=
  (reachable_inv hH h).ord_heap

/-! ## exactly once -/

/-- Every sleep ever scheduled is, at any time, either still pending in the vector (exactly one live entry) or has
completed exactly once (expiry xor cancel xor remove xor destruction); never both, never twice, never lost. -/
theorem c12_once {H : Heap} (hH : HeapSpec H) {s : State} (h : Reachable H s) (i : Nat) :
    (aliveSerials s.heap).count i + (s.log.map (·.serial)).count i = if i < s.nextSerial then 1 else 0 :=
  (reachable_inv hH h).once i

/-- A sleep never completes inside `schedule()`/`sleep_until()` itself (not even with a time point in the past): after
the call it is pending, exactly once, and nothing else completed. -/
theorem c12_schedule_pending {H : Heap} (hH : HeapSpec H) {s : State} (h : Reachable H s) (hal : s.alive = true)
    (tp id : Nat) :
    (stepSchedule H s tp id).1.log = s.log ∧
    (aliveSerials (stepSchedule H s tp id).1.heap).count s.nextSerial = 1 := by
  have hi := reachable_inv hH h
  have h1 := (inv_schedule hH hi hal tp id).once s.nextSerial
  have h0 := hi.once s.nextSerial
  have hlog : (stepSchedule H s tp id).1.log = s.log := rfl
  have hn : (stepSchedule H s tp id).1.nextSerial = s.nextSerial + 1 := rfl
  rw [hlog, hn] at h1
  simp only [Nat.lt_irrefl, if_false] at h0
  simp only [Nat.lt_succ_self, if_true] at h1
  exact ⟨rfl, by omega⟩

/-! ## not late -/

/-- `get_expired(now)` answers with a time point only when no pending sleep is due, and the time point is exactly the
earliest pending deadline (`none` = `time_point::max()` only when nothing is pending): nothing that is due is withheld. -/
theorem c12_nothing_due_withheld {H : Heap} (hH : HeapSpec H) {s : State} (h : Reachable H s) (now : Nat)
    (t : Option Nat) (hr : (step H s (Op.getExpired now)).2 = Res.next t) :
    (∀ y ∈ s.heap, y.alive = true → ∃ t', t = some t' ∧ now < t' ∧ t' ≤ y.tp) ∧
    (∀ t', t = some t' → ∃ y ∈ s.heap, y.alive = true ∧ y.tp = t') := by
  obtain ⟨_, _, t3⟩ := getExpiredLk_spec hH now (reachable_inv hH h).heap_ok
  obtain ⟨hn, rfl⟩ := next_of_step.1 hr
  exact t3 hn

/-- A worker parked in `wait_until(d)` has `d ≤` the time point of every pending sleep, in every reachable state, for any
number of workers and whatever other threads did in between (`schedule` of an earlier time point notifies, see
`c12_schedule_notify`).  The steps are the code's lock regions: of a worker iteration the part that matters (`Op.poll`:
stop check, clock read, `get_expired_lk`, then `wait_until`, which releases `_mx` atomically — or `lk.unlock()` when a
promise was handed out) is ONE region; the resolution of the promise happens outside of it
(`c12_worker_resolves_unlocked`) and is followed by a region that only evaluates the loop condition.  So `Reachable`
ranges over every interleaving of public calls of other threads (and of callbacks run by the worker itself) with the
worker's iterations at exactly the granularity at which the real threads can interleave (the harness'
`worker-lock-regions` suite stalls the real worker in front of every acquisition of `_mx` and runs public calls there).
`c12_asis_gap_stale_wait` shows that the statement fails as soon as the mutex is dropped between computing the time
point and `wait_until`.  Under virtual time an idle worker therefore wakes no later than the earliest deadline, and
`c12_nothing_due_withheld` + `c12_never_early_step` say that the iteration after the wake-up hands out exactly what is
due. -/
theorem c12_worker_not_late {H : Heap} (hH : HeapSpec H) {s : State} (h : Reachable H s) :
    ∀ p ∈ s.waits, ∀ y ∈ s.heap, y.alive = true → waitOk p.2 y.tp :=
  fun p hp y hy _ => (reachable_inv hH h).waits_ok p hp y hy

/-- The statement of `c12_worker_not_late` is false for a worker whose iteration drops `_mx` between computing the time
point and `wait_until` (the seeded change "release `_mx` around `pool->any_enqueued()`"): `sleep(10)`; first half of the
iteration (remembers 10); another thread's `sleep(5)` falls into the gap — it finds nobody waiting to notify —; second
half: the worker parks until the stale 10 while a sleep until 5 is pending.  On an empty vector the stale deadline is
`time_point::max()`: the sleeper is never woken (replayed on that change: corpus/c12step_basic.txt, case 4). -/
theorem c12_asis_gap_stale_wait :
    let s1 := (stepPollGapA stdHeap (run stdHeap init [Op.schedule 10 1]) 0 0)
    let s3 := stepPollGapB (step stdHeap s1.1 (Op.schedule 5 2)).1 0 (some 10)
    let t1 := (stepPollGapA stdHeap init 0 0)
    let t3 := stepPollGapB (step stdHeap t1.1 (Op.schedule 5 2)).1 0 none
    (s1.2 = Res.next (some 10) ∧ s3.waits = [(0, some 10)] ∧ s3.heap.map (fun e => (e.tp, e.alive)) = [(5, true), (10, true)] ∧
      ¬ (∀ p ∈ s3.waits, ∀ y ∈ s3.heap, y.alive = true → waitOk p.2 y.tp)) ∧
    (t1.2 = Res.next none ∧ t3.waits = [(0, none)] ∧ t3.heap.map (fun e => (e.tp, e.alive)) = [(5, true)] ∧
      ¬ (∀ p ∈ t3.waits, ∀ y ∈ t3.heap, y.alive = true → waitOk p.2 y.tp)) := by
  refine ⟨⟨by decide, by decide, by decide, ?_⟩, ⟨by decide, by decide, by decide, ?_⟩⟩
  · intro h
    have := h (0, some 10) (by decide) { serial := 1, tp := 5, id := 2, alive := true } (by decide) rfl
    simp [waitOk] at this
  · intro h
    have := h (0, none) (by decide) { serial := 0, tp := 5, id := 2, alive := true } (by decide) rfl
    simp [waitOk] at this

/-- a worker that finds nothing due parks itself with exactly the earliest pending deadline -/
theorem c12_worker_waits_for_earliest {H : Heap} (hH : HeapSpec H) {s : State} (h : Reachable H s) (w now : Nat)
    (t : Option Nat) (hr : (step H s (Op.poll w now)).2 = Res.next t) :
    (w, t) ∈ (step H s (Op.poll w now)).1.waits ∧
    (∀ y ∈ s.heap, y.alive = true → ∃ t', t = some t' ∧ now < t' ∧ t' ≤ y.tp) ∧
    (∀ t', t = some t' → ∃ y ∈ s.heap, y.alive = true ∧ y.tp = t') := by
  obtain ⟨_, _, t3⟩ := getExpiredLk_spec hH now (reachable_inv hH h).heap_ok
  obtain ⟨hn, rfl, hw⟩ := next_of_step.2 w hr
  exact ⟨hw, t3 hn⟩

/-- `schedule()` wakes the parked workers exactly when the vector was empty or the new time point is earlier than the
current top; otherwise nobody is disturbed. -/
theorem c12_schedule_notify (H : Heap) (s : State) (tp id : Nat) :
    (stepSchedule H s tp id).2 = Res.scheduled s.nextSerial (decide (∀ x ∈ s.heap.head?, x.tp > tp)) ∧
    ((∀ x ∈ s.heap.head?, x.tp > tp) → (stepSchedule H s tp id).1.waits = []) ∧
    (¬ (∀ x ∈ s.heap.head?, x.tp > tp) → (stepSchedule H s tp id).1.waits = s.waits) := by
  unfold stepSchedule
  cases hh : s.heap with
  | nil => simp
  | cons x xs =>
    by_cases hgt : x.tp > tp <;> simp [hgt]

/-! ## the worker resolves with `_mx` released (fix db0b685) -/

/-- What the repair buys.  The worker's loop body (`workerIter`: `lk.lock()`, stop check, `get_expired_lk(now)`,
`lk.unlock()`, `x()`, `lk.lock()`, loop condition, `lk.unlock()`) always runs to its end on the worker's own thread, in
every state, at every clock reading, and whatever public calls `cb` — any number of `schedule()` / `sleep_until()` /
`cancel()` / `remove()` / `get_expired()` — the awaiter of the resolved promise makes from inside `x()` (a `make_promise`
callback re-arming its timer, a timeout handler cancelling another sleeper): the worker holds no lock while the promise
is resolved, so it cannot block on itself.  It ends with `_mx` released and its effect is exactly the operation list
`poll w now :: cb` (`afterIter`), to which every theorem of this file applies (`c12_worker_callback_reachable`). -/
theorem c12_worker_resolves_unlocked (H : Heap) (s : State) (w now : Nat) (cb : List Op) :
    ∃ m, runProg H (workerIter w now cb) { s := s } = some m ∧ m.owner = false ∧ m.got = none ∧
      m.s = afterIter H s w now cb := by
  unfold workerIter afterIter
  cases hr : step H s (Op.poll w now) with
  | mk s1 r =>
    cases r <;> simp [runProg, hr]

/-- … in particular `_mx` is free at the moment `x()` is entered: the prefix of the loop body up to the resolution ends
with the lock released, whatever `get_expired_lk` returned. -/
theorem c12_worker_unlocked_at_resolution (H : Heap) (s : State) (w now : Nat) :
    ∃ m, runProg H ((workerIter w now []).take 3) { s := s } = some m ∧ m.owner = false ∧
      m.s = (step H s (Op.poll w now)).1 := by
  cases hr : step H s (Op.poll w now) with
  | mk s1 r =>
    cases r <;> simp [workerIter, runProg, hr]

/-- The state after an iteration whose callback called the scheduler again is reachable, hence satisfies the invariant:
never early, deadline order, exactly once, no worker parked past a pending time point — also for the sleeps the
callback scheduled or cancelled. -/
theorem c12_worker_callback_reachable {H : Heap} {s : State} (h : Reachable H s) (w now : Nat) (cb : List Op) :
    Reachable H (afterIter H s w now cb) := by
  have h1 : Reachable H (step H s (Op.poll w now)).1 := h.run [Op.poll w now]
  unfold afterIter
  split <;> rename_i hr <;> rw [hr] at h1
  · exact h1.run cb
  · exact h1

/-- The loop body as it was (`x()` called with `_mx` held, /repo before db0b685) never returns as soon as a sleep is due
whose awaiter calls the scheduler again — in every state, for every such call: the worker blocks on the mutex it
owns.  (Replayed on the header: corpus/c12mt_callback_reenter.txt — the harness' mutex reports the relock by its owner.) -/
theorem c12_asis_worker_callback_deadlock (H : Heap) (s : State) (w now : Nat) (e : Entry) (op : Op) (cb : List Op)
    (hdue : (step H s (Op.poll w now)).2 = Res.expired e) :
    runProg H (workerIterAsIs w now (op :: cb)) { s := s } = none := by
  unfold workerIterAsIs
  cases hr : step H s (Op.poll w now) with
  | mk s1 r =>
    rw [hr] at hdue
    simp at hdue
    subst hdue
    simp [runProg, hr]

/-- the state of the witnesses below: a timer until 5 (identifier 1) and a sleeper until 8 (identifier 2) -/
def cbDemo : State := run stdHeap init [Op.schedule 5 1, Op.schedule 8 2]

/-- Concrete witness: at clock 5 the timer is due.  As it was, the worker hangs both when the timer's callback re-arms it
(`sleep_until(10, 1)`) and when it cancels the other sleeper (`cancel(2)`); repaired, the first leaves `8, 10` pending
and the second completes sleeper 1 (serial) with `await_canceled_exception`, both with `_mx` released at the end. -/
theorem c12_asis_worker_callback_deadlock_witness :
    (step stdHeap cbDemo (Op.poll 0 5)).2 = Res.expired { serial := 0, tp := 5, id := 1, alive := true } ∧
    (runProg stdHeap (workerIterAsIs 0 5 [Op.schedule 10 1]) { s := cbDemo }).isNone = true ∧
    (runProg stdHeap (workerIterAsIs 0 5 [Op.cancel 2 0]) { s := cbDemo }).isNone = true ∧
    (runProg stdHeap (workerIter 0 5 [Op.schedule 10 1]) { s := cbDemo }).map
        (fun m => (m.owner, m.s.heap.map (fun e => (e.tp, e.id, e.alive)), m.s.log.map (fun d => (d.serial, d.fate))))
      = some (false, [(8, 2, true), (10, 1, true)], [(0, Fate.expired 5)]) ∧
    (runProg stdHeap (workerIter 0 5 [Op.cancel 2 0]) { s := cbDemo }).map
        (fun m => (m.owner, m.s.heap.map (fun e => (e.tp, e.id, e.alive)), m.s.log.map (fun d => (d.serial, d.fate))))
      = some (false, [], [(0, Fate.expired 5), (1, Fate.cancelled 0)]) :=
  ⟨by decide, by decide, by decide, by decide, by decide⟩

/-- Why the pinned code's own tests never saw it: with awaiters that are coroutines (they are only made ready by `x()`,
`cb = []`) the old loop body terminates with the same effect as the repaired one. -/
theorem c12_asis_worker_ok_without_callback (H : Heap) (s : State) (w now : Nat) :
    ∃ m, runProg H (workerIterAsIs w now []) { s := s } = some m ∧ m.owner = false ∧
      m.s = afterIter H s w now [] := by
  unfold workerIterAsIs afterIter
  cases hr : step H s (Op.poll w now) with
  | mk s1 r =>
    cases r <;> simp [runProg, hr, run]

/-- What the hang meant for everybody else: a worker that stays in its lock region (`locked`: it owns `_mx` and never
gets to `lk.unlock()` / `wait_until`) keeps the stop callback of `~scheduler()` in front of the mutex for ever — whatever
the stopping thread does, `request_stop()` never completes, so `~scheduler()` never returns (and every other public
call, which starts with the same `lock_guard`, blocks the same way). -/
theorem c12_asis_stuck_worker_blocks_destruction (acts : List Stop.Act) (h : ∀ a ∈ acts, a.isStopper = true) :
    (Stop.run Stop.step { w := Stop.WPc.locked } acts).w = Stop.WPc.locked ∧
    ((Stop.run Stop.step { w := Stop.WPc.locked } acts).sp = Stop.SPc.start ∨
     (Stop.run Stop.step { w := Stop.WPc.locked } acts).sp = Stop.SPc.flagged) := by
  refine Stop.run_induction (P := fun s => s.w = Stop.WPc.locked ∧ (s.sp = Stop.SPc.start ∨ s.sp = Stop.SPc.flagged))
    acts ?_ ⟨rfl, Or.inl rfl⟩
  -- of the stopper's steps only `sFlag` is enabled while the worker holds `_mx`: `sLock` waits for it
  rintro ⟨w, sp, flag⟩ ⟨rfl, hs⟩ a ha s' hf
  have h0 := h a ha
  cases a <;> simp [Stop.Act.isStopper] at h0 <;> rcases hs with rfl | rfl <;> simp [Stop.step] at hf <;> simp [← hf]

/-! ## cancel / remove -/

/-- what `remove`/`cancel` do to the set of pending sleeps when they hit entry `e` -/
def TookOne (s s' : State) (e : Entry) : Prop :=
  e ∈ s.heap ∧ e.alive = true ∧
  (∀ i, (aliveSerials s'.heap).count i + (if i = e.serial then 1 else 0) = (aliveSerials s.heap).count i) ∧
  (∀ y ∈ s.heap, y.alive = true → y ≠ e → y ∈ s'.heap) ∧
  s'.nextSerial = s.nextSerial ∧ s'.waits = s.waits ∧ s'.alive = s.alive

/-- what they do when they hit nothing -/
def TookNone (s s' : State) : Prop :=
  (∀ i, (aliveSerials s'.heap).count i = (aliveSerials s.heap).count i) ∧
  (∀ y ∈ s.heap, y.alive = true → y ∈ s'.heap) ∧ (∀ y ∈ s'.heap, y.alive = true → y ∈ s.heap) ∧
  s'.log = s.log ∧ s'.nextSerial = s.nextSerial ∧ s'.waits = s.waits ∧ s'.alive = s.alive

theorem tookOne_of_took {s : State} {h' : List Entry} {e : Entry} (tk : Took s.heap h' [e]) (l : List Done) :
    TookOne s { s with heap := h', log := l } e :=
  have ⟨hm, ha⟩ := tk.mem e List.mem_cons_self
  ⟨hm, ha, fun i => by simpa [List.count_singleton, eq_comm (a := i)] using tk.cnt i,
    fun y hy ha hne => (tk.sup y hy ha).resolve_right fun h => hne (List.mem_singleton.mp h), rfl, rfl, rfl⟩

theorem tookNone_of_took {s : State} {h' : List Entry} (tk : Took s.heap h' []) : TookNone s { s with heap := h' } :=
  ⟨fun i => by simpa using tk.cnt i, fun y hy ha => (tk.sup y hy ha).resolve_right nofun, tk.sub, rfl, rfl, rfl, rfl⟩

theorem c12_cancel_cases {H : Heap} (hH : HeapSpec H) {s : State} (hh : IsHeap s.heap) (id exc : Nat) :
    (∃ e, (stepCancel H s id exc).2 = Res.flag true ∧ e.id = id ∧ TookOne s (stepCancel H s id exc).1 e ∧
          (stepCancel H s id exc).1.log = s.log ++ [mkDone e (Fate.cancelled exc) s.nextSerial]) ∨
    ((stepCancel H s id exc).2 = Res.flag false ∧ TookNone s (stepCancel H s id exc).1 ∧
          ∀ y ∈ s.heap, y.alive = true → y.id ≠ id) := by
  obtain ⟨t1, t2, t3⟩ := removeLk_spec hH id hh
  unfold stepCancel
  generalize removeLk H s.heap id = g at t1 t2 t3 ⊢
  rcases g with ⟨h, _ | e⟩
  · exact Or.inr ⟨rfl, tookNone_of_took t1, t3 rfl⟩
  · exact Or.inl ⟨e, rfl, t2 e rfl, tookOne_of_took t1 _, rfl⟩

/-- `cancel(id, e)` reports true **iff** a pending sleep carries that identifier, and then exactly one such sleep — a
live entry with that identifier — completes, with the given exception (`exc = 0`: `await_canceled_exception`), and every
other pending sleep stays pending. -/
theorem c12_cancel_true {H : Heap} (hH : HeapSpec H) {s : State} (h : Reachable H s) (hal : s.alive = true)
    (id exc : Nat) :
    ((∃ y ∈ s.heap, y.alive = true ∧ y.id = id) ↔ (step H s (Op.cancel id exc)).2 = Res.flag true) ∧
    ((step H s (Op.cancel id exc)).2 = Res.flag true →
      ∃ e, e.id = id ∧ TookOne s (step H s (Op.cancel id exc)).1 e ∧
        (step H s (Op.cancel id exc)).1.log = s.log ++ [mkDone e (Fate.cancelled exc) s.nextSerial]) := by
  have hi := reachable_inv hH h
  unfold step
  simp only [hal, if_true]
  rcases c12_cancel_cases hH hi.heap_ok id exc with ⟨e, c1, c2, c3, c4⟩ | ⟨c1, c2, c3⟩
  · refine ⟨⟨fun _ => c1, fun _ => ⟨e, c3.1, c3.2.1, c2⟩⟩, fun _ => ⟨e, c2, c3, c4⟩⟩
  · refine ⟨⟨?_, ?_⟩, ?_⟩
    · rintro ⟨y, hy, ha, hid⟩; exact absurd hid (c3 y hy ha)
    · intro hc; rw [c1] at hc; cases hc
    · intro hc; rw [c1] at hc; cases hc

/-- `cancel(id)` with no pending sleep carrying that identifier — unknown id, repeated cancel, cancel after expiry —
reports false and changes nothing observable: same pending sleeps, same completions, same parked workers.  The step is
a total function whose loops are bounded by the vector's length: no crash, no hang. -/
theorem c12_cancel_false_noop {H : Heap} (hH : HeapSpec H) {s : State} (h : Reachable H s) (hal : s.alive = true)
    (id exc : Nat) (hno : ∀ y ∈ s.heap, y.alive = true → y.id ≠ id) :
    (step H s (Op.cancel id exc)).2 = Res.flag false ∧ TookNone s (step H s (Op.cancel id exc)).1 := by
  have hi := reachable_inv hH h
  unfold step
  simp only [hal, if_true]
  rcases c12_cancel_cases hH hi.heap_ok id exc with ⟨e, _, c2, c3, _⟩ | ⟨c1, c2, _⟩
  · exact absurd c2 (hno e c3.1 c3.2.1)
  · exact ⟨c1, c2⟩

/-- a second `cancel(id)` right after a successful one finds nothing unless another pending sleep carries the same
identifier: with distinct identifiers, repeated cancels report false -/
theorem c12_cancel_twice {H : Heap} (hH : HeapSpec H) {s : State} (h : Reachable H s) (hal : s.alive = true)
    (id exc exc' : Nat) (huniq : ∀ y ∈ s.heap, ∀ z ∈ s.heap, y.alive = true → z.alive = true → y.id = id → z.id = id → y = z) :
    (step H (step H s (Op.cancel id exc)).1 (Op.cancel id exc')).2 = Res.flag false := by
  have hi := reachable_inv hH h
  have h1 : Reachable H (step H s (Op.cancel id exc)).1 := h.run [Op.cancel id exc]
  have hstep : (step H s (Op.cancel id exc)).1 = (stepCancel H s id exc).1 := by simp [step, hal]
  refine (c12_cancel_false_noop hH h1 (by rw [hstep, stepCancel_fst]; exact hal) id exc' ?_).1
  rw [hstep]
  intro y hy ha hid
  rcases c12_cancel_cases hH hi.heap_ok id exc with ⟨e, _, c2, c3, _⟩ | ⟨_, c2, c3⟩
  · -- a live entry with that id after the cancel was live with that id before, hence is `e`; but `e` is gone
    have hy0 : y ∈ s.heap := (removeLk_spec hH id hi.heap_ok).1.sub y (by rwa [stepCancel_fst] at hy) ha
    obtain rfl : y = e := huniq y hy0 e c3.1 ha c3.2.1 hid c2
    have cnt := c3.2.2.1 y.serial
    have once0 := hi.once y.serial
    have pos1 : 0 < (aliveSerials (stepCancel H s id exc).1.heap).count y.serial :=
      List.count_pos_iff.mpr (List.mem_map.mpr ⟨y, List.mem_filter.mpr ⟨hy, ha⟩, rfl⟩)
    simp only [if_true] at cnt
    split at once0 <;> omega
  · exact c3 y (c2.2.2.1 y hy ha) ha hid

/-- `remove(id)` returns the promise of a live entry with that identifier iff there is one, and takes exactly that one
sleep out of the pending ones; otherwise it returns the empty promise and nothing changes. -/
theorem c12_remove {H : Heap} (hH : HeapSpec H) {s : State} (h : Reachable H s) (hal : s.alive = true) (id : Nat) :
    (∃ e, (step H s (Op.remove id)).2 = Res.removed (some e) ∧ e.id = id ∧ TookOne s (step H s (Op.remove id)).1 e ∧
          (step H s (Op.remove id)).1.log = s.log ++ [mkDone e Fate.removed s.nextSerial]) ∨
    ((step H s (Op.remove id)).2 = Res.removed none ∧ TookNone s (step H s (Op.remove id)).1 ∧
          ∀ y ∈ s.heap, y.alive = true → y.id ≠ id) := by
  obtain ⟨t1, t2, t3⟩ := removeLk_spec hH id (reachable_inv hH h).heap_ok
  rw [show step H s (Op.remove id) = stepRemove H s id by simp [step, hal]]
  unfold stepRemove
  generalize removeLk H s.heap id = g at t1 t2 t3 ⊢
  rcases g with ⟨h', _ | e⟩
  · exact Or.inr ⟨rfl, tookNone_of_took t1, t3 rfl⟩
  · exact Or.inl ⟨e, rfl, t2 e rfl, tookOne_of_took t1 _, rfl⟩

/-! ## cancellation through a stop token (`interval`) -/

/-- The repaired stop callback of `interval()` — `this->cancel(&tag)` run on the thread that calls `request_stop()`
while it does not hold `_mx` — terminates, releases the mutex and has exactly the effect of `cancel(&tag)`:
by `c12_cancel_true` the generator's pending sleep (the only one carrying `&tag`) completes with
`await_canceled_exception`, and when the generator is not sleeping nothing happens. -/
theorem c12_stop_token (H : Heap) (s : State) (tag : Nat) :
    ∃ m, runProg H (stopCallback tag) { s := s } = some m ∧ m.owner = false ∧ m.s = (stepCancel H s tag 0).1 ∧
      (stepCancel H s tag 0).2 = Res.flag (m.result = some true) := by
  unfold stopCallback cancelProg stepCancel
  cases hr : removeLk H s.heap tag with
  | mk h r =>
    cases r with
    | some e => simp [runProg, hr]
    | none => simp [runProg, hr]

/-- The callback as it was (`std::lock_guard _(_mx); this->cancel(&tag);`) never returns, in every state:
the thread blocks on the mutex it already owns (replayed on the header: corpus/c12_interval_stop.txt). -/
theorem c12_asis_stop_deadlock (H : Heap) (s : State) (tag : Nat) :
    runProg H (stopCallbackAsIs tag) { s := s } = none := by
  simp [stopCallbackAsIs, cancelProg, runProg]

/-! ## destruction -/

/-- The stop request of `~scheduler()` (and of `start()` when its awaitable completes) is never lost, for every
interleaving of the worker's and the stopper's steps and whatever the vector holds — including a request that arrives
while the worker is resolving a promise with `_mx` released (`resolving`, fix db0b685): once `request_stop()` has
returned, the worker is not parked in `wait_until` — it has exited, or it is at the loop top on its way to the stop
check, or it is resolving and on its way to the loop condition, and either test fails (the flag is set) — so
destruction never has to wait for a sleeper's deadline (or forever, on an empty vector). -/
theorem c12_stop_not_lost (acts : List Stop.Act) :
    ¬ Stop.Lost (Stop.run Stop.step {} acts) ∧
    ((Stop.run Stop.step {} acts).sp = Stop.SPc.done →
      ((Stop.run Stop.step {} acts).w = Stop.WPc.exited ∨
       Stop.step (Stop.run Stop.step {} acts) Stop.Act.wLock =
         some { Stop.run Stop.step {} acts with w := Stop.WPc.exited } ∨
       Stop.step (Stop.run Stop.step {} acts) Stop.Act.wRelock =
         some { Stop.run Stop.step {} acts with w := Stop.WPc.exited })) := by
  have hi : Stop.Inv (Stop.run Stop.step {} acts) :=
    Stop.inv_run acts {} Stop.inv_init
  constructor
  · rintro ⟨h1, h2⟩
    rcases hi.after (Or.inr h1) with h | h | h <;> rw [h2] at h <;> cases h
  · intro hd
    have hf := hi.flagged (by rw [hd]; simp)
    rcases hi.after (Or.inr hd) with h | h | h
    · right; left; simp [Stop.step, Stop.workerStep, h, hd, hf]
    · left; exact h
    · right; right; simp [Stop.step, Stop.workerStep, h, hd, hf]

/-- … and nothing else is open to it: after the stop request has completed, every step of the machine that is enabled
at all ends the worker (no further iteration, no further wait). -/
theorem c12_stop_then_worker_exits (acts : List Stop.Act) (a : Stop.Act) (s' : Stop.St)
    (hd : (Stop.run Stop.step {} acts).sp = Stop.SPc.done)
    (hs : Stop.step (Stop.run Stop.step {} acts) a = some s') : s'.w = Stop.WPc.exited := by
  have hi : Stop.Inv (Stop.run Stop.step {} acts) :=
    Stop.inv_run acts {} Stop.inv_init
  have hf := hi.flagged (by rw [hd]; simp)
  generalize Stop.run Stop.step {} acts = s at *
  obtain ⟨w, sp, flag⟩ := s
  simp only at hd hf
  subst hd hf
  have ha := hi.after (Or.inr rfl)
  simp only at ha
  cases a <;> rcases ha with h | h | h <;> subst h <;> simp [Stop.step, Stop.workerStep] at hs <;> (subst hs; rfl)

/-- a stop request that arrives while the worker resolves a promise without the mutex: the loop condition after the
re-lock sees it -/
theorem c12_stop_while_resolving :
    Stop.run Stop.step {} [Stop.Act.wLock, Stop.Act.wPollResolve, Stop.Act.sFlag, Stop.Act.sLock,
      Stop.Act.sNotify, Stop.Act.sUnlock, Stop.Act.wRelock] = { w := Stop.WPc.exited, sp := Stop.SPc.done, flag := true } := by
  decide

/-- The callback as it was (`_cond.notify_all()` without `_mx`) loses the request when it arrives between the worker's
stop check and its `wait_until`: the worker parks although the stop request is complete, and nothing but the deadline
of its own wait can move it (replayed on the header: corpus/c12stop_race.txt — `~scheduler()` returned only when the
virtual clock reached the next sleeper's time point). -/
theorem c12_asis_stop_lost :
    let s := Stop.run Stop.stepAsIs {} [Stop.Act.wLock, Stop.Act.sFlag, Stop.Act.sNotify, Stop.Act.wPollWait]
    Stop.Lost s ∧ ∀ a, a ≠ Stop.Act.wTimeout → Stop.stepAsIs s a = none := by
  refine ⟨⟨by decide, by decide⟩, ?_⟩
  intro a ha
  cases a <;> first | rfl | exact absurd rfl ha

/-- … and with an iteration split by an unlock/lock pair even the repaired stop callback loses the request: the
callback takes `_mx` in the gap, finds nobody waiting, and the worker then parks for good. -/
theorem c12_asis_gap_stop_lost :
    Stop.Lost (Stop.run Stop.stepGap {} [Stop.Act.wLock, Stop.Act.wPollRelease, Stop.Act.sFlag, Stop.Act.sLock,
      Stop.Act.sNotify, Stop.Act.sUnlock, Stop.Act.wRelockWait]) := ⟨by decide, by decide⟩

/-- Destroying the scheduler completes every sleep that is still pending (the promise is dropped: the sleeper sees
`await_canceled_exception`) and only those. -/
theorem c12_destroy_step (s : State) :
    (stepDestroy s).1.log = s.log ++ (s.heap.filter (·.alive)).map (fun e => mkDone e Fate.dropped s.nextSerial) ∧
    (stepDestroy s).1.heap = [] :=
  ⟨rfl, rfl⟩

/-- After destruction nothing is left hanging: every sleep ever scheduled has completed exactly once. -/
theorem c12_destroy_cancels {H : Heap} (hH : HeapSpec H) {s : State} (h : Reachable H s) (hd : s.alive = false)
    (i : Nat) (hi : i < s.nextSerial) : (s.log.map (·.serial)).count i = 1 := by
  have inv := reachable_inv hH h
  have := inv.once i
  rw [inv.gone hd] at this
  simpa [hi] using this

/-! ## the pinned (unrepaired) code violated the property -/

def sleepOps : List Op := [Op.schedule 20 1, Op.schedule 10 2, Op.cancel 1 0, Op.getExpired 15]

/-- `sleep(a, 20); sleep(b, 10); cancel(a); get_expired(15); cancel(a)`: the second cancel reads `_scheduled[0]` of an
empty vector (heap-buffer-overflow on the header, corpus/c12_remove_overflow.txt). -/
theorem c12_asis_overflow :
    (stepAsIs stdHeap (runAsIs stdHeap init sleepOps) (Op.cancel 1 0)).2 = Res.crash := by decide

/-- `sleep(top); sleep(a); cancel(a); sleep(a); cancel(a)`: the second cancel finds the emptied entry of the first,
reports false and leaves the second sleep (serial 2, identifier 1) pending (corpus/c12_cancel_reused_id.txt). -/
theorem c12_asis_missed_cancel :
    let s := runAsIs stdHeap init [Op.schedule 5 9, Op.schedule 10 1, Op.cancel 1 0, Op.schedule 12 1]
    (stepAsIs stdHeap s (Op.cancel 1 0)).2 = Res.flag false ∧
    (s.heap.filter (fun e => e.alive && e.id == 1)).map (·.serial) = [2] := by decide

/-- the repaired step on the same inputs -/
theorem c12_fixed_witnesses :
    (step stdHeap (run stdHeap init sleepOps) (Op.cancel 1 0)).2 = Res.flag false ∧
    (step stdHeap (run stdHeap init [Op.schedule 5 9, Op.schedule 10 1, Op.cancel 1 0, Op.schedule 12 1])
      (Op.cancel 1 0)).2 = Res.flag true := by decide

/-! ## non-vacuity -/

/-- a reachable state with equal deadlines, a cancelled entry left in place, an expired sleep and a parked worker -/
def demoOps : List Op :=
  [Op.schedule 5 1, Op.schedule 5 2, Op.schedule 3 3, Op.schedule 7 1, Op.schedule 9 4, Op.cancel 4 0,
   Op.getExpired 4, Op.poll 0 4]

example : Reachable stdHeap (run stdHeap init demoOps) := ⟨_, rfl⟩
example : (run stdHeap init demoOps).heap.map (fun e => (e.tp, e.id, e.alive))
      = [(5, 1, true), (5, 2, true), (9, 4, false), (7, 1, true)]
    ∧ (run stdHeap init demoOps).log.map (fun d => (d.serial, d.fate)) = [(4, Fate.cancelled 0), (2, Fate.expired 4)]
    ∧ (run stdHeap init demoOps).waits = [(0, some 5)] := by decide
example : (step stdHeap (run stdHeap init demoOps) (Op.cancel 1 7)).2 = Res.flag true := by decide
example : (step stdHeap (run stdHeap init demoOps) (Op.cancel 4 0)).2 = Res.flag false := by decide

end Cocls.Sched
