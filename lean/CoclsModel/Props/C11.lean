import CoclsModel.ThreadPoolProofs
/-!
# C11 — thread pool: every submission runs once on a worker or is cancelled once

Model: `CoclsModel/ThreadPool.lean`.  Every theorem quantifies over *all* configurations (any number of workers ≥ 1 and
of clients, arbitrary client scripts: submissions of every kind whose bodies may stop the pool, submit nested work or
delete the pool, or block until another job has signalled an event (a job waiting for another job); `stop()`;
destruction; the `thread_pool::current` API — `is_stopped()`, `any_enqueued()`, `co_await current()` re-submitting the rest
of a body — from workers, ex-workers and threads that are no workers; optionally a second pool instance B that jobs and
clients stop or destroy), over *all* schedules (`run` over an arbitrary list of thread choices, threads that are not
enabled do not move) and over *all* choices of the waiter a `notify_one` wakes and of the order in which `stop()` destroys
the closures of the swapped-out queue (`std::deque` leaves it unspecified).

The pinned code violated the property in three ways that were repaired (`run(async)` dropped silently: `Cfg.raOwns`;
executed closure destroyed under the pool mutex: `Cfg.dtorOutside`; `co_await current()` on a thread that is no worker
bound a reference to null: `Cfg.curNullOk`) — witnesses on the as-is variants below — and in one way that has no repair
inside the API: a submission that carries a bare coroutine handle (`resume(suspend_point)`, `pool(awaitable)`) has no
cancellation channel (`c11_handle_lost`), which is why the outcome theorem is `c11_outcome_partial`, with
`c11_outcome_bare` as its complement.
-/
namespace Cocls.Pool

def Reachable (c : Cfg) (s : State) : Prop := ∃ sched, s = run c (init c) sched

/-- quiescence: no thread of the configuration can move -/
def Stuck (c : Cfg) (s : State) : Prop := ∀ t, t < c.nt → enabled s t = false

/-- every thread ran to its end (the worker of the other pool instance B may still sleep in its idle wait) -/
def AllDone (c : Cfg) (s : State) : Prop := ∀ t, t < c.nt → s.pc t = Pc.done ∨ s.pc t = Pc.bCvBlocked

/-- no thread is blocked in a user-level wait (`Prim.wait`: a job or client waiting for an event that only another job
signals); such waits are the program's, not the pool's: a job that waits for a job which can never run (one worker, or
the pool was stopped) blocks for ever whatever the pool does -/
def NoUserWait (s : State) : Prop := ∀ t f, s.pc t ≠ Pc.waitFlag f

/-- the closure kind has a cancellation channel (everything but a bare coroutine handle) -/
def Cancellable (c : Cfg) (k : Kind) : Prop := dropKind c k ≠ DropAct.nothing

theorem reachable_inv {c : Cfg} (hc : WF c) {s : State} (h : Reachable c s) : Inv c s := by
  obtain ⟨sched, rfl⟩ := h
  exact inv_run sched (inv_init hc)

theorem cancelled_le_dropped {c : Cfg} {s : State} (h : Inv c s) (j : Nat) :
    s.cancelled j + s.lost j ≤ s.dropped j := by
  have hb := (h.jb j).b_kind
  split at hb
  · omega
  · omega
  · have := hb.1; split at this <;> omega
  · omega

/-- **Never twice.** In every reachable state a submission was executed at most once, and executed or
cancelled/lost at most once in total; its closure was invoked or destroyed at most once. -/
theorem c11_never_twice {c : Cfg} (hc : WF c) {s : State} (h : Reachable c s) (j : Nat) :
    s.ran j + s.dropped j ≤ 1 ∧ s.ran j + s.cancelled j + s.lost j ≤ 1 := by
  have hi := reachable_inv hc h
  have h1 := (hi.jb j).c_once
  have h2 := cancelled_le_dropped hi j
  split at h1 <;> omega

/-- **On a worker.** A submission that was executed ran on one of the pool's worker threads. -/
theorem c11_ran_on_worker {c : Cfg} (hc : WF c) {s : State} (h : Reachable c s) (j : Nat) (hr : 0 < s.ran j) :
    ∃ w, w < c.nw ∧ s.ranOn j = some w :=
  ((reachable_inv hc h).jb j).r_on hr

/-- Nothing is cancelled (or lost) unless `stop()` / the destructor has been entered. -/
theorem c11_cancel_only_when_stopped {c : Cfg} (hc : WF c) {s : State} (h : Reachable c s) (j : Nat)
    (hcl : 0 < s.cancelled j + s.lost j) : s.exit = true := by
  have hi := reachable_inv hc h
  exact (hi.jb j).x_drop_exit (by have := cancelled_le_dropped hi j; omega)

/-- **Cancellation is observable** (every reachable state): destroying the closure of a submission that never ran
resumes the awaiting coroutine with the cancel exception — at once, or through the ready queue of the thread that is
inside a coroutine (`deferOn`) —, destroys the user's closure state, or leaves the returned future ready *without a
value* (broken promise), and a watcher of that future has seen exactly this. -/
theorem c11_cancel_observable {c : Cfg} (hc : WF c) {s : State} (h : Reachable c s) (j : Nat) :
    (dropKind c (s.kind j) = DropAct.resume →
        s.cancelled j + (if s.deferOn j = none then 0 else 1) = s.dropped j ∧
        ∀ t, s.deferOn j = some t → j ∈ s.defer t ∧ (s.pc t).bodyPhase = true) ∧
    (dropKind c (s.kind j) = DropAct.guard → s.cancelled j = s.dropped j) ∧
    (dropKind c (s.kind j) = DropAct.breakPromise →
        (s.dropped j = if s.fut j = Fut.broken then 1 else 0) ∧ (s.armed j = true → s.cancelled j = s.dropped j)) := by
  have hi := reachable_inv hc h
  have hj := hi.jb j
  have hb := hj.b_kind
  refine ⟨fun hk => ⟨?_, fun t ht => ?_⟩, fun hk => ?_, fun hk => ⟨hj.f_broken hk, fun ha => ?_⟩⟩ <;> rw [hk] at hb
  · exact hb.1
  · have hm := (hi.b_defer t j).2 ht
    exact ⟨hm, ((hi.th t).b_defpc (List.ne_nil_of_mem hm)).2⟩
  · exact hb.1
  · rw [hb.1, if_pos ha]

/-- **`stop()` joins all workers.** After the critical section of the first `stop()` every worker is finished, or has
detached itself (it called `stop()` from a job), or is still in the list of the one `stop()` that is walking the swapped
out thread list; there is exactly one such walker and it never waits for itself.  So when that `stop()` has finished its
walk, all other workers have been joined. -/
theorem c11_join_all {c : Cfg} (hc : WF c) {s : State} (h : Reachable c s) (hex : s.exit = true) :
    s.threads = [] ∧ s.q = [] ∧
    (∀ w, w < c.nw → s.pc w = Pc.done ∨ s.detached w = true ∨ ∃ t, w ∈ s.tmp t) ∧
    (∀ t u, s.tmp t ≠ [] → s.tmp u ≠ [] → t = u) := by
  have hi := reachable_inv hc h
  exact ⟨hi.j_thr0 hex, hi.x_exit_q hex, fun w hw => ((hi.th w).j_all hex hw).imp_left Pc.isDone_iff.1, hi.s_tmp_uniq⟩

/-- **Self-stop is safe.** A worker that detached itself inside `stop()` (`_current = nullptr`) never executes code of
the worker loop again: it only finishes the job it is running and returns, so it never touches the pool, which may
already have been destroyed. -/
theorem c11_self_stop_safe {c : Cfg} (hc : WF c) {s : State} (h : Reachable c s) :
    s.touchedAfterDetach = false ∧ ∀ t, s.detached t = true → s.cur t = false ∧ (s.pc t).isLoop = false := by
  have hi := reachable_inv hc h
  exact ⟨hi.z_touch, fun t => (hi.th t).z_det⟩

/-- **A pool keeps its workers until it is stopped itself.** `_current` is one thread-local shared by all pool instances;
whatever the jobs of pool A do — including `stop()` or destruction of *another* pool instance B from a worker of A —, as
long as A has not been stopped none of its workers has returned from `worker()` or lost its mark. -/
theorem c11_workers_stay {c : Cfg} (hc : WF c) {s : State} (h : Reachable c s) (hex : s.exit = false) (w : Nat)
    (hw : w < c.nw) : s.pc w ≠ Pc.done ∧ s.cur w = true ∧ s.detached w = false := by
  have hi := reachable_inv hc h
  have hn := (hi.th w).n_noexit hex
  refine ⟨fun e => (by have := hn.1 hw; rw [e] at this; cases this), ?_, hn.2⟩
  cases hcur : s.cur w with
  | true => rfl
  | false => have := (hi.th w).z_cur hw hcur; rw [hn.2] at this; cases this

/-- **`co_await pool(awaitable)` publishes the coroutine before it can be woken.** In every reachable state an awaiter that
is registered on the awaited operation already carries the coroutine handle (`set_handle` precedes the registration in
`enqueue_awaiter::await_suspend`): a resolution arriving at *any* later point — from any thread, at the very next
scheduling point — hands the coroutine to the pool as a unit of work; it can never meet the default resume function and
drop the coroutine. -/
theorem c11_aw_handle_published {c : Cfg} (hc : WF c) {s : State} (h : Reachable c s) (n : Nat)
    (hr : s.slotReg n = true) : s.slotHandle n = true :=
  (reachable_inv hc h).a_handle n hr

/-- **The destructor leaves no worker behind.** When the destructor has completed and no other `stop()` is still
walking a thread list (destroying the pool while another thread is inside `stop()` is a caller error), every worker is
finished or is a self-detached worker that no longer touches the pool. -/
theorem c11_destructor_safe {c : Cfg} (hc : WF c) {s : State} (h : Reachable c s) (hd : s.destroyed = true)
    (hno : ∀ u, s.tmp u = []) (w : Nat) (hw : w < c.nw) :
    s.pc w = Pc.done ∨ (s.detached w = true ∧ s.cur w = false ∧ (s.pc w).isLoop = false) := by
  have hi := reachable_inv hc h
  rcases (hi.th w).j_all (hi.d_exit hd) hw with h1 | h1 | ⟨t, ht⟩
  · exact Or.inl (Pc.isDone_iff.1 h1)
  · exact Or.inr ⟨h1, (hi.th w).z_det h1⟩
  · rw [hno t] at ht; cases ht

/-! ## Stuck states

What follows holds of every stuck state that satisfies the invariant, reachable or not. -/
section stuck
variable {c : Cfg} {s : State} (hi : Inv c s) (hst : Stuck c s)
include hi hst

/-- in a stuck state nobody is blocked on the pool mutex: its holder (a worker at the head of its loop) could move; so
every thread is disabled for a reason of its own program counter -/
theorem stuck_enabledPc (t : Nat) (ht : t < c.nt) : enabledPc s t = false := by
  have hen := hst t ht
  unfold enabled at hen
  split at hen
  · exfalso
    cases hm : s.mx with
    | none => rw [hm] at hen; simp at hen
    | some u =>
      have hu := Pc.hasMx_iff.1 ((hi.th u).m_own.1 hm)
      have hut : u < c.nt := Nat.lt_of_not_le fun e => by
        have hd := (hi.th u).t_out e
        rcases hu with h1 | h1 <;> rw [h1] at hd <;> cases hd
      have henu := hst u hut
      unfold enabled enabledPc at henu
      rcases hu with h1 | h1 <;> simp [h1, Pc.wantsLock] at henu
  · exact hen

/-- why a thread of a stuck state cannot move: it is finished, asleep in a condition wait without a notification, blocked
in a wait of the program, or the one `stop()` of pool A that joins an unfinished worker (nobody is blocked on a mutex or
in `B.stop()`) -/
theorem stuck_reason (t : Nat) (ht : t < c.nt) :
    s.pc t = Pc.done ∨ (s.pc t = Pc.wCvBlocked ∧ s.woken t = false) ∨ (s.pc t = Pc.bCvBlocked ∧ s.bWoken = false) ∨
    (∃ f, s.pc t = Pc.waitFlag f ∧ s.flag f = false) ∨
    (s.pc t = Pc.joinBlocked ∧ ∃ u rest, s.tmp t = u :: rest ∧ s.pc u ≠ Pc.done) := by
  have hen := stuck_enabledPc hi hst t ht
  unfold enabledPc at hen
  split at hen
  · rename_i hpc; exact Or.inl hpc
  · rename_i hpc; exact (hi.thAt hpc).here.elim
  · rename_i hpc; exact Or.inr (Or.inl ⟨hpc, hen⟩)
  · rename_i hpc; exact Or.inr (Or.inr (Or.inl ⟨hpc, hen⟩))
  · -- blocked joining B's worker: impossible, that worker has been notified and can move
    rename_i hpc
    exfalso
    obtain ⟨hbx, hbt⟩ : s.bExit = true ∧ s.btmp t = true := (hi.thAt hpc).here
    have hb := (hi.th t).bb_tmp hbt
    have hbw := hi.bb_bw
    have hwk := hi.bb_exit hbx
    have hnt := hi.wf.b hb
    rw [hbw] at hen
    have henw := stuck_enabledPc hi hst c.nw hnt
    unfold enabledPc at henw
    rcases (hi.th c.nw).bb_w hb rfl with hw | hw
    · cases hp : s.pc c.nw <;> rw [hp] at hw henw <;> simp [Pc.isB] at hw <;> simp [hwk] at henw
    · rw [Pc.isDone_iff.1 hw] at hen; simp at hen
  · rename_i f hpc; exact Or.inr (Or.inr (Or.inr (Or.inl ⟨f, hpc, hen⟩)))
  · rename_i hpc
    split at hen
    · rename_i u rest htm
      refine Or.inr (Or.inr (Or.inr (Or.inr ⟨hpc, u, rest, htm, ?_⟩)))
      intro hd; rw [hd] at hen; simp at hen
    · cases hen
  · cases hen

/-- **Nothing but the program's own waits can block a stopped pool.** In any stuck state after a `stop()` of pool A every
thread is finished (or is the idle worker of the other pool), or blocked in a user-level wait for an event nobody
signalled, or is the one `stop()` joining a worker whose job is blocked in such a wait. -/
theorem c11_stop_blocked_only_by_user_waits (hex : s.exit = true) (t : Nat) (ht : t < c.nt) :
    s.pc t = Pc.done ∨ s.pc t = Pc.bCvBlocked ∨ (∃ f, s.pc t = Pc.waitFlag f ∧ s.flag f = false) ∨
    (s.pc t = Pc.joinBlocked ∧ ∃ u rest f, s.tmp t = u :: rest ∧ s.pc u = Pc.waitFlag f ∧ s.flag f = false) := by
  have hwq : s.waitq = [] := hi.s_exit_wq hex
  have nocv : ∀ u, ¬ (s.pc u = Pc.wCvBlocked ∧ s.woken u = false) := by
    intro u ⟨hp, hw⟩
    rcases (hi.th u).s_cv (by rw [hp]; rfl) with h1 | h1
    · rw [hw] at h1; cases h1
    · rw [hwq] at h1; cases h1
  rcases stuck_reason hi hst t ht with h1 | h1 | h1 | h1 | ⟨hjb, u, rest, htm, hud⟩
  · exact Or.inl h1
  · exact absurd h1 (nocv t)
  · exact Or.inr (Or.inl h1.1)
  · exact Or.inr (Or.inr (Or.inl h1))
  · have hu_w : u < c.nw := (hi.th t).s_tmp_w u (by rw [htm]; simp)
    have hu_t : u < c.nt := Nat.lt_of_lt_of_le hu_w hi.wf.nt
    rcases stuck_reason hi hst u hu_t with h2 | h2 | h2 | ⟨f, hf, hff⟩ | ⟨hjb', u', rest', htm', _⟩
    · exact absurd h2 hud
    · exact absurd h2 (nocv u)
    · exfalso
      have := ((hi.th u).bb_pc (by rw [h2.1]; rfl)).2
      omega
    · exact Or.inr (Or.inr (Or.inr ⟨hjb, u, rest, f, htm, hf, hff⟩))
    · exfalso
      have htu : t = u := hi.s_tmp_uniq t u (by rw [htm]; simp) (by rw [htm']; simp)
      exact (hi.thAt hjb).here.2 (by rw [htm, htu]; rfl)

theorem stuck_no_stranded_job (hex : s.exit = false) (hq : s.q ≠ []) (w : Nat) :
    s.pc w ≠ Pc.wCvBlocked ∧ s.pc w ≠ Pc.wCvCheck := by
  have hdis : ∀ u, (s.pc u).isWorker = true → enabledPc s u = false := fun u e =>
    stuck_enabledPc hi hst u (Nat.lt_of_lt_of_le ((hi.th u).t_worker e) hi.wf.nt)
  have hcheck : s.pc w ≠ Pc.wCvCheck := fun hpc => by
    have := hdis w (by rw [hpc]; rfl); unfold enabledPc at this; rw [hpc] at this; cases this
  refine ⟨fun hpc => ?_, hcheck⟩
  have hwk : s.woken w = false := by
    have := hdis w (by rw [hpc]; rfl); unfold enabledPc at this; rwa [hpc] at this
  have hwq : w ∈ s.waitq := ((hi.th w).s_cv (by rw [hpc]; rfl)).resolve_left (by rw [hwk]; nofun)
  have hlen := hi.a_len hex (List.ne_nil_of_mem hwq)
  -- the queue is not empty, so some worker is awake: it could move
  cases ha : s.awake with
  | nil => rw [ha] at hlen; exact hq (List.eq_nil_of_length_eq_zero (Nat.le_zero.1 hlen))
  | cons u l =>
    rcases ((hi.th u).a_mem hex).1 (by rw [ha]; exact List.mem_cons_self) with h1 | h1
    · have hin := (hi.th u).s_woken h1
      have henu := hdis u (Pc.isWorker_of_inCv hin)
      unfold enabledPc at henu
      rcases Pc.inCv_iff.1 hin with h2 | h2
      · rw [h2] at henu; cases henu
      · rw [h2, h1] at henu; cases henu
    · rcases Pc.atHead_iff.1 h1 with h2 | h2 <;>
        (have henu := hdis u (by rw [h2]; rfl); unfold enabledPc at henu; rw [h2] at henu; cases henu)

variable (hnu : NoUserWait s)
include hnu

/-- at quiescence, when no thread is blocked in a wait of the program, every thread is finished or is an idle worker
asleep in its condition wait (of pool A, or the worker of pool B) -/
theorem c11_quiescent_threads (t : Nat) : s.pc t = Pc.done ∨ s.pc t = Pc.wCvBlocked ∨ s.pc t = Pc.bCvBlocked := by
  by_cases ht : t < c.nt
  · rcases stuck_reason hi hst t ht with h1 | h1 | h1 | ⟨f, hf, _⟩ | ⟨hjb, _⟩
    · exact Or.inl h1
    · exact Or.inr (Or.inl h1.1)
    · exact Or.inr (Or.inr h1.1)
    · exact absurd hf (hnu t f)
    · exfalso
      cases hex : s.exit with
      | false => have := (hi.thAt hjb).here.1; rw [hex] at this; cases this
      | true =>
        rcases c11_stop_blocked_only_by_user_waits hi hst hex t ht with h2 | h2 | ⟨f, h2, _⟩ | ⟨_, u, _, f, _, hf, _⟩
        · rw [hjb] at h2; cases h2
        · rw [hjb] at h2; cases h2
        · rw [hjb] at h2; cases h2
        · exact hnu u f hf
  · exact Or.inl (Pc.isDone_iff.1 ((hi.th t).t_out (by omega)))

theorem quiescent_loc_done (hq : s.q = []) (j : Nat) (hj : j < s.nextJob) : s.loc j = Loc.done := by
  have hpcs := c11_quiescent_threads hi hst hnu
  cases hl : s.loc j with
  | fresh => have := (hi.jb j).l_fresh.1 hl; omega
  | queued => have := (hi.l_q j).2 hl; rw [hq] at this; cases this
  | held t => have := ((hi.th t).l_held j).2 hl; rcases hpcs t with h1 | h1 | h1 <;> rw [h1] at this <;> cases this
  | rejected t => have := ((hi.th t).l_rej j).2 hl; rcases hpcs t with h1 | h1 | h1 <;> rw [h1] at this <;> cases this
  | swapped t =>
    have := (hi.th t).l_dqpc (List.ne_nil_of_mem ((hi.l_swap t j).2 hl))
    rcases hpcs t with h1 | h1 | h1 <;> rw [h1] at this <;> cases this
  | done => rfl

/-- no cancelled coroutine is still waiting in a ready queue, every returned future is watched and none is left pending -/
theorem quiescent_observed (j : Nat) (hj : j < s.nextJob) :
    s.deferOn j = none ∧ (hasFut (s.kind j) = true → s.armed j = true ∧ (0 < s.ran j → s.fut j ≠ Fut.pending)) := by
  have hpcs := c11_quiescent_threads hi hst hnu
  refine ⟨?_, fun hf => ⟨?_, fun hr hp => ?_⟩⟩
  · cases hd : s.deferOn j with
    | none => rfl
    | some t =>
      have := ((hi.th t).b_defpc (List.ne_nil_of_mem ((hi.b_defer t j).2 hd))).2
      rcases hpcs t with h1 | h1 | h1 <;> rw [h1] at this <;> cases this
  · cases ha : s.armed j with
    | true => rfl
    | false =>
      have := (hi.th (s.owner j)).f_arm j rfl hf hj ha
      rcases hpcs (s.owner j) with h1 | h1 | h1 <;> rw [h1] at this <;> cases this
  · obtain ⟨t, ht⟩ := hi.f_pending j hf hr hp
    have hb := ((hi.th t).r_body j ht hf hp).2
    rcases hpcs t with h1 | h1 | h1 <;> rw [h1] at hb <;> cases hb

/-- When a pool that nobody stopped becomes quiescent, all clients are finished, all workers sleep on the condition
variable, the queue is empty and **every submission has been executed** (no lost wake-up, nothing forgotten) — also
when one of its jobs stopped or destroyed the *other* pool instance B: the workers of A stay. -/
theorem c11_idle_quiescence (hex : s.exit = false) :
    (∀ t, t < c.nt → (c.nw ≤ t → s.pc t = Pc.done ∨ s.pc t = Pc.bCvBlocked) ∧ (t < c.nw → s.pc t = Pc.wCvBlocked)) ∧
    s.q = [] ∧ ∀ j, j < s.nextJob → s.ran j = 1 := by
  have hpcs := c11_quiescent_threads hi hst hnu
  have hthr : ∀ t, t < c.nt → (c.nw ≤ t → s.pc t = Pc.done ∨ s.pc t = Pc.bCvBlocked) ∧ (t < c.nw → s.pc t = Pc.wCvBlocked) := by
    intro t _
    rcases hpcs t with hd | hb | hb
    · exact ⟨fun _ => Or.inl hd, fun hw => by have := ((hi.th t).n_noexit hex).1 hw; rw [hd] at this; cases this⟩
    · refine ⟨fun hw => ?_, fun _ => hb⟩
      have := (hi.th t).t_worker (by rw [hb]; rfl)
      omega
    · refine ⟨fun _ => Or.inr hb, fun hw => ?_⟩
      have := ((hi.th t).bb_pc (by rw [hb]; rfl)).2
      omega
  have hq : s.q = [] := by
    cases hqq : s.q with
    | nil => rfl
    | cons a l =>
      exfalso
      exact (stuck_no_stranded_job hi hst hex (by rw [hqq]; simp) 0).1 ((hthr 0 (Nat.lt_of_lt_of_le hi.wf.nw hi.wf.nt)).2 hi.wf.nw)
  refine ⟨hthr, hq, fun j hj => ?_⟩
  have h1 := (hi.jb j).c_once
  rw [quiescent_loc_done hi hst hnu hq j hj, if_pos rfl] at h1
  have h2 : s.dropped j = 0 := Nat.eq_zero_of_not_pos fun e => by
    have := (hi.jb j).x_drop_exit e; rw [hex] at this; cases this
  omega

/-- at quiescence every closure has been invoked or destroyed -/
theorem c11_quiescent_closure_fate (j : Nat) (hj : j < s.nextJob) : s.ran j + s.dropped j = 1 := by
  have hq : s.q = [] := by
    cases hex : s.exit with
    | false => exact (c11_idle_quiescence hi hst hnu hex).2.1
    | true => exact hi.x_exit_q hex
  have h1 := (hi.jb j).c_once
  rwa [quiescent_loc_done hi hst hnu hq j hj, if_pos rfl] at h1

end stuck

/-- **`stop()` and the destructor terminate, for every timing.** Once any `stop()` (from a client, from a job — the
self-detach path —, concurrently from several threads, or through the destructor) has executed its critical section,
the system cannot get stuck before every thread has finished: the stopper is never blocked for ever in `join`, no
worker sleeps for ever on the condition variable — also when notifications and the entry of `_cond.wait` interleave
(`Pc.wCvEnter`: the mutex is held there, so no `notify` can fall into that window).  (`NoUserWait`: jobs blocked in
their own waits are the program's dead-lock; `c11_stop_blocked_only_by_user_waits` is the statement without that
hypothesis.  `AllDone` leaves out the worker of the other pool instance B, which sleeps as long as B is not stopped.) -/
theorem c11_stop_terminates {c : Cfg} (hc : WF c) {s : State} (h : Reachable c s) (hst : Stuck c s) (hnu : NoUserWait s)
    (hex : s.exit = true) : AllDone c s := by
  intro t ht
  rcases c11_stop_blocked_only_by_user_waits (reachable_inv hc h) hst hex t ht with h1 | h1 | ⟨f, hf, _⟩ | ⟨_, u, _, f, _, hf, _⟩
  · exact Or.inl h1
  · exact Or.inr h1
  · exact absurd hf (hnu t f)
  · exact absurd hf (hnu u f)

/-- **No stranded job.** In a stuck state of a pool that nobody stopped no submission is queued while a worker sleeps in
the condition wait — whatever the jobs do, including jobs that block waiting for other jobs: every worker is then busy
(blocked inside a job).  So a job that waits for a later-submitted job cannot hang while a worker idles. -/
theorem c11_no_stranded_job {c : Cfg} (hc : WF c) {s : State} (h : Reachable c s) (hst : Stuck c s)
    (hex : s.exit = false) (hq : s.q ≠ []) (w : Nat) : s.pc w ≠ Pc.wCvBlocked ∧ s.pc w ≠ Pc.wCvCheck :=
  stuck_no_stranded_job (reachable_inv hc h) hst hex hq w

/-- **Outcome (partial: bare-handle submissions excluded, see `c11_handle_lost`).** At quiescence — after `stop()`
has terminated, or with an idle pool that nobody stopped — every submission whose closure has a cancellation channel
(`co_await pool`, `run(fn)`, `run_detached(fn)`, `run(async)`) was executed exactly once or was cancelled *observably*
exactly once (the coroutine was resumed with the exception, the closure state was destroyed, the watched future was
seen broken); never both, never neither.  Without a stop it was executed. -/
theorem c11_outcome_partial {c : Cfg} (hc : WF c) {s : State} (h : Reachable c s) (hst : Stuck c s) (hnu : NoUserWait s) (j : Nat)
    (hj : j < s.nextJob) (hk : Cancellable c (s.kind j)) :
    s.ran j + s.cancelled j = 1 ∧ (s.exit = false → s.ran j = 1) := by
  have hi := reachable_inv hc h
  have hrd := c11_quiescent_closure_fate hi hst hnu j hj
  obtain ⟨hdo, harm⟩ := quiescent_observed hi hst hnu j hj
  refine ⟨?_, fun hex => (c11_idle_quiescence hi hst hnu hex).2.2 j hj⟩
  have hb := (hi.jb j).b_kind
  split at hb
  · rw [hdo, if_pos rfl] at hb; omega
  · omega
  · rename_i hkk; rw [(harm (dropKind_bp_hasFut hkk)).1, if_pos rfl] at hb; omega
  · rename_i hkk; exact absurd hkk hk

/-- the complement for bare-handle submissions: at quiescence they were executed once or silently lost once -/
theorem c11_outcome_bare {c : Cfg} (hc : WF c) {s : State} (h : Reachable c s) (hst : Stuck c s) (hnu : NoUserWait s) (j : Nat)
    (hj : j < s.nextJob) (hk : ¬ Cancellable c (s.kind j)) :
    s.ran j + s.lost j = 1 ∧ s.cancelled j = 0 ∧ (s.exit = false → s.ran j = 1) := by
  have hi := reachable_inv hc h
  have hrd := c11_quiescent_closure_fate hi hst hnu j hj
  have hkk : dropKind c (s.kind j) = DropAct.nothing := by
    unfold Cancellable at hk; exact Classical.not_not.1 hk
  have hb := (hi.jb j).b_kind
  rw [hkk] at hb
  exact ⟨by have := hb.2.1; omega, hb.1, fun hex => (c11_idle_quiescence hi hst hnu hex).2.2 j hj⟩

/-- **No waiter left hanging on a returned future.** At quiescence the future of every `run(fn)` / `run(async)`
submission is resolved: it holds the value iff the job was executed, it is broken iff the job was cancelled, and the
caller watching it has observed exactly that, once. -/
theorem c11_futures_resolved {c : Cfg} (hc : WF c) {s : State} (h : Reachable c s) (hst : Stuck c s) (hnu : NoUserWait s) (j : Nat)
    (hj : j < s.nextJob) (hk : dropKind c (s.kind j) = DropAct.breakPromise) :
    (s.ran j = 1 → s.fut j = Fut.value ∧ s.valued j = 1 ∧ s.cancelled j = 0) ∧
    (s.ran j = 0 → s.fut j = Fut.broken ∧ s.valued j = 0 ∧ s.cancelled j = 1) := by
  have hi := reachable_inv hc h
  have hhf := dropKind_bp_hasFut hk
  have hrd := c11_quiescent_closure_fate hi hst hnu j hj
  obtain ⟨ha, hnp⟩ := (quiescent_observed hi hst hnu j hj).2 hhf
  have hb := (hi.jb j).b_kind
  rw [hk, ha, if_pos rfl] at hb
  have hbr := (hi.jb j).f_broken hk
  have hval := (hi.jb j).f_valued hhf
  rw [ha] at hval
  cases hf : s.fut j with
  | none => exact absurd hf ((hi.jb j).f_some hhf hj)
  | pending =>
    rw [hf, if_neg nofun] at hbr
    exact absurd hf (hnp (by omega))
  | value =>
    rw [hf, if_neg nofun] at hbr
    rw [hf, if_pos ⟨rfl, rfl⟩] at hval
    exact ⟨fun _ => ⟨rfl, hval, by omega⟩, fun _ => by omega⟩
  | broken =>
    rw [hf, if_pos rfl] at hbr
    rw [hf, if_neg fun e => nomatch e.2] at hval
    exact ⟨fun _ => by omega, fun _ => ⟨rfl, hval, by omega⟩⟩

/-! ## From thread-level (baton) runs to schedules of small steps -/

theorem run_append (c : Cfg) (s : State) (a b : List (Nat × Nat)) : run c s (a ++ b) = run c (run c s a) b := by
  induction a generalizing s with
  | nil => rfl
  | cons x xs ih => exact ih (sstep c s x)

/-- the baton scheduler is what `harness/h_pool.cpp` replays against the real header -/
theorem threadStep_is_run (c : Cfg) (fuel : Nat) : ∀ (s : State) (t : Nat),
    ∃ n, (threadStep c fuel s t).1 = run c s (List.replicate n (t, 0)) := by
  induction fuel with
  | zero => intro s t; exact ⟨0, rfl⟩
  | succ f ih =>
    intro s t
    unfold threadStep
    split
    · rename_i hen
      have hs : sstep c s (t, 0) = (step c s t 0).1 := by simp [sstep, hen]
      split
      · rename_i s1 e1 heq
        obtain ⟨n, hn⟩ := ih s1 t
        refine ⟨n + 1, ?_⟩
        simp only [List.replicate_succ, run, hs, heq]
        exact hn
      · rename_i s1 e1 o _ heq
        refine ⟨1, ?_⟩
        simp only [List.replicate_succ, List.replicate_zero, run, hs, heq]
    · exact ⟨0, rfl⟩

theorem batonRun_is_run (c : Cfg) (fuel : Nat) (ts : List Nat) :
    ∀ s, ∃ sched, batonRun c fuel s ts = run c s sched := by
  induction ts with
  | nil => exact fun s => ⟨[], rfl⟩
  | cons t rest ih =>
    intro s
    obtain ⟨n, hn⟩ := threadStep_is_run c fuel s t
    obtain ⟨sched, hs⟩ := ih (threadStep c fuel s t).1
    exact ⟨List.replicate n (t, 0) ++ sched, by rw [run_append, ← hn]; exact hs⟩

/-- every state the thread-level model (hence the driver that is diffed against the implementation) can produce is a
reachable state of the small-step model: all theorems above apply to it -/
theorem c11_baton_reachable (c : Cfg) (fuel : Nat) (ts : List Nat) : Reachable c (batonRun c fuel (init c) ts) :=
  batonRun_is_run c fuel ts (init c)

/-! ## Witnesses -/

def cfg1 (script : List Act) (raOwns dtorOutside : Bool) : Cfg :=
  { nw := 1, nt := 2, script := fun _ => script, raOwns := raOwns, dtorOutside := dtorOutside }

def schedClientFirst : List (Nat × Nat) := List.replicate 20 (1, 0) ++ List.replicate 30 (0, 0) ++ List.replicate 20 (1, 0)

/-- **Open finding: a bare coroutine handle is lost.** `pool.stop(); pool.resume(suspend_point)` on the repaired code:
the run ends with every thread finished and the submission neither executed nor cancelled (`lost`). The API gives such a
closure no cancellation channel. -/
theorem c11_handle_lost :
    let s := run (cfg1 [Act.stop, Act.submit Kind.rh [] false] true true) (init (cfg1 [Act.stop, Act.submit Kind.rh [] false] true true)) schedClientFirst
    s.pc 0 = Pc.done ∧ s.pc 1 = Pc.done ∧ s.nextJob = 1 ∧ s.ran 0 = 0 ∧ s.cancelled 0 = 0 ∧ s.lost 0 = 1 := by
  decide +kernel

/-- The pinned `run(async<T>)` (closure with the bare handle, `raOwns = false`): `pool.stop(); auto f = pool.run(coro());`
leaves `f` pending for ever (replayed on the headers: corpus/c11_run_async_dropped.txt; repaired by a `fix:` commit). -/
theorem c11_asis_run_async_lost :
    let s := run (cfg1 [Act.stop, Act.submit Kind.ra [] false] false true) (init (cfg1 [Act.stop, Act.submit Kind.ra [] false] false true)) schedClientFirst
    s.pc 0 = Pc.done ∧ s.pc 1 = Pc.done ∧ s.ran 0 = 0 ∧ s.cancelled 0 = 0 ∧ s.lost 0 = 1 ∧ s.fut 0 = Fut.pending := by
  decide +kernel

/-- the repaired `run(async<T>)` on the same input: the future is broken and the caller sees it -/
theorem c11_fixed_run_async_cancelled :
    let s := run (cfg1 [Act.stop, Act.submit Kind.ra [] false] true true) (init (cfg1 [Act.stop, Act.submit Kind.ra [] false] true true)) schedClientFirst
    s.pc 0 = Pc.done ∧ s.pc 1 = Pc.done ∧ s.ran 0 = 0 ∧ s.cancelled 0 = 1 ∧ s.lost 0 = 0 ∧ s.fut 0 = Fut.broken := by
  decide +kernel

/-- The pinned `worker()` destroyed the closure it had run with the pool mutex held (`dtorOutside = false`): a job whose
closure owns the pool (its destructor deletes it) dead-locks the worker in `stop()` on its own mutex (replayed on the
headers: corpus/c11_closure_dtor_deadlock.txt; repaired by a `fix:` commit). -/
theorem c11_asis_closure_dtor_deadlock :
    let s := run (cfg1 [Act.submit Kind.det [] true] true false) (init (cfg1 [Act.submit Kind.det [] true] true false)) schedClientFirst
    s.pc 0 = Pc.stuck ∧ s.pc 1 = Pc.done ∧ s.ran 0 = 1 ∧ s.destroyed = false ∧ enabled s 0 = false := by
  decide +kernel

/-- the repaired loop on the same input: the pool is destroyed from its own thread and the worker returns -/
theorem c11_fixed_closure_dtor :
    let s := run (cfg1 [Act.submit Kind.det [] true] true true) (init (cfg1 [Act.submit Kind.det [] true] true true)) schedClientFirst
    s.pc 0 = Pc.done ∧ s.pc 1 = Pc.done ∧ s.ran 0 = 1 ∧ s.destroyed = true ∧ s.detached 0 = true := by
  decide +kernel

/-- The pinned `current_awaiter` constructor formed a reference from `*_current` (`curNullOk = false`): `co_await
thread_pool::current()` on a thread that is no worker — the case `await_ready` explicitly supports — is undefined
behaviour and aborts a sanitizer build before the coroutine could go on (replayed on the headers:
corpus/c11_current_api.txt; repaired by a `fix:` commit). -/
theorem c11_asis_current_null_ref :
    let c : Cfg := { nw := 1, nt := 2, script := fun _ => [Act.resub, Act.submit Kind.det [] false], curNullOk := false }
    let s := run c (init c) schedClientFirst
    s.pc 1 = Pc.stuck ∧ s.nextJob = 0 := by
  decide +kernel

/-- the repaired code on the same input: the coroutine goes on inline, the following submission runs -/
theorem c11_fixed_current_null :
    let c : Cfg := { nw := 1, nt := 2, script := fun _ => [Act.resub, Act.submit Kind.det [] false] }
    let s := run c (init c) schedClientFirst
    s.pc 1 = Pc.done ∧ s.nextJob = 1 ∧ s.ran 0 = 1 := by
  decide +kernel

/-- two clients: one parks a coroutine in `co_await pool(awaitable)` (slot 0), the other resolves the operation as soon as
the awaiter is registered (`flag 10` is the harness's "registered" signal) -/
def cfgAw (first : Bool) : Cfg :=
  { nw := 1, nt := 3, awHandleFirst := first,
    script := fun t => if t = 1 then [Act.park 0 []] else [Act.wait 10, Act.resolveNow 0] }

/-- resolver blocks, the coroutine registers (one step), the resolver resolves at once, then everybody runs on -/
def schedAwRace : List (Nat × Nat) :=
  [(2, 0), (1, 0)] ++ List.replicate 8 (2, 0) ++ List.replicate 8 (1, 0) ++ List.replicate 20 (0, 0)

/-- The seeded reordering (`awHandleFirst = false`: register first, store the handle afterwards): a resolution in the
window finds no handle, nothing is submitted, the coroutine is neither executed nor cancelled although nobody stopped the
pool (replayed on the patched header: corpus/c11_aw_race.txt). -/
theorem c11_asis_aw_handle_late :
    let s := run (cfgAw false) (init (cfgAw false)) schedAwRace
    (∀ t, t < 3 → enabled s t = false) ∧ s.exit = false ∧ s.nextJob = 1 ∧ s.ran 0 = 0 ∧ s.cancelled 0 = 0 ∧ s.lost 0 = 1 ∧ s.q = [] := by
  decide +kernel

/-- the code as it is, same schedule: the coroutine is handed to the pool by the resolver and runs on the worker -/
theorem c11_aw_race_runs :
    let s := run (cfgAw true) (init (cfgAw true)) schedAwRace
    (∀ t, t < 3 → enabled s t = false) ∧ s.exit = false ∧ s.nextJob = 1 ∧ s.ran 0 = 1 ∧ s.ranOn 0 = some 0 ∧ s.owner 0 = 2 := by
  decide +kernel

/-! ## Non-vacuity: the hypotheses are met by non-trivial reachable states -/

example : WF (cfg1 [Act.submit Kind.co [] false, Act.submit Kind.fn [Prim.stop] false, Act.submit Kind.det [] false] true true) :=
  ⟨rfl, by decide, by decide, by decide, rfl, rfl⟩

/-- a job stops the pool from its worker (self-detach) while two more submissions are queued: quiescent, all done, one
ran, two cancelled -/
example :
    let c := cfg1 [Act.submit Kind.fn [Prim.stop] false, Act.submit Kind.co [] false, Act.submit Kind.det [] false] true true
    let s := run c (init c) schedClientFirst
    Reachable c s ∧ (∀ t, t < 2 → enabled s t = false) ∧ s.exit = true ∧ s.detached 0 = true ∧
    s.ran 0 = 1 ∧ s.cancelled 1 = 1 ∧ s.cancelled 2 = 1 ∧ s.fut 0 = Fut.value := by
  refine ⟨⟨_, rfl⟩, ?_⟩
  decide +kernel

/-- a job that waits for the job submitted after it, two workers: the waiter blocks on worker 0, worker 1 takes the
second job, both complete (a reachable state with a thread in `Pc.waitFlag` on the way) -/
example :
    let c : Cfg := { nw := 2, nt := 3, script := fun _ => [Act.submit Kind.fn [Prim.wait 0] false, Act.submit Kind.det [Prim.set 0] false] }
    let mid := run c (init c) (List.replicate 8 (2, 0) ++ List.replicate 6 (0, 0))
    let s := run c mid (List.replicate 14 (1, 0) ++ List.replicate 14 (0, 0))
    mid.pc 0 = Pc.waitFlag 0 ∧ mid.q = [1] ∧ (∀ t, t < 3 → enabled s t = false) ∧ s.exit = false ∧
    s.ran 0 = 1 ∧ s.ran 1 = 1 ∧ s.fut 0 = Fut.value ∧ s.q = [] := by
  decide +kernel

/-- the same program on a single worker dead-locks itself (the waiter occupies the only worker): stuck with a queued
job, but no worker sleeps — `NoUserWait` fails, `c11_no_stranded_job` holds -/
example :
    let c : Cfg := { nw := 1, nt := 2, script := fun _ => [Act.submit Kind.fn [Prim.wait 0] false, Act.submit Kind.det [Prim.set 0] false] }
    let s := run c (init c) schedClientFirst
    (∀ t, t < 2 → enabled s t = false) ∧ s.pc 0 = Pc.waitFlag 0 ∧ s.q = [1] ∧ s.ran 1 = 0 := by
  decide +kernel

/-- two pool instances: a job on A's only worker stops pool B (joining B's worker), then a second job still runs on A -/
example :
    let c : Cfg := { nw := 1, nt := 3, hasB := true, script := fun _ => [Act.submit Kind.det [Prim.stopB] false, Act.submit Kind.fn [] false] }
    let s := run c (init c) (List.replicate 4 (1, 0) ++ List.replicate 20 (2, 0) ++ List.replicate 12 (0, 0)
                             ++ List.replicate 6 (1, 0) ++ List.replicate 30 (0, 0))
    (∀ t, t < 3 → enabled s t = false) ∧ s.exit = false ∧ s.bExit = true ∧ s.pc 1 = Pc.done ∧ s.pc 0 = Pc.wCvBlocked ∧
    s.cur 0 = true ∧ s.ran 0 = 1 ∧ s.ran 1 = 1 ∧ s.fut 1 = Fut.value := by
  decide +kernel

/-- `co_await thread_pool::current()` inside a job: the rest of the body (here: asking `current::is_stopped()`) becomes a
new unit of work of the same pool (a reachable state passes `Pc.peekDone Peek.resub false`); both units run once -/
example :
    let c := cfg1 [Act.submit Kind.co [Prim.resub, Prim.curStopped] false] true true
    let mid := run c (init c) (List.replicate 6 (1, 0) ++ List.replicate 5 (0, 0))
    let s := run c mid (List.replicate 30 (0, 0))
    mid.pc 0 = Pc.peekDone Peek.resub false ∧ (∀ t, t < 2 → enabled s t = false) ∧ s.nextJob = 2 ∧ s.kind 1 = Kind.co ∧
    s.ran 0 = 1 ∧ s.ran 1 = 1 ∧ s.ranOn 1 = some 0 := by
  decide +kernel

/-- a worker that stopped its own pool and then awaits `current()`: `_current` is null, the coroutine goes on inline,
nothing is submitted -/
example :
    let c := cfg1 [Act.submit Kind.co [Prim.stop, Prim.resub, Prim.curStopped] false] true true
    let s := run c (init c) schedClientFirst
    (∀ t, t < 2 → enabled s t = false) ∧ s.nextJob = 1 ∧ s.ran 0 = 1 ∧ s.detached 0 = true ∧ s.pc 0 = Pc.done := by
  decide +kernel

/-- an idle pool that nobody stopped: the client is finished, the worker sleeps, both jobs ran -/
example :
    let c := cfg1 [Act.submit Kind.co [] false, Act.submit Kind.ra [] false] true true
    let s := run c (init c) schedClientFirst
    Reachable c s ∧ (∀ t, t < 2 → enabled s t = false) ∧ s.exit = false ∧ s.pc 0 = Pc.wCvBlocked ∧
    s.ran 0 = 1 ∧ s.ran 1 = 1 ∧ s.fut 1 = Fut.value := by
  refine ⟨⟨_, rfl⟩, ?_⟩
  decide +kernel

end Cocls.Pool
