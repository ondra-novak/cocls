import CoclsModel.MutexProofs
import CoclsModel.MutexPtrProofs
/-!
# C07 — coroutine mutex: mutual exclusion, exactly-once grant (property theorems)

Model: `Mutex.lean` (micro-step model of `cocls::mutex`, tied to `mutex.h` by the step-for-step replay of
`checks/c07.py`).  Proofs: `MutexProofs.lean` (invariant `Inv`, preserved by every guarded activity (`canRun`)).

Quantifier of every theorem: **every** configuration `c` (any number of agents, any rounds: acquisition flavour
`lock`/`try_`/`co`/`cb`, way of giving the ownership up `x`/`d`/`a`/`g`/`m`, own ownership object or the shared slot; the
transfer to OS threads additionally needs `c.WFT`), and **every** state `s` with
`Reachable c s`, i.e. every state reached from `init c` by **any** finite sequence of agent activities `(t, a)`
("agent `a`'s code runs on OS thread `t` up to and including its next atomic operation") each of which is permitted by
the guard `canRun` — `s.pc a ∉ {parked, done}` and (`s.pc a = blocked → s.flag a`) — an over-approximation of what the
executor glue `threadStep` can do (`threadStep_is_arun`, `trun_init_reachable`: every schedule of enabled OS threads
stays inside `Reachable`).  No bound on agents, rounds or run length.
-/
namespace Cocls.Mutex
variable {c : Cfg} {s : State}

/-- `try_lock`/`ready()` is one step and succeeds iff the mutex is free -/
theorem c07_ready_iff_free (c : Cfg) (s : State) (t a : Nat) (r : Round) (hpc : s.pc a = Pc.top)
    (hr : curRound c s a = some r) :
    ((agentStep c s t a).1.pc a = Pc.crit ↔ s.req = []) := by
  by_cases hq : s.req = []
  · rw [(Step.topAcq hpc hr hq).eq]; simp [setPc, hq]
  · rw [(Step.topFail hpc hr hq).eq]; cases r.fl <;> simp [setPc, hq]

example : (agentStep cfgEx (init cfgEx) 0 0).1.pc 0 = Pc.crit ∧
    (agentStep cfgEx (arun cfgEx (init cfgEx) [(0,0)]) 1 1).1.pc 1 = Pc.sub Seen.null := by decide

/-- **Mutual exclusion.** In every state reachable by guarded agent activities (any number of agents, rounds,
    flavours, release styles, any interleaving, any assignment of activities to OS threads) at most one agent is an
    owner. -/
theorem c07_mutex (hs : Reachable c s) : ∀ a b, Owner s a → Owner s b → a = b :=
  (reachable_inv hs).excl

/- after the hand-over of scenario `runB`, 1 is the owner, 0 is not any more, 2 is still queued -/
example : Reachable cfgEx sB := reachable_of_run _ runB (by decide)
example : Owner sB 1 ∧ ¬ Owner sB 0 ∧ ¬ Owner sB 2 ∧ sB.queue = [2] := by decide
/- a blocking waiter is not an owner before its flag is stored -/
example : Reachable cfgSy sS ∧ Owner sS 0 ∧ ¬ Owner sS 1 ∧ sS.pc 1 = Pc.blocked := ⟨reachable_of_run _ runS (by decide), by decide⟩

/-- the critical-section counter never exceeds one -/
theorem c07_mutex_incs (hs : Reachable c s) : s.incs ≤ 1 := by
  have h := reachable_inv hs
  by_cases hex : ∃ a, s.pc a = Pc.afterCs
  · obtain ⟨a, ha⟩ := hex
    rw [h.incsA a ha]; exact Nat.le_refl 1
  · rw [h.incsN (fun a ha => hex ⟨a, ha⟩)]; exact Nat.zero_le 1

example : (arun cfgEx (init cfgEx) (runB ++ [(0,1)])).incs = 1 ∧ sB.incs = 0 := by decide

/-- the overlap flag of every critical-section event is false -/
theorem c07_no_overlap (hs : Reachable c s) (t a : Nat) (x r : Nat) (ov : Bool)
    (hev : Ev.cs x r ov ∈ (agentStep c s t a).2.1) : ov = false := by
  obtain ⟨hpc, _, _, hov⟩ := step_cs_event c s t a x r ov hev
  have hi := ((reachable_inv hs).owner_facts (a := a) (hpc.elim (.of_pc ·) (.of_pc ·))).2
  rcases hpc with e | e <;> simp [hov, hi, e]

example : (agentStep cfgEx sB 0 1).2.1 = [Ev.cs 1 0 false, Ev.csOp 0 1] := by decide

/-- **Each request is granted exactly once (counting form).** `grants a` + failed `try_lock`s = completed rounds
    (+ 1 while the agent holds the lock in its current round). -/
theorem c07_grant_once (hs : Reachable c s) (a : Nat) :
    s.grants a + s.fails a = s.round a + (if Holding s a then 1 else 0) ∧ s.grants a ≤ s.round a + 1 := by
  have h := (reachable_inv hs).gr a
  refine ⟨h, ?_⟩
  split at h <;> omega

example : Reachable cfgEx sZ ∧ (sZ.grants 2, sZ.fails 2, sZ.round 2) = (2, 0, 2) ∧ ¬ Holding sZ 2 :=
  ⟨reachable_of_run _ runZ (by decide), by decide⟩
example : (sB.grants 1, sB.fails 1, sB.round 1) = (1, 0, 0) ∧ Holding sB 1 := by decide
example : (sS.grants 2, sS.fails 2, sS.round 2) = (0, 1, 1) := by decide

/-- **Each request `(agent, round)` is granted at most once**; it has been granted or (for `try_lock`) failed exactly
    once iff the round is completed or the agent currently holds the lock for it. -/
theorem c07_grant_once_request (hs : Reachable c s) (a r : Nat) :
    s.grantReqs.count (a, r) ≤ 1 ∧
    s.grantReqs.count (a, r) + s.failReqs.count (a, r) = (if r < s.round a ∨ (r = s.round a ∧ Holding s a) then 1 else 0) ∧
    ((a, r) ∈ s.failReqs → ∃ rd, (c.rounds a)[r]? = some rd ∧ rd.fl = Flavour.try_) := by
  have h := reachable_inv hs
  have hg := h.greq a r
  refine ⟨?_, hg, h.failT a r⟩
  split at hg <;> omega

example : sZ.grantReqs = [(0, 0), (1, 0), (2, 0), (2, 1)] ∧ sZ.failReqs = [] ∧ sS.failReqs = [(2, 0)] := by decide

theorem c07_grantReqs_nodup (hs : Reachable c s) : s.grantReqs.Nodup := by
  rw [List.nodup_iff_count]
  intro ⟨a, r⟩
  exact (c07_grant_once_request hs a r).1

example : sB.grantReqs = [(0, 0), (1, 0)] := by decide

/-- at quiescence every configured request has been granted exactly once (or, for `try_lock`, failed) -/
theorem c07_granted_at_quiescence (hs : Reachable c s) (a : Nat) (ha : a < c.n) (hd : s.pc a = Pc.done)
    (r : Nat) (hr : r < (c.rounds a).length) :
    s.grantReqs.count (a, r) + s.failReqs.count (a, r) = 1 := by
  have h := reachable_inv hs
  have := (h.rnd a).2.2 hd ha
  rw [(c07_grant_once_request hs a r).2.1, if_pos (Or.inl (by omega))]

example : (∀ a, a < 3 → sZ.pc a = Pc.done) ∧ sZ.grantReqs.length = 4 := by decide

/-- every grant leads to exactly one critical-section entry -/
theorem c07_enter_once (hs : Reachable c s) (a : Nat) :
    s.grantLog.count a + (if Entering s a then 1 else 0) = s.grants a :=
  (reachable_inv hs).glog a

example : sZ.grantLog = [0, 1, 2, 2] ∧ sB.grantLog = [0] ∧ Entering sB 1 := by decide

/-- **A waiting agent is registered exactly once**: a parked coroutine (and a blocked waiter whose flag is not set)
    has exactly one node in `queue ++ stack`; nobody else (except the found-null acquirer before its `build_queue`)
    has one. -/
theorem c07_resume_once (hs : Reachable c s) (a : Nat) :
    s.queue.count a + (nodesOf s.req).count a = (if Listed s a then 1 else 0) ∧
    (s.pc a = Pc.parked → s.queue.count a + (nodesOf s.req).count a = 1) ∧
    (s.queue ++ nodesOf s.req).Nodup := by
  have h := reachable_inv hs
  refine ⟨h.cnt a, ?_, ?_⟩
  · intro hp
    rw [h.cnt a, if_pos (show Listed s a from Or.inl (by simp [hp, isWaiting]))]
  · exact h.nodup

example : Reachable cfgEx sP ∧ sP.pc 1 = Pc.parked ∧ sP.pc 2 = Pc.parked ∧ nodesOf sP.req = [2, 1] ∧ sP.queue = [] :=
  ⟨reachable_of_run _ runP (by decide), by decide⟩
example : sA.pc 1 = Pc.parked ∧ nodesOf sA.req = [] ∧ sA.queue = [1, 2] := by decide

/-- **A parked coroutine is resumed only by a hand-over, once**: an activity of another agent `x` leaves it parked
    unless `x` is the owner handing the lock to the head of the queue, which is `a`; then `a` is at `crit`,
    owner, granted once more and no longer registered anywhere — so no second hand-over can reach it. -/
theorem c07_resume_once_step (hs : Reachable c s) (t x a : Nat) (hx : canRun s x = true)
    (hp : s.pc a = Pc.parked) :
    let s' := (agentStep c s t x).1
    (s'.pc a = Pc.parked ∧ s'.grants a = s.grants a) ∨
    (grantee c s x = some a ∧ s'.pc a = Pc.crit ∧ s'.grants a = s.grants a + 1 ∧ a ∉ s'.queue ∧ a ∉ nodesOf s'.req) := by
  dsimp only
  have h := reachable_inv hs
  have hax : a ≠ x := by rintro rfl; simp [canRun, hp] at hx
  have hl := (inv_step h t hx).listed_iff a
  have hpc := (step_frame c s t x).pc a hax
  have hgr := (step_frame c s t x).grants a hax
  by_cases hg : grantee c s x = some a
  · rw [if_pos ⟨hg, h.kindP a hp⟩] at hpc
    have hnl := mt hl.2 (by simp [Listed, hpc, isWaiting])
    exact Or.inr ⟨hg, hpc, by rw [hgr, if_pos hg], fun hq => hnl (Or.inl hq), fun hq => hnl (Or.inr hq)⟩
  · exact Or.inl ⟨by rw [hpc, if_neg (fun hh => hg hh.1), hp], by rw [hgr, if_neg hg]⟩

/- `sA → sB` is the hand-over to 1 (second alternative); the step before it left 1 parked (first alternative) -/
example : grantee cfgEx sA 0 = some 1 ∧ sA.pc 1 = Pc.parked ∧ sB.pc 1 = Pc.crit ∧ sB.grants 1 = sA.grants 1 + 1 ∧
    1 ∉ sB.queue ∧ 1 ∉ nodesOf sB.req := by decide
example : grantee cfgEx sP 0 = none ∧ (agentStep cfgEx sP 0 0).1.pc 1 = Pc.parked := by decide

/-- **A blocked thread is woken only by a hand-over, once**: the flag of a blocking waiter whose request is pending
    stays clear under every activity of another agent `x`, unless `x` is the owner handing the lock to the head of
    the queue, which is `a`; then the flag is set, `a` is the owner, granted once more and registered nowhere. -/
theorem c07_wake_once_step (hs : Reachable c s) (t x a : Nat) (hx : canRun s x = true) (hax : a ≠ x)
    (hw : (s.pc a = Pc.waitFlag ∨ s.pc a = Pc.blocked) ∧ s.flag a = false) :
    let s' := (agentStep c s t x).1
    s'.pc a = s.pc a ∧
    ((s'.flag a = false ∧ s'.grants a = s.grants a) ∨
     (grantee c s x = some a ∧ s'.flag a = true ∧ Owner s' a ∧ s'.grants a = s.grants a + 1 ∧
      a ∉ s'.queue ∧ a ∉ nodesOf s'.req)) := by
  dsimp only
  have h := reachable_inv hs
  have hl := (inv_step h t hx).listed_iff a
  have hk : flOf c s a ≠ some Flavour.co := by
    rcases h.kindW a hw.1 with e | e <;> rw [e] <;> simp
  have hpc := (step_frame c s t x).pc a hax
  have hfl := (step_frame c s t x).flag a hax
  have hgr := (step_frame c s t x).grants a hax
  rw [if_neg (fun hh => hk hh.2)] at hpc
  refine ⟨hpc, ?_⟩
  by_cases hg : grantee c s x = some a
  · rw [if_pos ⟨hg, hk⟩] at hfl
    have hown : Owner (agentStep c s t x).1 a := by
      unfold Owner; rw [hpc, hfl]; rcases hw.1 with e | e <;> simp [e, isOwner]
    have hnl := mt hl.2 (by unfold Listed; rw [hpc, hfl]; rcases hw.1 with e | e <;> simp [e, isWaiting])
    exact Or.inr ⟨hg, hfl, hown, by rw [hgr, if_pos hg], fun hq => hnl (Or.inl hq), fun hq => hnl (Or.inr hq)⟩
  · exact Or.inl ⟨by rw [hfl, if_neg (fun hh => hg hh.1)]; exact hw.2, by rw [hgr, if_neg hg]⟩

/- scenario `runS`: blocking waiter 1 behind owner 0; 0's critical section leaves the flag clear, its hand-over sets it -/
example : sS.pc 1 = Pc.blocked ∧ sS.flag 1 = false ∧ (agentStep cfgSy sS 0 0).1.flag 1 = false ∧
    (arun cfgSy sS [(0,0), (0,0), (0,0), (0,0)]).flag 1 = true ∧
    Owner (arun cfgSy sS [(0,0), (0,0), (0,0), (0,0)]) 1 := by decide

/-- **Never resumed while still suspending (step form).** The publishing CAS of a coroutine behind an owner is the
    last thing the publishing activity does with the agent: in the same step the agent becomes `parked`, the
    publishing thread drops it (`cur t = none`), the thread's step ends (`Outcome.op`), the agent is registered once
    in the stack and its code is not runnable. -/
theorem c07_not_while_suspending (hs : Reachable c s) (t a : Nat) (prev : Seen)
    (hpc : s.pc a = Pc.sub prev) (hseen : seenOf s.req = prev) (hprev : prev ≠ Seen.null)
    (hk : flOf c s a = some Flavour.co) :
    let r := agentStep c s t a
    r.1.pc a = Pc.parked ∧ r.2.2 = Outcome.op ∧ r.1.cur t = none ∧ canRun r.1 a = false ∧
    r.1.req = Elem.node a (keyOf c s a) :: s.req ∧ (nodesOf r.1.req).count a = 1 ∧ r.1.queue.count a = 0 := by
  intro r
  have hr : r = agentStep c s t a := rfl
  have hcan : canRun s a = true := by simp [canRun, hpc]
  have h' : Inv c r.1 := inv_step (reachable_inv hs) t hcan
  rw [(Step.subOk hpc hseen).eq] at hr
  simp only [hprev, if_false, hk, ne_eq, not_false_eq_true, and_self, if_true] at hr
  have hp : r.1.pc a = Pc.parked := by rw [hr]; simp [setPc]
  have hc := h'.cnt a
  rw [if_pos (show Listed r.1 a from Or.inl (by simp [hp, isWaiting]))] at hc
  have hreq : r.1.req = Elem.node a (keyOf c s a) :: s.req := by rw [hr]
  have hn : (nodesOf r.1.req).count a ≥ 1 := by rw [hreq]; simp
  refine ⟨hp, by rw [hr], by rw [hr]; simp, by simp [canRun, hp], hreq, by omega, by omega⟩

/- the publishing CAS of coroutine 1 behind owner 0 (third activity of 1), agent level and OS-thread level -/
example : (arun cfgEx (init cfgEx) [(0,0), (1,1), (1,1)]).pc 1 = Pc.sub Seen.door ∧
    (arun cfgEx (init cfgEx) [(0,0), (1,1), (1,1), (1,1)]).pc 1 = Pc.parked := by decide
example : (trun cfgEx 100 (init cfgEx) [0, 1, 1]).cur 1 = some 1 ∧ (trun cfgEx 100 (init cfgEx) [0, 1, 1, 1]).cur 1 = none ∧
    (trun cfgEx 100 (init cfgEx) [0, 1, 1, 1]).pc 1 = Pc.parked := by decide

/-- **Never resumed while still suspending (run form).** From a state in which coroutine `a` is parked, along every
    guarded run in which no activity is a hand-over to `a`, `a` stays parked and *no activity of `a` exists* — on
    any thread, in particular not on the thread that published it.  Its code runs again only after the owner's
    hand-over made it `crit` (`c07_resume_once_step`). -/
theorem c07_no_activity_while_parked (a : Nat) : ∀ (l : List (Nat × Nat)) (s : State), Reachable c s →
    s.pc a = Pc.parked → Guarded c s l →
    (∀ l1 p l2, l = l1 ++ p :: l2 → grantee c (arun c s l1) p.2 ≠ some a) →
    (arun c s l).pc a = Pc.parked ∧ ∀ p ∈ l, p.2 ≠ a := by
  intro l
  induction l with
  | nil => intro s _ hp _ _; exact ⟨hp, by simp⟩
  | cons p l ih =>
    intro s hs hp hg hno
    have hpa : p.2 ≠ a := by rintro rfl; have := hg.1; simp [canRun, hp] at this
    have hstep := c07_resume_once_step hs p.1 p.2 a hg.1 hp
    have hp1 : (agentStep c s p.1 p.2).1.pc a = Pc.parked := by
      rcases hstep with h1 | h1
      · exact h1.1
      · exact absurd h1.1 (hno [] p l rfl)
    have := ih _ (reachable_step hs p.1 hg.1) hp1 hg.2 (fun l1 q l2 e => by
      have := hno (p :: l1) q l2 (by rw [e]; rfl)
      simpa [arun] using this)
    refine ⟨this.1, ?_⟩
    intro q hq
    rcases List.mem_cons.1 hq with e | e
    · rw [e]; exact hpa
    · exact this.2 q e

/- in scenario `runA` coroutine 1 is parked after the 4th activity; none of the following activities is one of 1 -/
example : (arun cfgEx (init cfgEx) (runA.take 4)).pc 1 = Pc.parked ∧ (∀ p ∈ runA.drop 4, p.2 ≠ 1) ∧ sA.pc 1 = Pc.parked := by
  decide

/-! ## ownership objects

`s.held o`: ownership object `o` is armed for the mutex (`objOf c s a`: the object agent `a` uses in its current round — its
own one or the slot shared by all contenders).  An ownership is *stored* into the object by the `crit` step (construction,
move-assignment, `ownership(co_awaiter&&)`) or, for a callback contender granted as a waiter, by the callback running inside
the previous owner's `unlock` (`handOver`); every way of giving it up through the object (`Rel`) enters `unlock`
(`unlockStart`) only if the object is armed and disarms it first. -/

/-- **Ownership objects and owners.** The object of an agent that has stored its ownership and not yet started to give it
    up is armed; an armed object is the object of the unique owner, who is in that phase — so at most one object is armed
    and nothing is armed while nobody owns the mutex; an ownership is never stored into an object that is still armed
    (`bad = false`: the store never runs the deleter, in particular not when the next owner stores into the very object
    the previous owner released from). -/
theorem c07_ownership_objects (hs : Reachable c s) :
    (∀ a, Armed c s a → s.held (objOf c s a) = true) ∧
    (∀ o a, s.held o = true → Owner s a → Armed c s a ∧ objOf c s a = o) ∧
    (∀ o1 o2, s.held o1 = true → s.held o2 = true → o1 = o2) ∧
    ((∀ a, ¬ Owner s a) → ∀ o, s.held o = false) ∧ s.bad = false := by
  have h := reachable_inv hs
  refine ⟨h.heldA, h.heldO, ?_, h.heldN, h.noBad⟩
  intro o1 o2 h1 h2
  apply Classical.byContradiction
  intro hne
  by_cases hex : ∃ a, Owner s a
  · obtain ⟨a, ha⟩ := hex
    exact hne ((h.heldO o1 a h1 ha).2.symm.trans (h.heldO o2 a h2 ha).2)
  · have := h.heldN (fun a ha => hex ⟨a, ha⟩) o1
    rw [h1] at this; cases this

/- scenario `runO1/runO2`: 0 keeps its ownership in the shared slot (object 4); it releases through the slot, and the callback
   of the next owner 1 stores 1's ownership into the same slot inside 0's `unlock` -/
example : Reachable cfgOw sO2 := reachable_of_run _ runO2 (by decide)
example : sO1.held 4 = true ∧ Armed cfgOw sO1 0 ∧ objOf cfgOw sO1 0 = 4 := by decide
example : (arun cfgOw (init cfgOw) (runO1 ++ [(0,0)])).held 4 = false ∧ sO2.held 4 = true ∧ sO2.pc 0 = Pc.relDone ∧
    Armed cfgOw sO2 1 ∧ Owner sO2 1 ∧ objOf cfgOw sO2 1 = 4 ∧ sO2.bad = false := by decide

/-- **Every way of giving the ownership up finds its object armed and enters `unlock`**: `release()` / destruction / move
    into a temporary / assignment of an empty ownership (`afterCs`, rel ≠ `g`) and the hand-over-hand assignment (`asg`). -/
theorem c07_release_armed (hs : Reachable c s) (x : Nat)
    (hpc : (s.pc x = Pc.afterCs ∧ relOf c s x ≠ some Rel.g) ∨ s.pc x = Pc.asg) :
    s.held (objOf c s x) = true ∧ unlocking c s x := by
  have h := reachable_inv hs
  have harm : Armed c s x := by rcases hpc with ⟨e, _⟩ | e <;> simp [Armed, e, isArmed]
  have hh := h.heldA x harm
  refine ⟨hh, ?_⟩
  rcases hpc with ⟨e, hr⟩ | e
  · exact Or.inl ⟨e, hr, hh⟩
  · exact Or.inr (Or.inl ⟨e, hh⟩)

example : sO3.pc 3 = Pc.asg ∧ sO3.held 3 = true ∧ sO3.aux 3 = true ∧ unlocking cfgOw sO3 3 := by decide

/-- **A mutex whose every ownership has been released, destroyed or overwritten is free or handed over.** If no ownership
    object is armed, the mutex is free (nobody owns it, `_requests = nullptr`, queue empty), or its owner is in a
    transient phase: the acquisition / hand-over is in progress (the granted ownership is not yet stored: `build`, `crit`,
    a woken blocking waiter) or its `unlock` is in progress (`relBuild`, `relHand`). -/
theorem c07_all_released_free (hs : Reachable c s) (hnone : ∀ o, s.held o = false) :
    (s.req = [] ∧ s.queue = [] ∧ ∀ a, ¬ Owner s a) ∨
    ∃ a, Owner s a ∧ (s.pc a = Pc.build ∨ s.pc a = Pc.crit ∨ s.pc a = Pc.relBuild ∨ s.pc a = Pc.relHand ∨
      ((s.pc a = Pc.waitFlag ∨ s.pc a = Pc.blocked) ∧ s.flag a = true ∧ flOf c s a ≠ some Flavour.cb)) := by
  have h := reachable_inv hs
  by_cases hex : ∃ a, Owner s a
  · right
    obtain ⟨a, ha⟩ := hex
    refine ⟨a, ha, ?_⟩
    have hna : ¬ Armed c s a := by
      intro harm; have := h.heldA a harm; rw [hnone] at this; cases this
    unfold Owner at ha
    unfold Armed at hna
    generalize s.pc a = p at *
    cases p <;> simp_all [isOwner, isArmed]
    all_goals (intro e; simp [e] at hna)
  · left
    have hno : ∀ a, ¬ Owner s a := fun a ha => hex ⟨a, ha⟩
    exact ⟨(h.free hno).1, (h.free hno).2, hno⟩

/-- at quiescence nothing is armed, every auxiliary mutex is free, the mutex is free -/
theorem c07_quiescent_released (hs : Reachable c s) (hd : ∀ a, s.pc a = Pc.done) :
    (∀ o, s.held o = false) ∧ (∀ a, s.aux a = false) ∧ s.req = [] ∧ s.queue = [] := by
  have h := reachable_inv hs
  have hno : ∀ a, ¬ Owner s a := fun a ha => by simp [Owner, hd a, isOwner] at ha
  refine ⟨h.heldN hno, ?_, (h.free hno).1, (h.free hno).2⟩
  intro a
  cases ha : s.aux a with
  | false => rfl
  | true => have := (h.auxOk a ha).2; simp [hd a] at this

example : Reachable cfgOw sOZ ∧ (∀ a, a < 4 → sOZ.pc a = Pc.done) ∧ (∀ o, o < 5 → sOZ.held o = false) ∧ sOZ.req = [] :=
  ⟨reachable_of_run _ runOZ (by decide), by decide⟩

/-! ## transfer to the OS-thread level (the level the harness exercises) -/

/-- **C07 holds for every schedule of OS threads**: after any schedule `ts` of enabled threads (executor glue
    `threadStep`, any fuel) from `init c` at most one agent is an owner, the critical-section counter is at most one,
    every request has been granted at most once. -/
theorem c07_thread_level (hwf : c.WFT) (fuel : Nat) (ts : List Nat) (hg : TGuarded c fuel (init c) ts) :
    let s := trun c fuel (init c) ts
    (∀ a b, Owner s a → Owner s b → a = b) ∧ s.incs ≤ 1 ∧ s.grantReqs.Nodup ∧ s.bad = false := by
  intro s
  have hs : Reachable c s := trun_init_reachable hwf fuel ts hg
  exact ⟨c07_mutex hs, c07_mutex_incs hs, c07_grantReqs_nodup hs, (reachable_inv hs).noBad⟩

example : TGuarded cfgEx 100 (init cfgEx) schedB ∧ Owner (trun cfgEx 100 (init cfgEx) schedB) 1 ∧
    (trun cfgEx 100 (init cfgEx) schedB).grantReqs = [(0, 0), (1, 0)] := by decide

end Cocls.Mutex

/-!
# C07 at pointer level (`MutexPtr.lean`, `MutexPtrProofs.lean`): nobody touches a node it no longer owns

The list-level model cannot say what happens to the `awaiter::_next` field and the awaiter object of a request: a list has
no dangling links.  The pointer-level model has the links, the ghost `live` (a request node is alive from the segment that
sets it up until its owner, granted the lock, continues) and the ghost access log `acc` of every activity.  It is tied to
the real header by the suite `ptr-level` of `checks/c08.py` (pointer digest after every operation) and refines the list-level
model (`c08_ptr_refines_list`).  Quantifier: every configuration `c`, every loop fuel `wf ≥ c.n`, every activity list
permitted by `canRun` (every schedule of enabled OS threads for `c.WFT`), any thread `t` for the next activity.
-/
namespace Cocls.MutexPtr
open Cocls.Mutex (Seen Flavour Rel AKind Cfg Pc canRun cfgEx runP runA runN runZ sP sA)
variable {c : Cfg}

/-- **No access to a dead node, to null or to the doorman.**  Along every permitted activity list and along every schedule
    of enabled OS threads the ghost flag `viol` stays clear — and it stays clear under the next activity of *any* agent on
    any thread from such a state: every `_next` read/write of `subscribe`, of the loop of `build_queue`, of `unlock`, and the
    read of the awaiter by `resume()`, touches a request node that is alive at that moment. -/
theorem c07_no_dead_access_ptr (wf : Nat) (hwf : c.n ≤ wf) :
    (∀ l, Mutex.Guarded c (Mutex.init c) l → (arun c wf (init c) l).viol = false ∧
      ∀ t a, (agentStep c wf (arun c wf (init c) l) t a).1.viol = false) ∧
    (c.WFT → ∀ fuel ts, Mutex.TGuarded c fuel (Mutex.init c) ts → (trun c wf fuel (init c) ts).viol = false) := by
  refine ⟨fun l hg => ⟨(repr_run wf hwf l hg).2.noViol, fun t a => ?_⟩,
    fun hw fuel ts hg => (trun_init_sim hw wf hwf fuel ts hg).1.2.noViol⟩
  obtain ⟨hR, _, hI, hq⟩ := run_facts wf hwf l hg
  exact (agentStep_sim wf hR hI hq t a).2.2.noViol

example : (arun cfgEx 3 (init cfgEx) runZ).viol = false ∧ (trun cfgEx 3 100 (init cfgEx) Mutex.schedZ).viol = false := by decide

/-- **The requester never touches its node after the publishing CAS.**  Every node access of the next activity of `a` is
    made while `a` is inside `subscribe` (pc `sub`: the plain writes *before* the CAS, on its own node) — or touches a node
    of *another* agent (the owner walking / popping the nodes of waiting requesters).  At the pcs of a published request
    (`parked`, `waitFlag`, `blocked`, `build`) the activity has no node access at all; neither has the activity that follows
    a hand-over (`relDone`): the former owner never touches the node again. -/
theorem c07_no_touch_after_publish_ptr (wf : Nat) (hwf : c.n ≤ wf) (l : List (Nat × Nat))
    (hg : Mutex.Guarded c (Mutex.init c) l) (t a : Nat) :
    (∀ x ∈ (agentStep c wf (arun c wf (init c) l) t a).1.acc, x.agent = a ∧
      ((∃ p, (Mutex.arun c (Mutex.init c) l).pc a = Pc.sub p) ∨ ∀ k, x.node ≠ Seen.node a k)) ∧
    ((Mutex.arun c (Mutex.init c) l).pc a = Pc.parked ∨ (Mutex.arun c (Mutex.init c) l).pc a = Pc.waitFlag ∨
      (Mutex.arun c (Mutex.init c) l).pc a = Pc.blocked ∨ (Mutex.arun c (Mutex.init c) l).pc a = Pc.build ∨
      (Mutex.arun c (Mutex.init c) l).pc a = Pc.relDone → (agentStep c wf (arun c wf (init c) l) t a).1.acc = []) := by
  obtain ⟨hR, _, hI, hq⟩ := run_facts wf hwf l hg
  generalize arun c wf (init c) l = ps at *
  generalize Mutex.arun c (Mutex.init c) l = ls at *
  constructor
  · intro x hx
    obtain ⟨h1, h2⟩ := agentStep_acc wf hR hI hq t a x hx
    refine ⟨h1, ?_⟩
    rcases h2 with ⟨h, _⟩ | ⟨hown, n, hn, hm⟩
    · exact Or.inl h
    · right
      intro k hk
      rw [hn] at hk
      injection hk with e1 _
      have hl := (hI.listed_iff a).2 (Or.inl (e1 ▸ hm))
      rcases hl with hw | hb
      · cases (Mutex.not_waiting_of_owner hown).symm.trans hw
      · have := (hI.bld a hb).2
        rw [this] at hm; cases hm
  · intro hpc
    apply Classical.byContradiction
    intro hne
    have := agentStep_acc_pc wf hR hI hq t a hne
    rcases this with ⟨p, h⟩ | h | h | h | h <;> rcases hpc with h' | h' | h' | h' | h' <;> rw [h] at h' <;> cases h'

/- coroutine 1 of scenario `runP` is parked behind owner 0: its node is linked and alive, and no activity of 1 touches it -/
example : sP.pc 1 = Pc.parked ∧ (arun cfgEx 3 (init cfgEx) runP).next (2, 0) = Seen.node 1 0 ∧
    (arun cfgEx 3 (init cfgEx) runP).live (1, 0) = true ∧
    (agentStep cfgEx 3 (arun cfgEx 3 (init cfgEx) runP) 1 1).1.acc = [] := by decide
/- the last activity of 1 inside `subscribe` (its publishing CAS) wrote `_next` of its own node, before the CAS -/
example : (arun cfgEx 3 (init cfgEx) (runP.take 4)).acc = [⟨1, Seen.node 1 0, Field.next, true⟩] ∧
    (arun cfgEx 3 (init cfgEx) (runP.take 3)).acc =
      [⟨1, Seen.node 1 0, Field.body, true⟩, ⟨1, Seen.node 1 0, Field.next, true⟩] := by decide

/-- **`unlock` unlinks the new owner before resuming it and never touches it afterwards.**  When the next activity of `x`
    hands the lock to `b` (`grantee … x = some b`), its node accesses are: those of the `build_queue` loop (if its exchange
    ended the previous segment), then exactly `read head->_next; write head->_next = nullptr; read head (resume)` on the node
    `(b, k)` of `b`'s current request, in this order.  Afterwards `_next` of that node is null, the node is still alive (it
    dies only when `b` itself continues), `x` is at `relDone`, and the next activity of `x` touches no node. -/
theorem c07_unlock_unlinks_before_resume_ptr (wf : Nat) (hwf : c.n ≤ wf) (l : List (Nat × Nat))
    (hg : Mutex.Guarded c (Mutex.init c) l) (t x b : Nat) (hx : canRun (Mutex.arun c (Mutex.init c) l) x = true)
    (hgr : Mutex.grantee c (Mutex.arun c (Mutex.init c) l) x = some b) :
    ∃ (k : Nat) (w : List Node),
      (agentStep c wf (arun c wf (init c) l) t x).1.acc = walkAcc x w ++ popAcc x b k ∧
      (agentStep c wf (arun c wf (init c) l) t x).1.next (b, k) = Seen.null ∧
      (agentStep c wf (arun c wf (init c) l) t x).1.live (b, k) = true ∧
      k = keyOf c (arun c wf (init c) l) b ∧
      (agentStep c wf (arun c wf (init c) l) t x).1.pc x = Pc.relDone ∧
      ∀ t', (agentStep c wf (agentStep c wf (arun c wf (init c) l) t x).1 t' x).1.acc = [] := by
  obtain ⟨hR, _, hI, hq⟩ := run_facts wf hwf l hg
  obtain ⟨k, w, h1, h2, h3, h4, h5⟩ := handover_step wf hR hI hq t x b hgr
  refine ⟨k, w, h1, h2, h3, h4, h5, fun t' => ?_⟩
  have hl : Mutex.Guarded c (Mutex.init c) (l ++ [(t, x)]) :=
    Mutex.guarded_append.2 ⟨hg, hx, trivial⟩
  have h := (c07_no_touch_after_publish_ptr wf hwf (l ++ [(t, x)]) hl t' x).2
  have e1 : arun c wf (init c) (l ++ [(t, x)]) = (agentStep c wf (arun c wf (init c) l) t x).1 := by
    simp [arun, List.foldl_append]
  have e2 : Mutex.arun c (Mutex.init c) (l ++ [(t, x)]) = (Mutex.agentStep c (Mutex.arun c (Mutex.init c) l) t x).1 := by
    simp [Mutex.arun, List.foldl_append]
  rw [e1, e2] at h
  apply h
  right; right; right; right
  have := (agentStep_sim wf hR hI hq t x).2.1
  rw [this]
  exact h5

/- scenario `runA` (owner 0 at `relHand`) and its next activity: the loop moves the nodes `(2, 0)`, `(1, 0)`; then `(1, 0)` is
   read, cleared, resumed -/
example : Mutex.grantee cfgEx sA 0 = some 1 ∧
    (agentStep cfgEx 3 (arun cfgEx 3 (init cfgEx) runA) 0 0).1.acc = walkAcc 0 [(2, 0), (1, 0)] ++ popAcc 0 1 0 ∧
    (agentStep cfgEx 3 (arun cfgEx 3 (init cfgEx) runA) 0 0).1.next (1, 0) = Seen.null ∧
    (agentStep cfgEx 3 (arun cfgEx 3 (init cfgEx) runA) 0 0).1.live (1, 0) = true := by decide

/-- **No two agents' next segments touch the same node** (race freedom on the plain node fields at interleaving level):
    for `a ≠ b`, whatever threads run them. -/
theorem c07_no_conflict_ptr (wf : Nat) (hwf : c.n ≤ wf) (l : List (Nat × Nat)) (hg : Mutex.Guarded c (Mutex.init c) l)
    (a b : Nat) (hab : a ≠ b) (t t' : Nat) :
    ∀ x ∈ (agentStep c wf (arun c wf (init c) l) t a).1.acc, ∀ y ∈ (agentStep c wf (arun c wf (init c) l) t' b).1.acc,
      x.node ≠ y.node := by
  obtain ⟨hR, _, hI, hq⟩ := run_facts wf hwf l hg
  exact step_no_conflict wf hR hI hq hab t t'

/- after `runA` the owner's next segment touches the nodes `(2, 0)` and `(1, 0)`; the other agents are parked: their next
   activities touch nothing -/
example : (agentStep cfgEx 3 (arun cfgEx 3 (init cfgEx) runA) 1 1).1.acc = [] ∧
    (agentStep cfgEx 3 (arun cfgEx 3 (init cfgEx) runA) 2 2).1.acc = [] := by decide
/- scenario `runN` before 2's publishing CAS: owner-to-be 1 is at `build` (no access), requester 2 writes its own node -/
example : (arun cfgEx 3 (init cfgEx) (runN.take 7)).pc 1 = Pc.build ∧
    (agentStep cfgEx 3 (arun cfgEx 3 (init cfgEx) (runN.take 7)) 1 1).1.acc = [] ∧
    (agentStep cfgEx 3 (arun cfgEx 3 (init cfgEx) (runN.take 7)) 2 2).1.acc = [⟨2, Seen.node 2 0, Field.next, true⟩] := by
  decide

/-! ### AS-IS negative witness: the pinned commit's `subscribe` (before a810fc1)

`subscribe` published the awaiter with `aw->subscribe(_requests)` and then read `aw->_next` again to find out whether the
mutex had been free.  `agentStepAsIs` is that variant of the step (`recheck`: the re-read still to be done by the publishing
thread).  Two coroutine contenders; thread 1 publishes the request of coroutine 1 behind owner 0; owner 0 runs `unlock`
completely (fast path fails, exchange, loop, pop, resume) and coroutine 1 — resumed on thread 0 — enters its critical section
(its awaiter is gone); then thread 1 continues `subscribe` and reads `_next` of the dead awaiter: `viol`.  (It reads null,
which `unlock` stored there, and goes on as if it had found the mutex free: pc `build` — the double resume of DESIGN §6
row 10.)  This shows that the safety theorems above are not vacuous: the flag is reachable for a step function that
violates them. -/

def cfg2 : Cfg := { n := 2, kind := fun _ => AKind.coro, rounds := fun _ => [{ fl := Flavour.co, rel := Rel.x }] }
def asisRun : List (Nat × Nat) := [(0,0), (1,1), (1,1), (1,1), (0,0), (0,0), (0,0), (0,0), (0,1), (1,1)]

theorem c07_asis_touch_after_resume_ptr :
    (arunAsIs cfg2 2 { s := init cfg2 } asisRun).s.viol = true ∧
    (arunAsIs cfg2 2 { s := init cfg2 } (asisRun.take 9)).s.viol = false ∧
    (arunAsIs cfg2 2 { s := init cfg2 } (asisRun.take 9)).s.live (1, 0) = false ∧
    (arunAsIs cfg2 2 { s := init cfg2 } (asisRun.take 9)).recheck 1 = some (1, (1, 0)) ∧
    (arunAsIs cfg2 2 { s := init cfg2 } asisRun).s.acc = [⟨1, Seen.node 1 0, Field.next, false⟩] ∧
    (arunAsIs cfg2 2 { s := init cfg2 } asisRun).s.pc 1 = Pc.build := by decide

/- the repaired step under the same activity list: no violation, coroutine 1 simply finished its round -/
example : Mutex.Guarded cfg2 (Mutex.init cfg2) asisRun ∧ (arun cfg2 2 (init cfg2) asisRun).viol = false ∧
    (arun cfg2 2 (init cfg2) asisRun).pc 1 = Pc.relDone := by decide

end Cocls.MutexPtr
