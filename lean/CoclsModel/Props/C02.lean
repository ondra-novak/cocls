import CoclsModel.ChainProofs
import CoclsModel.ChainPtrProofs
/-!
# C02 — no lost, early or duplicate wake-up of a future's waiters

Same model and quantifiers as C01 (`Chain.lean`; every configuration `c : Cfg` — any number of waiters of every kind:
coroutine, blocking thread, callback, `has_value()` awaiter, against any number of resolver calls and destructor
agents (`~promise`, and `~promise_with_default` resolving with a default value) — and every schedule: `Reachable c s` =
`∃ sched, s = run c (init c) sched`).

Ghost fields read by the statements: `subscribed w` (w's CAS push succeeded), `woken w` (number of times the walker
released `w`: `flag.store(true)` for a blocking waiter, resume / callback invocation otherwise), `observed w` (number
of times the result was read for `w`: by `w` itself, or inline by the walker that resumed it); `Ev.obs w o` is that
read and its value.
-/
namespace Cocls.Chain

def c02Cfg : Cfg :=
  { n := 6
    kind := fun i => match i with
      | 0 => Kind.res (RK.value 7)
      | 1 => Kind.wait WK.coro
      | 2 => Kind.wait WK.sync
      | 3 => Kind.wait WK.cb
      | 4 => Kind.wait WK.hasv
      | _ => Kind.dtor }

/-- waiters 1, 2, 3 subscribe (2 and 3 each retry their CAS once), 2 blocks in `wait()`, the resolver claims, sets and
exchanges, waiter 4 comes late and finds the future ready, the walker releases the chain, everybody finishes -/
def c02Sched : List Nat := [1, 1, 2, 2, 3, 2, 3, 3, 2, 0, 0, 4, 0, 0, 4, 2, 2, 1, 3, 5, 5]

/-! ## at most once -/

/-- **No duplicate wake-up.**  In every reachable state every waiter has been released at most once, and only if it
had subscribed. -/
theorem c02_woken_at_most_once (c : Cfg) (s : State) (hr : Reachable c s) (w : Nat) :
    s.woken w ≤ 1 ∧ (1 ≤ s.woken w → s.subscribed w = true) := by
  have := hr.inv.woken_le w
  split at this
  · exact ⟨this, fun _ => ‹_›⟩
  · exact ⟨by omega, fun _ => by omega⟩

/-- **The result is read at most once per waiter**, and only for waiter agents of the configuration. -/
theorem c02_observed_at_most_once (c : Cfg) (s : State) (hr : Reachable c s) (w : Nat) :
    s.observed w ≤ 1 ∧ (1 ≤ s.observed w → isW c w = true) := by
  have := hr.inv.observed_le w
  split at this
  · exact ⟨by omega, fun _ => ‹_›⟩
  · exact ⟨by omega, fun _ => by omega⟩

/-- the same at trace level: in the event trace of any schedule there is at most one result read per waiter -/
theorem c02_observed_at_most_once_trace (c : Cfg) (sched : List Nat) (w : Nat) :
    (runEv c (init c) sched).2.countP (isObsOf w) ≤ 1 := by
  rw [obs_count]; exact (c02_observed_at_most_once c _ (reachable_run c sched) w).1

example : (run c02Cfg (init c02Cfg) c02Sched).woken 1 = 1 ∧ (run c02Cfg (init c02Cfg) c02Sched).woken 2 = 1
    ∧ (run c02Cfg (init c02Cfg) c02Sched).woken 3 = 1 ∧ (run c02Cfg (init c02Cfg) c02Sched).woken 4 = 0 := by decide
example : (List.range 6).map (run c02Cfg (init c02Cfg) c02Sched).observed = [0, 1, 1, 1, 1, 0] := by decide

/-! ## never early -/

/-- **Never early.**  A waiter is released (and a blocking waiter's flag set, and a waiter gets to its result read)
only when the slot is already `ready` — hence (`c01_result_is_winners`, `c01_stable`) the result is complete and
final; and no result read emitted by any step from a reachable state ever sees "not ready". -/
theorem c02_never_early (c : Cfg) (s : State) (hr : Reachable c s) :
    (∀ w, 1 ≤ s.woken w → s.slot = Slot.ready) ∧
    (∀ w, s.flag w = true → s.slot = Slot.ready) ∧
    (∀ w, s.pc w = Pc.wRead ∨ (∃ sn, s.pc w = Pc.wRead2 sn) → s.slot = Slot.ready) ∧
    (∀ t w o, Ev.obs w o ∈ (astep c s t).2 → s.slot = Slot.ready ∧ o ≠ Obs.notready) := by
  have h := hr.inv
  refine ⟨?_, ?_, ?_, ?_⟩
  · exact fun w hw => Decidable.by_contra fun hs => by have := ((h.pending hs).2.1 w).1; omega
  · exact fun w => h.ready_of_flag
  · intro w hw
    rcases hw with hw | ⟨sn, hw⟩
    · exact (h.reader w).1 hw
    · exact ((h.reader w).2 sn hw).2
  · intro t w o he
    obtain ⟨hs, ho, _, _⟩ := (astep_step c s t).obs h w o he
    exact ⟨hs, ho ▸ obsOf_ready_ne s _⟩

example : (run c02Cfg (init c02Cfg) (c02Sched.take 9)).slot ≠ Slot.ready
    ∧ (List.range 6).map (run c02Cfg (init c02Cfg) (c02Sched.take 9)).woken = [0, 0, 0, 0, 0, 0] := by decide

/-! ## the released waiter sees the complete result -/

/-- **Sees the result.**  Every result read `Ev.obs w o` emitted by any step from a reachable state — whether `w` took
the ready path, the refused-subscribe path, was woken from `wait()`, or is a callback / coroutine resumed inline by the
walker — is a read by a waiter agent `w` of the configuration that had not read before, happens with the slot `ready`,
and returns exactly the value of the future's final result (`obsOf` of the payload, which equals the winner's payload by
`c01_result_is_winners`), where "final" is literal: the same in every state reached by any continuation of the
schedule. -/
theorem c02_sees_result (c : Cfg) (s : State) (hr : Reachable c s) (t w : Nat) (o : Obs)
    (he : Ev.obs w o ∈ (astep c s t).2) :
    isW c w = true ∧ s.observed w = 0 ∧ s.slot = Slot.ready ∧
    ∀ sched', o = obsOf (run c s sched') (wkOf c w) Seen.ready := by
  obtain ⟨hs, ho, hw, h0⟩ := (astep_step c s t).obs hr.inv w o he
  refine ⟨hw, h0, hs, ?_⟩
  intro sched'
  rw [ho]
  exact (obsOf_congr _ _ (run_stable sched' hr.inv hs).2 _ _).symm

example : Ev.obs 1 (Obs.val 7) ∈ (runEv c02Cfg (init c02Cfg) c02Sched).2
    ∧ Ev.obs 2 (Obs.val 7) ∈ (runEv c02Cfg (init c02Cfg) c02Sched).2
    ∧ Ev.obs 3 (Obs.val 7) ∈ (runEv c02Cfg (init c02Cfg) c02Sched).2
    ∧ Ev.obs 4 (Obs.hv true) ∈ (runEv c02Cfg (init c02Cfg) c02Sched).2 := by decide

/-- **Sees the result, whole-run form.**  For every schedule: every result read that occurs anywhere in the trace of
the run returns the value of the result as it stands at the *end* of that run, and is never "not ready". -/
theorem c02_sees_result_trace (c : Cfg) (sched : List Nat) (w : Nat) (o : Obs)
    (he : Ev.obs w o ∈ (runEv c (init c) sched).2) :
    (run c (init c) sched).slot = Slot.ready ∧ o = obsOf (run c (init c) sched) (wkOf c w) Seen.ready
      ∧ o ≠ Obs.notready := by
  obtain ⟨hs, ho⟩ := obs_final c sched w o he
  exact ⟨hs, ho, ho ▸ obsOf_ready_ne _ _⟩

example : (runEv c02Cfg (init c02Cfg) c02Sched).2.countP (isObsOf 3) = 1 := by decide

/-! ## no lost wake-up -/

/-- **No lost wake-up.**  In every reachable state in which the resolving agent (the winning call, or the destructor
if it resolved) has finished — `done`, or `dFin` for `~promise_with_default`, whose base destructor runs after its walk —
the slot is `ready`, every subscribed waiter has been released exactly once, and every waiter agent either has had its
result read exactly once or is itself still on its way to read it (and then it is not blocked: its next step is enabled). -/
theorem c02_no_lost_wakeup (c : Cfg) (s : State) (hr : Reachable c s) (r : Nat) (hwin : s.winner = some r)
    (hdone : s.pc r = Pc.done ∨ s.pc r = Pc.dFin) :
    s.slot = Slot.ready ∧
    (∀ w, s.subscribed w = true → s.woken w = 1) ∧
    (∀ w, isW c w = true → s.observed w = 1 ∨ (s.observed w = 0 ∧ s.pc w ≠ Pc.done ∧ enabled c s w = true)) := by
  have h := hr.inv
  have hs : s.slot = Slot.ready := h.ready_of_winner hwin (by rcases hdone with e | e <;> rw [e] <;> rfl)
  have hacts : actsOf (s.pc r) = [] := by rcases hdone with e | e <;> rw [e] <;> rfl
  refine ⟨hs, fun w hw => ?_, fun w hw => ?_⟩
  · have := h.readyW hs r hwin w
    rwa [hacts, if_pos hw] at this
  · have hO := h.readyO hs r hwin w
    rw [hacts, if_pos hw] at hO
    by_cases ho : s.observed w = 1
    · exact Or.inl ho
    · -- `w` still has to read for itself, so it is at none of the pcs that can be disabled but `wBlocked`
      have hp : selfP (s.pc w) = 1 := by simp only [cntO_nil] at hO; omega
      refine Or.inr ⟨by omega, fun hd => (by rw [hd] at hp; cases hp), ?_⟩
      unfold enabled
      split
      · rename_i hd; rw [hd] at hp; cases hp
      · exact h.flag_of_blocked hs hwin hacts ‹_›
      · rename_i hd; rw [hd] at hp; cases hp
      · rfl

/-- **Exactly once at quiescence.**  When all agents have finished (and there is a resolving party), every waiter agent
of the configuration has had its result read exactly once, every subscribed waiter was released exactly once, and
a waiter that did not subscribe (it found the future ready) was never "released". -/
theorem c02_exactly_once_quiescent (c : Cfg) (s : State) (hr : Reachable c s) (hwf : WF c) (hq : Quiescent c s) (w : Nat)
    (hw : isW c w = true) :
    s.observed w = 1 ∧ s.woken w = if s.subscribed w = true then 1 else 0 := by
  have hall := hq.all hr.inv
  obtain ⟨_, hs, r, hr'⟩ := hr.inv.quiescent_ready hwf hq
  have hO := hr.inv.readyO hs r hr' w
  have hW := hr.inv.readyW hs r hr' w
  simp only [hall, actsOf, selfP, cntO_nil, cntW_nil, hw, if_true, Nat.add_zero] at hO hW
  exact ⟨hO, hW⟩

example : WF c02Cfg ∧ Quiescent c02Cfg (run c02Cfg (init c02Cfg) c02Sched) := by decide
example : (List.range 6).map (run c02Cfg (init c02Cfg) c02Sched).subscribed = [false, true, true, true, false, false] := by decide
/-- the hypothesis of `c02_no_lost_wakeup` in a non-quiescent state: the walker has finished, waiter 2 (blocking) not yet -/
example : (run c02Cfg (init c02Cfg) (c02Sched.take 14)).winner = some 0
    ∧ (run c02Cfg (init c02Cfg) (c02Sched.take 14)).pc 0 = Pc.done
    ∧ (run c02Cfg (init c02Cfg) (c02Sched.take 14)).pc 2 = Pc.wBlocked
    ∧ enabled c02Cfg (run c02Cfg (init c02Cfg) (c02Sched.take 14)) 2 = true := by decide

/-- the same with the destruction of a `promise_with_default` (default 42) as the resolving agent: after its walk (`dFin`,
the base destructor still to return) the callback waiter and the `has_value()` awaiter have been served inline, the
blocking waiter is released and can go on -/
example :
    let c : Cfg := { n := 4, kind := fun i => match i with
      | 0 => Kind.wait WK.cb | 1 => Kind.wait WK.sync | 2 => Kind.wait WK.hasv | _ => Kind.ddef 42 }
    let s := run c (init c) [0, 0, 1, 1, 1, 1, 2, 2, 2, 3, 3, 3, 3]
    s.winner = some 3 ∧ s.pc 3 = Pc.dFin ∧ s.observed 0 = 1 ∧ s.observed 2 = 1 ∧ s.woken 1 = 1
      ∧ s.pc 1 = Pc.wBlocked ∧ enabled c s 1 = true
      ∧ Ev.obs 0 (Obs.val 42) ∈ (runEv c (init c) [0, 0, 1, 1, 1, 1, 2, 2, 2, 3, 3, 3, 3]).2
      ∧ Ev.obs 2 (Obs.hv true) ∈ (runEv c (init c) [0, 0, 1, 1, 1, 1, 2, 2, 2, 3, 3, 3, 3]).2 := by decide

/-- **Not stuck.**  With a resolving party in the configuration, a reachable state in which no agent is enabled is a
state in which every agent has finished: there is no deadlock and no waiter is left suspended. -/
theorem c02_not_stuck (c : Cfg) (s : State) (hr : Reachable c s) (hwf : WF c)
    (hstuck : ∀ t, t < c.n → enabled c s t = false) : ∀ t, s.pc t = Pc.done := by
  obtain ⟨r, hr', hk⟩ := hwf
  apply hr.inv.not_stuck hr' hk
  intro t
  by_cases ht : t < c.n
  · exact hstuck t ht
  · have := hr.inv.range t (by omega)
    simp [enabled, this]

/-- the hypothesis is satisfiable: at the end of `c02Sched` nobody is enabled -/
example : ∀ t, t < c02Cfg.n → enabled c02Cfg (run c02Cfg (init c02Cfg) c02Sched) t = false := by decide

/-- without a resolving party a blocking waiter does hang (so `WF` cannot be dropped) -/
example : let c : Cfg := { n := 1, kind := fun _ => Kind.wait WK.sync }
    (run c (init c) [0, 0, 0]).pc 0 = Pc.wBlocked ∧ enabled c (run c (init c) [0, 0, 0]) 0 = false := by decide

/-! ## shape of the chain -/

/-- **Chain shape (before the exchange).**  While the slot holds a chain `l`: `l` has no duplicates; its members are
exactly the subscribed waiters; each of them is a waiter agent that has not been released and is parked — a blocking
waiter in `flag.wait`, any other kind returned from `await_suspend` / `subscribe`. -/
theorem c02_chain_shape (c : Cfg) (s : State) (hr : Reachable c s) (l : List Nat) (hl : s.slot = Slot.chain l) :
    l.Nodup ∧ (∀ x, x ∈ l ↔ s.subscribed x = true) ∧
    ∀ x, x ∈ l → isW c x = true ∧ s.woken x = 0 ∧
      (if wkOf c x = WK.sync then s.pc x = Pc.wWait ∨ s.pc x = Pc.wBlocked
       else s.pc x = Pc.wFinParked ∨ s.pc x = Pc.done) := by
  have h := hr.inv
  have hmem := h.mem_chain_iff hl
  refine ⟨?_, hmem, ?_⟩
  · rw [List.nodup_iff_count]
    intro x; have := h.chainW l hl x; split at this <;> omega
  · intro x hx
    have hsub := (hmem x).1 hx
    obtain ⟨hw, hpc⟩ := h.sub x hsub
    have hfl := ((h.chain_phase l hl).2.1 x)
    refine ⟨hw, hfl.1, ?_⟩
    split at hpc
    · rw [if_pos ‹_›]
      exact hpc.imp id fun e => e.resolve_right fun a => by rw [hfl.2] at a; cases a.1
    · rwa [if_neg ‹_›]

/-- **Chain shape (after the exchange).**  While the winner walks the detached chain with remaining actions `acts`: the
subscribed waiters not yet released are exactly the targets of the remaining `store` / `wake` actions, each occurring
once; `store` targets are blocking waiters, `wake` targets are not; and nobody can subscribe any more (the slot is `ready`). -/
theorem c02_walk_shape (c : Cfg) (s : State) (hr : Reachable c s) (t : Nat) (dt : Bool) (acts : List Act)
    (hpc : s.pc t = Pc.rRun dt acts) :
    s.slot = Slot.ready ∧
    (∀ x, (s.subscribed x = true ∧ s.woken x = 0) ↔ (Act.store x ∈ acts ∨ Act.wake x ∈ acts)) ∧
    (∀ x, cntW x acts ≤ 1) ∧
    (∀ x, Act.store x ∈ acts → wkOf c x = WK.sync) ∧ (∀ x, Act.wake x ∈ acts → wkOf c x ≠ WK.sync) := by
  have h := hr.inv
  obtain ⟨hs, hw⟩ := h.ready_of_run hpc
  have hW : ∀ x, s.woken x + cntW x acts = if s.subscribed x = true then 1 else 0 := fun x => by
    have := h.readyW hs t hw x
    rwa [hpc] at this
  have hok : ∀ a ∈ acts, ActOK c a := (actsOK_iff c acts).1 (by have := h.actsok t; rwa [hpc] at this)
  refine ⟨hs, fun x => ?_, fun x => ?_, fun x hx => hok _ hx, fun x hx => hok _ hx⟩
  · rw [← cntW_pos_iff]
    have := hW x
    split at this
    · simp only [‹s.subscribed x = true›, true_and]; omega
    · exact ⟨fun h1 => absurd h1.1 ‹_›, fun h1 => by omega⟩
  · have := hW x
    split at this <;> omega

example : (run c02Cfg (init c02Cfg) (c02Sched.take 8)).slot = Slot.chain [3, 2, 1] := by decide
example : (run c02Cfg (init c02Cfg) (c02Sched.take 11)).pc 0 = Pc.rRun false [Act.wake 3, Act.store 2, Act.wake 1] := by decide

/-! ## the resolver is a coroutine that awaits its suspend point: `bool won = co_await promise(...)`

`Cfg.aw t` marks such a resolver call.  Claim, `set`, the exchange and the walk are those of every call; the suspend point with
the collected coroutine handles is not dropped (its destructor resumes them in order) but awaited, which resumes them in
`awaitOrder`.  `Cfg.aw` is a field of the configuration, so **every theorem of this file and of `Props/C01.lean` covers awaiting
resolvers**; what is specific to them is the order below. -/

/-- the blocking waiters and callbacks of a detached chain `l`, handled while it is walked (chain order) -/
def inWalkActs (c : Cfg) (l : List Nat) : List Act :=
  (l.filter (fun x => wkOf c x = WK.sync ∨ wkOf c x = WK.cb)).map
    (fun x => if wkOf c x = WK.sync then Act.store x else Act.wake x)

/-- the coroutine-like waiters (coroutines, `has_value()` awaiters) of a detached chain `l`: their handles are collected -/
def collected (c : Cfg) (l : List Nat) : List Nat :=
  l.filter (fun x => ¬ (wkOf c x = WK.sync ∨ wkOf c x = WK.cb))

/-- **Order of release.**  The exchange of agent `t` on a chain `l` leaves it with: the blocking waiters and callbacks of `l` in
chain order, then the collected coroutines — in collection order when the suspend point is dropped, and when `t` awaits it
the *last* collected one first, followed by the others in collection order (`awaitOrder (r ++ [y]) = y :: r`). -/
theorem c02_await_order (c : Cfg) (s : State) (t : Nat) (dt : Bool) (l : List Nat)
    (hpc : s.pc t = Pc.rResolve dt) (hs : s.slot = Slot.chain l) :
    (astep c s t).1.pc t = Pc.rRun dt (inWalkActs c l ++
      (if c.aw t then awaitOrder (collected c l) else collected c l).map Act.wake)
    ∧ awaitOrder [] = []
    ∧ (∀ (r : List Nat) (y : Nat), awaitOrder (r ++ [y]) = y :: r) := by
  refine ⟨?_, rfl, awaitOrder_snoc⟩
  simp only [astep, hpc, hs, chainOf, setPc, upd_same, buildActs, resumeOrder, inWalkActs, collected]

/-- **Awaiting releases the same waiters.**  Whether agent `t` awaits its suspend point or drops it, the walk performs the same
actions on the same waiters, each as often — only the order of the coroutine resumptions differs. -/
theorem c02_await_same_waiters (c : Cfg) (t : Nat) (l : List Nat) :
    (buildActs c t l).Perm (buildActs { c with aw := fun _ => false } t l) :=
  (buildActs_perm c t l).trans (buildActs_perm { c with aw := fun _ => false } t l).symm

/-- witness: two coroutines, a `has_value()` awaiter and a callback wait; the resolver (agent 4) is a coroutine awaiting its call -/
def c02AwCfg : Cfg :=
  { n := 5
    kind := fun i => match i with
      | 0 => Kind.wait WK.coro
      | 1 => Kind.wait WK.hasv
      | 2 => Kind.wait WK.coro
      | 3 => Kind.wait WK.cb
      | _ => Kind.res (RK.value 7)
    aw := fun i => i == 4 }
def c02AwSched : List Nat := [0, 0, 0, 1, 1, 1, 1, 2, 2, 2, 2, 3, 3, 3, 3, 4, 4, 4]

-- the chain is [3, 2, 1, 0]; the callback 3 is invoked while walking, the collected handles are 2, 1, 0: resumed 0, 2, 1
example : (run c02AwCfg (init c02AwCfg) (c02AwSched.take 17)).pc 4
    = Pc.rRun false [Act.wake 3, Act.wake 0, Act.wake 2, Act.wake 1] := by decide
example : (runEv c02AwCfg (init c02AwCfg) c02AwSched).2.drop 17
    = [Ev.obs 3 (Obs.val 7), Ev.obs 0 (Obs.val 7), Ev.obs 2 (Obs.val 7), Ev.obs 1 (Obs.hv true), Ev.ret 4 true, Ev.fin 4] := by decide
example : Quiescent c02AwCfg (run c02AwCfg (init c02AwCfg) c02AwSched)
    ∧ (List.range 5).map (run c02AwCfg (init c02AwCfg) c02AwSched).observed = [1, 1, 1, 1, 0] := by decide
-- the same run with the suspend point dropped: 2, 1, 0
example : (run { c02AwCfg with aw := fun _ => false } (init c02AwCfg) (c02AwSched.take 17)).pc 4
    = Pc.rRun false [Act.wake 3, Act.wake 2, Act.wake 1, Act.wake 0] := by decide

end Cocls.Chain

/-!
# C02, pointer level — the list abstraction of the awaiter chain is a theorem

Model: `ChainPtr.lean` — the same agents, steps and events as `Chain.lean`, but the chain is what `awaiter.h` has: the atomic slot
(`head`), one intrusive `_next` field per awaiter node (`next`), the walker's local `chain` pointer and the handles collected in its
suspend point; ghost `live` (the node has not died) and `log` (every plain access to a node field with snapshots of the node's
liveness and publication).  `abs : ChainPtr.State → Chain.State` reads the lists off the pointers.  All statements quantify over
every configuration and every schedule (`PReachable c s` = `∃ sched, s = prun c (init c) sched`).
-/
namespace Cocls.ChainPtr
open Cocls.Chain (RK WK Kind Seen Cfg wkOf Slot Act c02Cfg c02Sched)

/-! ## the refinement -/

/-- **The pointer-level model refines the list-level model** (whole runs).  For every configuration and every schedule, the
list-level state denoted by the pointer-level run — the chain read off the `_next` fields, the walker's remaining work read off
its local pointer — *is* the list-level run, and the two runs emit the same trace of events.  Every list-level theorem of
C01 / C02 therefore holds of the pointer-level run. -/
theorem c02_ptr_refines_list (c : Cfg) (sched : List Nat) :
    abs c (prun c (init c) sched) = Chain.run c (Chain.init c) sched
      ∧ (prunEv c (init c) sched).2 = (Chain.runEv c (Chain.init c) sched).2 :=
  ⟨sim_run c sched, sim_runEv c sched⟩

/-- **One-step refinement.**  From every reachable pointer-level state, for every agent `t`: the abstraction commutes with the
step, the step emits the same events as the list-level step, and `t` is enabled at one level iff it is at the other. -/
theorem c02_ptr_step_refines (c : Cfg) (s : State) (hr : PReachable c s) (t : Nat) :
    abs c (pstep c s t).1 = (Chain.astep c (abs c s) t).1
      ∧ (pstep c s t).2 = (Chain.astep c (abs c s) t).2
      ∧ enabled c s t = Chain.enabled c (abs c s) t :=
  ⟨(sim_step hr.inv t).1, (sim_step hr.inv t).2, enabled_eq c s t⟩

/-- the witness run of the list-level theorems at pointer level: after the three pushes the slot heads `w3 → w2 → w1 → null`,
which `abs` reads as the list `[3, 2, 1]`; the exchange hands the head to the walker -/
example : (prun c02Cfg (init c02Cfg) (c02Sched.take 8)).head = Seen.node 3
    ∧ (prun c02Cfg (init c02Cfg) (c02Sched.take 8)).next 3 = Seen.node 2
    ∧ (prun c02Cfg (init c02Cfg) (c02Sched.take 8)).next 2 = Seen.node 1
    ∧ (prun c02Cfg (init c02Cfg) (c02Sched.take 8)).next 1 = Seen.null
    ∧ (abs c02Cfg (prun c02Cfg (init c02Cfg) (c02Sched.take 8))).slot = Slot.chain [3, 2, 1]
    ∧ (prun c02Cfg (init c02Cfg) (c02Sched.take 11)).pc 0 = Pc.rWalk false (Seen.node 3) [] none
    ∧ (prun c02Cfg (init c02Cfg) (c02Sched.take 11)).head = Seen.ready
    ∧ (prun c02Cfg (init c02Cfg) c02Sched).log.length = 21 := by decide
/-- a failed CAS stored the observed head into the subscriber's own `_next`: the expected value of the retry -/
example : (prun c02Cfg (init c02Cfg) (c02Sched.take 4)).pc 2 = Pc.wCas false
    ∧ (prun c02Cfg (init c02Cfg) (c02Sched.take 4)).next 2 = Seen.node 1
    ∧ (abs c02Cfg (prun c02Cfg (init c02Cfg) (c02Sched.take 4))).pc 2 = Chain.Pc.wCas (Seen.node 1) := by decide
/-- the walker in the middle of the chain: callback 3 served, the blocking waiter 2 released by the `flag.store` that ended the
step, local pointer at `w1`, all visited `_next` fields cleared -/
example : (prun c02Cfg (init c02Cfg) (c02Sched.take 13)).pc 0 = Pc.rWalk false (Seen.node 1) [] none
    ∧ (prun c02Cfg (init c02Cfg) (c02Sched.take 13)).next 3 = Seen.null
    ∧ (prun c02Cfg (init c02Cfg) (c02Sched.take 13)).next 2 = Seen.null
    ∧ (prun c02Cfg (init c02Cfg) (c02Sched.take 13)).live 3 = false
    ∧ (prun c02Cfg (init c02Cfg) (c02Sched.take 13)).live 2 = true
    ∧ (prun c02Cfg (init c02Cfg) (c02Sched.take 13)).live 1 = true := by decide

/-- a resolution without a value (`drop`): `value()` inside the callback and inside the resumed coroutine performs the `pending()`
load — a step boundary in the middle of `resume()`; the late refused waiter 3 clears its `_next` in the segment after the CAS -/
def c02PtrCfgDrop : Cfg :=
  { n := 5
    kind := fun i => match i with
      | 0 => Kind.res RK.drop
      | 1 => Kind.wait WK.cb
      | 2 => Kind.wait WK.coro
      | 3 => Kind.wait WK.coro
      | _ => Kind.dtor }
def c02PtrSchedDrop : List Nat := [1, 1, 2, 2, 2, 3, 0, 0, 3, 0, 3, 0, 0, 3, 1, 2, 4, 4]

example : (prun c02PtrCfgDrop (init c02PtrCfgDrop) (c02PtrSchedDrop.take 10)).pc 0 = Pc.rWalk false Seen.null [2] (some (1, Seen.ready))
    ∧ (prun c02PtrCfgDrop (init c02PtrCfgDrop) (c02PtrSchedDrop.take 10)).pc 3 = Pc.wRead true
    ∧ (prun c02PtrCfgDrop (init c02PtrCfgDrop) (c02PtrSchedDrop.take 10)).next 3 = Seen.ready
    ∧ (prun c02PtrCfgDrop (init c02PtrCfgDrop) (c02PtrSchedDrop.take 11)).next 3 = Seen.null
    ∧ (abs c02PtrCfgDrop (prun c02PtrCfgDrop (init c02PtrCfgDrop) (c02PtrSchedDrop.take 10))).pc 0
        = Chain.Pc.rRun false [Act.obsAfter 1 Seen.ready, Act.wake 2]
    ∧ (prun c02PtrCfgDrop (init c02PtrCfgDrop) (c02PtrSchedDrop.take 12)).pc 0 = Pc.rWalk false Seen.null [] (some (2, Seen.ready))
    ∧ (∀ t, t < 5 → (prun c02PtrCfgDrop (init c02PtrCfgDrop) c02PtrSchedDrop).pc t = Pc.done)
    ∧ (prunEv c02PtrCfgDrop (init c02PtrCfgDrop) c02PtrSchedDrop).2
        = (Chain.runEv c02PtrCfgDrop (Chain.init c02PtrCfgDrop) c02PtrSchedDrop).2 := by
  decide

/-! ## node-lifetime safety -/

/-- **The walk is safe: no access to a dead node, ever.**  In every reachable state, every plain access to a field of an awaiter
node that has been performed (`log`), and every access that the next step of *any* agent performs, touched a node that was
live at the moment of the access — where a blocking waiter's stack node dies when its thread passes `flag.wait`, and a
coroutine's / callback's node dies when it is resumed / invoked.  In particular the walker of `resume_chain_lk` reads
`y->_next`, clears it and reads the resumption target *before* `y->resume()`, and never touches `y` afterwards. -/
theorem c02_walk_safe (c : Cfg) (s : State) (hr : PReachable c s) :
    (∀ a, a ∈ s.log → a.live = true) ∧ (∀ t a, a ∈ (pstep c s t).1.log → a.live = true) :=
  ⟨fun a ha => (hr.inv.log a ha).live, fun t a ha => (step_log_ok hr.inv t a ha).live⟩

/-- what the walker still holds is intact: while the walker stands at local pointer `cur`, the nodes reachable from `cur` form a
chain `l` without repetition, each node of it belongs to a subscribed waiter that has not been released and is live, and the
walker itself is none of them, nor is any of them among the handles already collected -/
theorem c02_walk_nodes_live (c : Cfg) (s : State) (hr : PReachable c s) (t : Nat) (dt : Bool) (cur : Ptr) (ret : List Nat)
    (pend : Option (Nat × Seen)) (hpc : s.pc t = Pc.rWalk dt cur ret pend) :
    s.head = Seen.ready ∧ ∃ l, ChainIs s.next cur l ∧ l.Nodup ∧
      ∀ x, x ∈ l → s.subscribed x = true ∧ s.woken x = 0 ∧ s.live x = true ∧ x ≠ t ∧ x ∉ ret := by
  have h := hr.inv
  obtain ⟨hh, _, hc, _, hn⟩ := h.walk_facts hpc
  refine ⟨hh, _, hc, chainIs_nodup hc, fun x hx => ?_⟩
  obtain ⟨h1, h2, h3, h4⟩ := hn x hx
  exact ⟨h1, h2, h.str.alive x h2, h3, h4⟩

example : (prun c02Cfg (init c02Cfg) (c02Sched.take 13)).pc 0 = Pc.rWalk false (Seen.node 1) [] none
    ∧ ChainIs (prun c02Cfg (init c02Cfg) (c02Sched.take 13)).next (Seen.node 1) [1] :=
  ⟨by decide, ChainIs.cons (by rw [show (prun c02Cfg (init c02Cfg) (c02Sched.take 13)).next 1 = Seen.null by decide]; exact ChainIs.nil)⟩

/-- **No touch after publish.**  In every reachable state, every logged access obeys the ownership discipline: a waiter accesses
its own node only while the node is unpublished (never after its successful CAS — from then on another thread may resume it
and the node may be gone); any other agent that accesses a node is not a waiter (it is the walker, after the exchange), and the
node it accesses is a published one.  Hence owner and walker never access the same node concurrently. -/
theorem c02_no_touch_after_publish (c : Cfg) (s : State) (hr : PReachable c s) (a : Access) (ha : a ∈ s.log) :
    (a.agent = a.node → a.pub = false) ∧
    (a.agent ≠ a.node → a.pub = true ∧ Chain.isW c a.agent = false ∧ Chain.isW c a.node = true) :=
  ⟨(hr.inv.log a ha).own, (hr.inv.log a ha).other⟩

/-- the same for the accesses of the next step of any agent -/
theorem c02_no_touch_after_publish_step (c : Cfg) (s : State) (hr : PReachable c s) (t : Nat) (a : Access)
    (ha : a ∈ (pstep c s t).1.log) :
    (a.agent = a.node → a.pub = false) ∧
    (a.agent ≠ a.node → a.pub = true ∧ Chain.isW c a.agent = false ∧ Chain.isW c a.node = true) :=
  ⟨(step_log_ok hr.inv t a ha).own, (step_log_ok hr.inv t a ha).other⟩

/-- the witness run has accesses of both kinds (12 by subscribers to their own unpublished nodes, 9 by the walker to published
nodes), all to live nodes; and nodes do die in it (the callback's when invoked, the coroutine's when resumed, the blocking
waiter's when it passes the wait) -/
example : ((prun c02Cfg (init c02Cfg) c02Sched).log.filter (fun a => a.agent == a.node)).length = 12
    ∧ ((prun c02Cfg (init c02Cfg) c02Sched).log.filter (fun a => a.agent != a.node)).length = 9
    ∧ (prun c02Cfg (init c02Cfg) c02Sched).log.all (fun a => a.live && (a.pub == (a.agent != a.node))) = true
    ∧ (List.range 6).map (prun c02Cfg (init c02Cfg) c02Sched).live = [true, false, false, false, true, true] := by decide

/-! ### as-is negative witness: the classic broken walker

`auto y = chain; ret << y->resume(); chain = y->_next; y->_next = nullptr;` (`AsIs.pstepAsIs`: the same model with this loop
body).  A resolver, a blocking waiter (1) and a callback (2): the callback is invoked and its node read afterwards within one
step; the blocking waiter is released by the `flag.store`, passes its wait and returns, and the walker's next step reads and
writes `_next` of its dead stack node. -/

def c02AsIsCfg : Cfg :=
  { n := 3
    kind := fun i => match i with
      | 0 => Kind.res (RK.value 7)
      | 1 => Kind.wait WK.sync
      | _ => Kind.wait WK.cb }
def c02AsIsSched : List Nat := [1, 1, 1, 2, 2, 2, 0, 0, 0, 1, 0, 1, 2]

/-- **The safety theorem is not vacuous**: on `c02AsIsSched` the resume-before-read walker accesses dead nodes — the `_next` of
the callback's node after the callback ran, and the `_next` of the blocking waiter's stack node after that thread passed its
wait (read and write) -/
theorem c02_walk_asis_witness :
    (AsIs.prunAsIs c02AsIsCfg ⟨init c02AsIsCfg, none⟩ c02AsIsSched).s.log.any
        (fun a => a.agent == 0 && a.node == 2 && a.field == Field.next && !a.live) = true
    ∧ (AsIs.prunAsIs c02AsIsCfg ⟨init c02AsIsCfg, none⟩ c02AsIsSched).s.log.any
        (fun a => a.agent == 0 && a.node == 1 && a.field == Field.next && a.write && !a.live) = true
    ∧ (AsIs.prunAsIs c02AsIsCfg ⟨init c02AsIsCfg, none⟩ c02AsIsSched).s.pc 0 = Pc.done := by decide

/-- the same configuration and schedule with the walker as coded: every access is to a live node -/
example : (prun c02AsIsCfg (init c02AsIsCfg) c02AsIsSched).log.all (fun a => a.live) = true
    ∧ (prun c02AsIsCfg (init c02AsIsCfg) c02AsIsSched).log.length = 13
    ∧ (prun c02AsIsCfg (init c02AsIsCfg) c02AsIsSched).pc 0 = Pc.done := by decide

/-! ## transport of the list-level theorems -/

/-- **The list-level theorems hold of the pointer-level run** (transport through `abs`; three of them spelled out).  In every
reachable pointer-level state every waiter has been released at most once and only after its CAS succeeded, the result has been
read at most once per waiter (`c02_woken_at_most_once`, `c02_observed_at_most_once`); and at quiescence — with a resolving party
in the configuration — every waiter agent has had its result read exactly once, every published waiter was released exactly
once (`c02_exactly_once_quiescent`). -/
theorem c02_ptr_properties_transfer (c : Cfg) (s : State) (hr : PReachable c s) (w : Nat) :
    s.woken w ≤ 1 ∧ (1 ≤ s.woken w → s.subscribed w = true) ∧ s.observed w ≤ 1 ∧
    (Chain.WF c → (∀ t, t < c.n → s.pc t = Pc.done) → Chain.isW c w = true →
      s.observed w = 1 ∧ s.woken w = if s.subscribed w = true then 1 else 0) := by
  have hl := hr.abs
  obtain ⟨h1, h2⟩ := Chain.c02_woken_at_most_once c (abs c s) hl w
  refine ⟨h1, h2, (Chain.c02_observed_at_most_once c (abs c s) hl w).1, ?_⟩
  intro hwf hq hw
  have hq' : Chain.Quiescent c (abs c s) := by
    intro t ht
    rw [abs_pc, hq t ht]; rfl
  exact Chain.c02_exactly_once_quiescent c (abs c s) hl hwf hq' w hw

/-- **Shape of the pointer chain before the exchange** (`c02_chain_shape` transported, plus what only the pointer level can say):
while the slot is not `ready`, following `_next` from the head reaches null after visiting a list `l` without repetition; its
nodes are exactly the published waiters; each of them is unreleased, live and parked; and nobody walks. -/
theorem c02_ptr_chain_shape (c : Cfg) (s : State) (hr : PReachable c s) (hh : s.head ≠ Seen.ready) :
    ∃ l, ChainIs s.next s.head l ∧ l.Nodup ∧ (∀ x, x ∈ l ↔ s.subscribed x = true) ∧
      (∀ x, x ∈ l → Chain.isW c x = true ∧ s.woken x = 0 ∧ s.live x = true ∧
        (if wkOf c x = WK.sync then s.pc x = Pc.wWait ∨ s.pc x = Pc.wBlocked else s.pc x = Pc.wFinParked ∨ s.pc x = Pc.done)) ∧
      ∀ t dt cur ret pend, s.pc t ≠ Pc.rWalk dt cur ret pend := by
  have h := hr.inv
  obtain ⟨l1, l2, l3⟩ := Chain.c02_chain_shape c (abs c s) hr.abs _ (absSlot_chain c s hh)
  refine ⟨_, h.str.chain hh, l1, l2, ?_, fun t dt cur ret pend hpc => hh (h.walk_facts hpc).1⟩
  intro x hx
  obtain ⟨a1, a2, a3⟩ := l3 x hx
  refine ⟨a1, a2, h.str.alive x a2, ?_⟩
  obtain ⟨e1, e2, e3⟩ := absPc_parked_iff c s.next x (s.pc x)
  rwa [abs_pc, e1, e2, e3, absPc_done_iff] at a3

example : Chain.WF c02Cfg ∧ (∀ t, t < c02Cfg.n → (prun c02Cfg (init c02Cfg) c02Sched).pc t = Pc.done)
    ∧ (List.range 6).map (prun c02Cfg (init c02Cfg) c02Sched).observed = [0, 1, 1, 1, 1, 0]
    ∧ (List.range 6).map (prun c02Cfg (init c02Cfg) c02Sched).woken = [0, 1, 1, 1, 0, 0] := by decide
example : (prun c02Cfg (init c02Cfg) (c02Sched.take 9)).head ≠ Seen.ready
    ∧ (List.range 6).map (prun c02Cfg (init c02Cfg) (c02Sched.take 9)).subscribed = [false, true, true, true, false, false]
    ∧ (prun c02Cfg (init c02Cfg) (c02Sched.take 9)).pc 2 = Pc.wBlocked := by decide

end Cocls.ChainPtr
