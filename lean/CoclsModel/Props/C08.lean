import CoclsModel.MutexProofs
import CoclsModel.MutexPtrProofs
/-!
# C08 — coroutine mutex: FIFO hand-off, no lost request (property theorems)

Model `Mutex.lean`, proofs `MutexProofs.lean`; quantifier as in `Props/C07.lean`: every configuration `c` (all
acquisition flavours, all ways of giving the ownership up — `release()`, awaited release, destruction, move into a
temporary, assignment of an empty or of another mutex' ownership —, own ownership object or the shared slot),
every state reachable from `init c` by any sequence of agent activities permitted by `canRun` (which covers every
schedule of enabled OS threads: `trun_init_reachable`).  `pending s` is `queue ++ reverse (nodes of the stack)` without
the found-null acquirer's own node; `s.stamp a` is the value of the clock at `a`'s successful publishing CAS.
-/
namespace Cocls.Mutex
variable {c : Cfg} {s : State}

/-- **Arrival order.** The pending requests (`queue ++ reversed stack`, without the found-null acquirer's own node)
    are strictly sorted by arrival stamp, and every stamp is below the clock. -/
theorem c08_pending_sorted (hs : Reachable c s) :
    (pending s).Pairwise (fun x y => s.stamp x < s.stamp y) ∧ ∀ x ∈ pending s, s.stamp x < s.clock := by
  have h := reachable_inv hs
  refine ⟨h.stampQ.sublist (pending_sublist s), fun x hx => h.stampC x ((h.listed_iff x).2 ?_)⟩
  simpa using (pending_sublist s).subset hx

/- two requests in the stack (newest first), then moved to the queue: the pending list is the same, in arrival order -/
example : Reachable cfgEx sP ∧ nodesOf sP.req = [2, 1] ∧ sP.queue = [] ∧ pending sP = [1, 2] ∧
    (sP.stamp 1, sP.stamp 2, sP.clock) = (0, 1, 2) := ⟨reachable_of_run _ runP (by decide), by decide⟩
example : nodesOf sA.req = [] ∧ sA.queue = [1, 2] ∧ pending sA = [1, 2] := by decide

/-- stamps are handed out by the publishing CAS in the order of these operations -/
theorem c08_publish_stamp (c : Cfg) (s : State) (t a : Nat) (prev : Seen) (hpc : s.pc a = Pc.sub prev)
    (hseen : seenOf s.req = prev) :
    (agentStep c s t a).1.stamp a = s.clock ∧ (agentStep c s t a).1.clock = s.clock + 1 ∧
    (agentStep c s t a).1.req = Elem.node a (keyOf c s a) :: s.req := by
  rw [(Step.subOk hpc hseen).eq]
  simp

example : (agentStep cfgEx (arun cfgEx (init cfgEx) (runP.take 6)) 2 2).1.stamp 2 = 1 ∧
    (arun cfgEx (init cfgEx) (runP.take 6)).clock = 1 ∧ sP.clock = 2 := by decide

/-- **No lost request.** An agent waits for the lock (parked coroutine / blocking waiter whose flag is not set)
    iff it is a pending request, and then it has exactly one node in `queue ++ stack`. -/
theorem c08_no_lost_request (hs : Reachable c s) (a : Nat) :
    (Waiting s a ↔ a ∈ pending s) ∧ (Waiting s a → s.queue.count a + (nodesOf s.req).count a = 1) := by
  have h := reachable_inv hs
  refine ⟨?_, fun hw => by rw [h.cnt a, if_pos (show Listed s a from Or.inl hw)]⟩
  have hl := h.listed_iff a
  have hb := h.bld a
  have hwb : Waiting s a → s.pc a ≠ Pc.build := fun hw e => by simp [Waiting, e, isWaiting] at hw
  simp only [pending, List.mem_append, List.mem_reverse, List.mem_filter, decide_eq_true_eq, Listed, Waiting] at hl hwb ⊢
  grind

example : Waiting sP 1 ∧ Waiting sP 2 ∧ ¬ Waiting sP 0 ∧ pending sP = [1, 2] := by decide
/- a blocked waiter whose flag is not set -/
example : Reachable cfgSy sS ∧ Waiting sS 1 ∧ pending sS = [1] ∧ canRun sS 1 = false :=
  ⟨reachable_of_run _ runS (by decide), by decide⟩

/-- **Shape of the request stack** (`_requests`; (I3) of DESIGN.md Appendix B): null iff nobody owns the mutex; a chain
    of waiting requests ending in the doorman while an owner past its acquisition exists; a chain ending in the
    owner's own node (whose `_next` is null) while the found-null acquirer has not yet run `build_queue`.  All nodes
    above the bottom marker are pending requests. -/
theorem c08_stack_shape (hs : Reachable c s) :
    ((∀ a, ¬ Owner s a) → s.req = []) ∧
    (∀ o, Owner s o → s.pc o ≠ Pc.build →
        ∃ xs : List (Nat × Nat), s.req = nodesL xs ++ [Elem.door] ∧ ∀ x ∈ xs, Waiting s x.1) ∧
    (∀ o, s.pc o = Pc.build → ∃ (xs : List (Nat × Nat)) (k : Nat), s.req = nodesL xs ++ [Elem.node o k] ∧ s.queue = [] ∧
        ∀ x ∈ xs, Waiting s x.1) := by
  have h := reachable_inv hs
  have hwait : ∀ x, x ∈ nodesOf s.req → s.pc x ≠ Pc.build → Waiting s x :=
    fun x hx hnb => ((h.listed_iff x).2 (Or.inr hx)).resolve_right hnb
  refine ⟨fun hno => (h.free hno).1, ?_, ?_⟩
  · intro o ho hnb
    obtain ⟨xs, hxs⟩ := (doorEnd_iff _).1 (h.door o ho hnb)
    refine ⟨xs, hxs, ?_⟩
    intro x hx
    refine hwait x.1 (by rw [hxs, nodesOf_nodesL]; simp; exact ⟨x.2, hx⟩) ?_
    intro hb
    have := h.excl o x.1 ho (.of_pc hb)
    subst this; exact hnb hb
  · intro o ho
    obtain ⟨xs, k, hxs⟩ := (nodeEnd_iff o _).1 (h.bldEnd o ho)
    refine ⟨xs, k, hxs, (h.bld o ho).2, ?_⟩
    intro x hx
    have hmem : x.1 ∈ xs.map (·.1) := List.mem_map.2 ⟨x, hx, rfl⟩
    have hxo : x.1 ≠ o := by
      intro e
      have hc := h.cnt o
      rw [hxs, nodesOf_nodesL] at hc
      have h1 : 0 < (xs.map (·.1)).count o := List.count_pos_iff.2 (e ▸ hmem)
      simp at hc
      split at hc <;> omega
    refine hwait x.1 (by rw [hxs, nodesOf_nodesL]; simp; exact Or.inl ⟨x.2, hx⟩) ?_
    intro hb
    have := h.excl o x.1 (.of_pc ho) (.of_pc hb)
    exact hxo this.symm

example : sP.req = nodesL [(2, 0), (1, 0)] ++ [Elem.door] ∧ sN.req = nodesL [(2, 0)] ++ [Elem.node 1 0] ∧ sZ.req = [] := by decide

/-- **Never locked without an owner.** -/
theorem c08_not_stuck_locked (hs : Reachable c s) :
    (s.req ≠ [] → ∃ a, Owner s a ∧ canRun s a = true) ∧
    ((∀ a, ¬ Owner s a) → s.req = [] ∧ s.queue = [] ∧ pending s = []) ∧
    (s.req = [] → ∀ a, ¬ Owner s a) := by
  have h := reachable_inv hs
  refine ⟨?_, ?_, ?_⟩
  · intro hne
    apply Classical.byContradiction
    intro hno
    have : ∀ a, ¬ Owner s a := fun a ha => hno ⟨a, ha, owner_canRun ha⟩
    exact hne (h.free this).1
  · intro hno
    have := h.free hno
    refine ⟨this.1, this.2, ?_⟩
    simp [pending, this.1, this.2]
  · exact fun hr => (h.free_facts hr).1

example : sA.req = [Elem.door] ∧ Owner sA 0 ∧ canRun sA 0 = true := by decide
example : sZ.req = [] ∧ (∀ a, a < 3 → ¬ Owner sZ a) := by decide

/-- **Deadlock freedom (agent level).** If no agent's code can run, every agent has finished all its rounds. -/
theorem c08_no_deadlock (hs : Reachable c s) (hstuck : ∀ a, canRun s a = false) :
    ∀ a, s.pc a = Pc.done ∧ (a < c.n → s.round a = (c.rounds a).length) := by
  have h := reachable_inv hs
  intro a
  have hd := inv_stuck_done h hstuck a
  exact ⟨hd, (h.rnd a).2.2 hd⟩

/- in `sS` only the owner 0 can run (1 is blocked without its flag … ) -/
example : canRun sS 0 = true ∧ canRun sS 1 = false := by decide
/- … and at the end of scenario `runZ` nobody can run and everybody is done -/
example : Reachable cfgEx sZ ∧ (∀ a, a < 3 → canRun sZ a = false ∧ sZ.pc a = Pc.done) :=
  ⟨reachable_of_run _ runZ (by decide), by decide⟩

/-- the found-null acquirer is older than every pending request -/
theorem c08_builder_first (hs : Reachable c s) (o : Nat) (ho : s.pc o = Pc.build) :
    ∀ y ∈ pending s, s.stamp o < s.stamp y := by
  have h := reachable_inv hs
  intro y hy
  unfold pending at hy
  rw [(h.bld o ho).2, List.nil_append, List.mem_reverse, List.mem_filter] at hy
  refine h.bldFirst o y ho hy.1 ?_
  rintro rfl
  simp [ho] at hy

/- 1 found the mutex free (after 0's release) and has not yet run `build_queue`; 2 published behind it -/
example : Reachable cfgEx sN ∧ sN.pc 1 = Pc.build ∧ Owner sN 1 ∧ nodesOf sN.req = [2, 1] ∧ pending sN = [2] ∧
    sN.stamp 1 < sN.stamp 2 := ⟨reachable_of_run _ runN (by decide), by decide⟩
example : (agentStep cfgEx sN 1 1).1.queue = [2] ∧ (agentStep cfgEx sN 1 1).1.req = [Elem.door] := by decide

/-- `c08_fifo` without its guard: the agent that hands the lock over is the owner, so its code can run anyway -/
theorem fifo_of_grantee (hs : Reachable c s) (t x b : Nat) (hg : grantee c s x = some b) :
    let s' := (agentStep c s t x).1
    (pending s).head? = some b ∧ (∀ y ∈ pending s, y ≠ b → s.stamp b < s.stamp y) ∧
    Owner s' b ∧ ¬ Owner s' x ∧ s'.grants b = s.grants b + 1 ∧ pending s' = (pending s).tail := by
  intro s'
  have h := reachable_inv hs
  obtain ⟨k, hd, he, rest, hq⟩ := step_handOver c s t x b hg
  have hs' : s' = _ := (congrArg (·.1) he).trans (handOver_cons c { s with incs := k, held := hd } t x b rest hq)
  obtain ⟨hownx, hw, hbx, _⟩ := h.grantee_facts hg
  obtain ⟨_, hnb, hc1, hc2⟩ := h.head_facts hq
  obtain ⟨hco, hnco⟩ := h.head_wait hq
  have hpend : ∀ s2 : State, (∀ y, s2.pc y ≠ Pc.build) → pending s2 = s2.queue ++ (nodesOf s2.req).reverse :=
    fun s2 h2 => by
      unfold pending
      rw [List.filter_eq_self.2 (fun y _ => by simpa using h2 y)]
  have hnb' : ∀ y, s'.pc y ≠ Pc.build := by
    intro y
    have := hnb y; have := hnb b
    rw [hs']; simp only [upd_apply]; grind
  rw [hpend s hnb, hpend s' hnb', hq, hs']
  refine ⟨rfl, ?_, ?_, ?_, ?_, rfl⟩
  · intro y hy hyb
    have hQ := h.stampQ
    rw [hq, List.cons_append, List.pairwise_cons] at hQ
    exact hQ.1 y ((List.mem_cons.1 hy).resolve_left hyb)
  · simp only [Owner, upd_apply, flOf_eq] at hco hnco ⊢
    grind [isOwner]
  · simp [Owner, isOwner]
  · simp

/-- **FIFO hand-over.** Whenever an activity of `x` hands the lock over (`grantee c s x = some b`: `x` gives its ownership
    up through an armed ownership object — `release()`, awaited release, destruction, move into a temporary, assignment of
    an empty or of the auxiliary mutex' ownership — or continues `unlock` after rebuilding the queue, and the queue is not
    empty), `b` is the pending request with the smallest arrival stamp; after the step `b` is the owner, `x` is not, `b`
    has one more grant and the pending list lost exactly its head. -/
theorem c08_fifo (hs : Reachable c s) (t x b : Nat) (hx : canRun s x = true) (hg : grantee c s x = some b) :
    let s' := (agentStep c s t x).1
    (pending s).head? = some b ∧ (∀ y ∈ pending s, y ≠ b → s.stamp b < s.stamp y) ∧
    Owner s' b ∧ ¬ Owner s' x ∧ s'.grants b = s.grants b + 1 ∧ pending s' = (pending s).tail := by
  have _ := hx
  exact fifo_of_grantee hs t x b hg

/- every way of giving the ownership up hands over to the head of the queue: scenario `runO3` — 1 assigned an empty
   ownership over the shared slot (→ 2), 2 moved its ownership into a temporary (→ 3); in `sO1` owner 0 calls `release()` -/
example : sO3.grantLog = [0, 1, 2, 3] ∧ sO1.stamp 1 < sO1.stamp 2 ∧ sO1.stamp 2 < sO1.stamp 3 := by decide

/- the hand-over `sA → sB`: 1 (stamp 0) before 2 (stamp 1) -/
example : grantee cfgEx sA 0 = some 1 ∧ pending sA = [1, 2] ∧ sA.stamp 1 < sA.stamp 2 ∧ Owner sB 1 ∧ pending sB = [2] := by decide
/- the whole scenario grants in arrival order -/
example : sZ.grantLog = [0, 1, 2, 2] := by decide

/-- **No barging.** An agent acquires the mutex by a CAS of its own (`ready()` or the publishing CAS on `null`)
    only when the mutex is free: no owner, no pending request. -/
theorem c08_no_barging (hs : Reachable c s) (t x : Nat)
    (hacq : s.pc x = Pc.top ∨ ∃ p, s.pc x = Pc.sub p) (hown : Owner (agentStep c s t x).1 x) :
    s.req = [] ∧ s.queue = [] ∧ pending s = [] ∧ ∀ y, ¬ Owner s y := by
  have h := reachable_inv hs
  -- an owner `y` of `s` would still own the mutex after the step (`x` hands the lock to nobody), beside `x`
  have hg : grantee c s x = none := by rcases hacq with e | ⟨p, e⟩ <;> simp [grantee, unlocking, e]
  have hF := step_frame c s t x
  rw [hg] at hF
  have hno : ∀ y, ¬ Owner s y := by
    intro y hy
    by_cases hyx : y = x
    · subst hyx; rcases hacq with e | ⟨p, e⟩ <;> simp [Owner, e, isOwner] at hy
    · have hpc := hF.pc y hyx
      have hfl := hF.flag y hyx
      simp only [reduceCtorEq, false_and, if_false] at hpc hfl
      exact hyx ((inv_step h t (by rcases hacq with e | ⟨p, e⟩ <;> simp [canRun, e])).excl y x
        (by unfold Owner; rw [hpc, hfl]; exact hy) hown)
  have := (c08_not_stuck_locked hs).2.1 hno
  exact ⟨this.1, this.2.1, this.2.2, hno⟩

/- 1's publishing CAS on `null` in scenario `runN` (5th activity) happens when nothing is pending -/
example : (arun cfgEx (init cfgEx) (runN.take 4)).req = [] ∧ pending (arun cfgEx (init cfgEx) (runN.take 4)) = [] ∧
    Owner (arun cfgEx (init cfgEx) (runN.take 5)) 1 := by decide

/-- **`try_lock`** is one synchronising operation, succeeds iff the mutex is free (iff nobody owns it) and never
    parks or blocks: afterwards the agent is at `crit` or at `tryFail`, from where it goes straight on to its next round. -/
theorem c08_try_lock (hs : Reachable c s) (t a : Nat) (r : Round) (hpc : s.pc a = Pc.top)
    (hr : curRound c s a = some r) (hfl : r.fl = Flavour.try_) :
    let res := agentStep c s t a
    res.2.2 = Outcome.op ∧
    ((res.1.pc a = Pc.crit ∧ Owner res.1 a ∧ ∀ y, ¬ Owner s y) ∨ (res.1.pc a = Pc.tryFail ∧ ∃ y, Owner s y)) ∧
    (res.1.pc a = Pc.tryFail →
      (agentStep c res.1 t a).1.pc a = Pc.top ∧ (agentStep c res.1 t a).1.round a = s.round a + 1 ∧
      (agentStep c res.1 t a).2.2 = Outcome.continue_) := by
  intro res
  have hres : res = agentStep c s t a := rfl
  by_cases hq : s.req = []
  · rw [(Step.topAcq hpc hr hq).eq] at hres
    refine ⟨by rw [hres], Or.inl ⟨by rw [hres]; simp [setPc], by rw [hres]; simp [Owner, setPc, isOwner],
      (c08_not_stuck_locked hs).2.2 hq⟩, ?_⟩
    intro h; rw [hres] at h; simp [setPc] at h
  · rw [(Step.topFail hpc hr hq).eq, hfl] at hres
    obtain ⟨y, hy, _⟩ := (c08_not_stuck_locked hs).1 hq
    refine ⟨by rw [hres], Or.inr ⟨by rw [hres]; simp [setPc], y, hy⟩, fun h => ?_⟩
    rw [(Step.tryFail h).eq, hres]
    simp [setPc]

/- 2's `try_lock` in `runS` fails (0 owns the mutex), 2's `try_lock` in `runZ` (second round) succeeds -/
example : (arun cfgSy (init cfgSy) (runS.take 7)).pc 2 = Pc.tryFail ∧ sS.pc 2 = Pc.top ∧ sS.round 2 = 1 ∧ Owner sS 0 := by
  decide
example : (arun cfgEx (init cfgEx) (runZ.take 16)).pc 2 = Pc.top ∧ (arun cfgEx (init cfgEx) (runZ.take 17)).pc 2 = Pc.crit := by
  decide

/-- **Relockable.** When every agent has finished, the mutex is free again (`_requests = nullptr`, `_queue` empty);
    and whenever nobody owns it, a new `ready()` CAS succeeds. -/
theorem c08_relockable (hs : Reachable c s) :
    ((∀ a, s.pc a = Pc.done) → s.req = [] ∧ s.queue = []) ∧
    ((∀ a, ¬ Owner s a) → ∀ t a r, s.pc a = Pc.top → curRound c s a = some r →
        (agentStep c s t a).1.pc a = Pc.crit ∧ Owner (agentStep c s t a).1 a) := by
  have hnsl := c08_not_stuck_locked hs
  constructor
  · intro hd
    have := hnsl.2.1 (fun a ha => by simp [Owner, hd a, isOwner] at ha)
    exact ⟨this.1, this.2.1⟩
  · intro hno t a r hpc hr
    rw [(Step.topAcq hpc hr (hnsl.2.1 hno).1).eq]
    simp [setPc, Owner, isOwner]

example : (∀ a, a < 3 → sZ.pc a = Pc.done) ∧ sZ.req = [] ∧ sZ.queue = [] := by decide

/-! ## transfer to the OS-thread level (the level the harness exercises) -/

/-- **C07/C08 hold for every schedule of OS threads**: the state after any schedule of enabled threads
    (`threadStep`, any fuel) is `Reachable`, so every theorem above and in `Props/C07.lean` applies to it. -/
theorem c08_thread_level (hwf : c.WFT) (fuel : Nat) (ts : List Nat) (hg : TGuarded c fuel (init c) ts) :
    Reachable c (trun c fuel (init c) ts) :=
  trun_init_reachable hwf fuel ts hg

/-- **Deadlock freedom (OS-thread level, what the harness' deadlock detector observes).** After any schedule of
    enabled threads: if no thread is enabled any more, every agent has finished all its rounds, every thread has
    finished and the mutex is free — the executor glue never loses a runnable coroutine (`LInv`). -/
theorem c08_no_deadlock_threads (hwf : c.WFT) (fuel : Nat) (ts : List Nat) (hg : TGuarded c fuel (init c) ts)
    (hstuck : ∀ t, enabled (trun c fuel (init c) ts) t = false) :
    (∀ a, (trun c fuel (init c) ts).pc a = Pc.done) ∧
    (∀ a, a < c.n → (trun c fuel (init c) ts).round a = (c.rounds a).length) ∧
    (∀ t, (trun c fuel (init c) ts).tmain t = TMain.finished) ∧
    (trun c fuel (init c) ts).req = [] ∧ (trun c fuel (init c) ts).queue = [] := by
  obtain ⟨hs, hT, hL⟩ := treachable_reachable hwf fuel (reachable_init c) (tinv_init c) (linv_init c) hg
  have h := reachable_inv hs
  obtain ⟨h1, h2⟩ := threads_stuck_done hwf h hT hL hstuck
  have := (c08_relockable hs).1 h1
  exact ⟨h1, fun a ha => (h.rnd a).2.2 (h1 a) ha, h2, this.1, this.2⟩

example : TGuarded cfgEx 100 (init cfgEx) schedZ ∧ (∀ t, t < 3 → enabled (trun cfgEx 100 (init cfgEx) schedZ) t = false) ∧
    enabled (trun cfgEx 100 (init cfgEx) schedB) 0 = true := by decide
example : (trun cfgEx 100 (init cfgEx) schedB).queue = sB.queue ∧ (trun cfgEx 100 (init cfgEx) schedB).cur 0 = some 1 ∧
    (∀ a, a < 3 → (trun cfgEx 100 (init cfgEx) schedZ).pc a = Pc.done) := by decide

end Cocls.Mutex

/-!
# C08 at pointer level (`MutexPtr.lean`, `MutexPtrProofs.lean`): the FIFO is the list

The theorems above are about the list-level model, where `_requests` is a `List Elem` and `_queue` a `List Nat`.  The code
has raw `awaiter::_next` links.  `MutexPtr.lean` models them, the driver `Drivers/C08P.lean` runs that model against the real
header step for step *including a digest of the real pointer state* (suite `ptr-level` of `checks/c08.py`), and the theorems
below prove that it refines the list-level model — so all the theorems above hold for what the pointers denote.  Quantifier: every configuration `c`, every loop fuel `wf ≥ c.n`, every
list of agent activities permitted by `canRun` (resp. every schedule of enabled OS threads, `c.WFT`).
-/
namespace Cocls.MutexPtr
open Cocls.Mutex (Elem Seen Cfg Pc nodesOf Listed Owner Waiting canRun cfgEx runP runA runZ sA)
variable {c : Cfg}

/-- **`build_queue`'s walk over the `_next` links is list reversal.**  Whatever the state: if following `_next` from the
    detached top `req` visits exactly `l` and reaches the stop marker, `_queue` is a null-terminated chain visiting `q`,
    the two are disjoint and the nodes of `l` are alive, then the loop (any fuel `≥ l.length`) ends with `_queue` visiting
    `l.reverse ++ q`, writes no `_next` outside `l`, makes exactly the accesses `read n._next; write n._next` for `n ∈ l` in
    chain order, and touches nothing that is not alive. -/
theorem c08_build_queue_is_reversal (a : Nat) (stop : Ptr) (l : List Node) (fuel : Nat) (s : State) (req : Ptr) (q : List Node)
    (hl : ChainIs s.next req l stop) (hq : ChainIs s.next s.queue q Seen.null) (hd : ∀ n ∈ l, n ∉ q)
    (hlive : ∀ n ∈ l, s.live n = true) (hf : l.length ≤ fuel) :
    ChainIs (walk a stop fuel s req).next (walk a stop fuel s req).queue (l.reverse ++ q) Seen.null ∧
    (∀ m, m ∉ l → (walk a stop fuel s req).next m = s.next m) ∧
    (walk a stop fuel s req).acc = s.acc ++ walkAcc a l ∧ (walk a stop fuel s req).viol = s.viol := by
  obtain ⟨nx, qu, e, h1, h2⟩ := walk_chain a stop l fuel s req q hl hq hd hlive hf
  rw [e]; exact ⟨h1, h2, rfl, rfl⟩

/-- the pointer-level run of scenario `runA` up to the owner's exchange (`relBuild`), and one activity later -/
def pA : State := arun cfgEx 3 (init cfgEx) runA
def pA' : State := arun cfgEx 3 (init cfgEx) (runA ++ [(0, 0)])

/- after the exchange the stack `2 → 1 → door` is detached (reachable only from the owner's local variable `pend 0`), the
   loop has not run yet; the owner's next activity runs it: `_queue = 1 → 2 → null`, then pops 1 -/
example : pA.requests = Seen.door ∧ pA.queue = Seen.null ∧ pA.pend 0 = some (Seen.node 2 0, Seen.door) ∧
    pA.next (2, 0) = Seen.node 1 0 ∧ pA.next (1, 0) = Seen.door := by decide
example : (flush 3 pA 0).queue = Seen.node 1 0 ∧ (flush 3 pA 0).next (1, 0) = Seen.node 2 0 ∧
    (flush 3 pA 0).next (2, 0) = Seen.null ∧ (flush 3 pA 0).acc = pA.acc ++ walkAcc 0 [(2, 0), (1, 0)] := by decide
example : pA'.queue = Seen.node 2 0 ∧ pA'.next (1, 0) = Seen.null ∧ pA'.next (2, 0) = Seen.null ∧ pA'.pend 0 = none ∧
    pA'.pc 1 = Pc.crit := by decide

/-- **The pointer-level model refines the list-level model (agent level).**  For every configuration, every fuel
    `wf ≥ c.n` and every activity list `l` permitted by `canRun`: the pointer-level state after `l` is related by `Repr` to
    the list-level state after `l` — same control part, `_requests` represents its stack, `_queue` (after the owner's
    pending loop) represents its queue, every linked node alive —, the abstraction function maps one to the other, and the
    next activity of any agent emits the same events (what the CAS/exchange observed and stored, which flag is stored: the
    node handed over) with the same outcome at both levels. -/
theorem c08_ptr_refines_list (wf : Nat) (hwf : c.n ≤ wf) (l : List (Nat × Nat)) (hg : Mutex.Guarded c (Mutex.init c) l) :
    Repr c (arun c wf (init c) l) (Mutex.arun c (Mutex.init c) l) ∧
    abs c (arun c wf (init c) l) = Mutex.arun c (Mutex.init c) l ∧
    ∀ t a, (agentStep c wf (arun c wf (init c) l) t a).2 = (Mutex.agentStep c (Mutex.arun c (Mutex.init c) l) t a).2 := by
  obtain ⟨hR, hs, hI, hq⟩ := run_facts wf hwf l hg
  refine ⟨hR, abs_of_repr hs hR, fun t a => ?_⟩
  exact (agentStep_sim wf hR hI hq t a).1

/-- **Step form: the abstraction function commutes with the step.**  From any pointer state related to a reachable list-level state,
    every permitted activity commutes with the abstraction function and emits the same events and outcome. -/
theorem c08_abs_commutes (wf : Nat) (hwf : c.n ≤ wf) {ps : State} {ls : Mutex.State} (hs : Mutex.Reachable c ls)
    (hR : Repr c ps ls) (t a : Nat) (hcan : canRun ls a = true) :
    abs c (agentStep c wf ps t a).1 = (Mutex.agentStep c (abs c ps) t a).1 ∧
    (agentStep c wf ps t a).2 = (Mutex.agentStep c (abs c ps) t a).2 := by
  rw [abs_of_repr hs hR]
  have h := agentStep_sim wf hR (Mutex.reachable_inv hs) (by have := Mutex.queue_length_le hs; omega) t a
  exact ⟨abs_of_repr (Mutex.reachable_step hs t hcan) h.2, h.1⟩

example : abs cfgEx pA = sA ∧ (abs cfgEx pA).queue = [1, 2] ∧ (abs cfgEx pA).req = [Elem.door] := by
  have h : abs cfgEx pA = sA := (c08_ptr_refines_list (c := cfgEx) 3 (by decide) runA (by decide)).2.1
  exact ⟨h, by rw [h]; decide⟩
/- the same by evaluation of the abstraction function (a pending loop is completed virtually) -/
example : (abs cfgEx pA).queue = [1, 2] ∧ (abs cfgEx pA').queue = [2] ∧
    (abs cfgEx (arun cfgEx 3 (init cfgEx) runP)).req = [Elem.node 2 0, Elem.node 1 0, Elem.door] := by decide

/-- **… and for every schedule of OS threads** (the executor glue; what the harness runs): the pointer-level machine and the
    list-level machine under the same schedule of enabled threads stay related, and the next step of any enabled thread
    prints the same operation lines. -/
theorem c08_ptr_refines_list_threads (hwf : c.WFT) (wf : Nat) (hn : c.n ≤ wf) (fuel : Nat) (ts : List Nat)
    (hg : Mutex.TGuarded c fuel (Mutex.init c) ts) :
    Repr c (trun c wf fuel (init c) ts) (Mutex.trun c fuel (Mutex.init c) ts) ∧
    abs c (trun c wf fuel (init c) ts) = Mutex.trun c fuel (Mutex.init c) ts ∧
    ∀ t, Mutex.enabled (Mutex.trun c fuel (Mutex.init c) ts) t = true →
      (threadStep c wf fuel (trun c wf fuel (init c) ts) t).2 =
        (Mutex.threadStep c fuel (Mutex.trun c fuel (Mutex.init c) ts) t).2 := by
  obtain ⟨hR, hev⟩ := trun_init_sim hwf wf hn fuel ts hg
  exact ⟨hR, abs_of_repr (Mutex.trun_init_reachable hwf fuel ts hg) hR, hev⟩

example : (trun cfgEx 3 100 (init cfgEx) Mutex.schedB).queue = Seen.node 2 0 ∧
    abs cfgEx (trun cfgEx 3 100 (init cfgEx) Mutex.schedB) = Mutex.trun cfgEx 100 (Mutex.init cfgEx) Mutex.schedB :=
  ⟨by decide, (c08_ptr_refines_list_threads Mutex.cfgEx_wft 3 (by decide) 100 Mutex.schedB (by decide)).2.1⟩

/-- **The FIFO is the list: `_queue` then the reversed `_requests` chain is the arrival order.**  In every pointer state
    reached by a permitted activity list: whatever lists the pointer fields denote (`Links`: `det` = the chain a pending
    `build_queue` loop still has to move, `q0` = the chain of `_queue`, `stk` = the chain of `_requests`; they are determined
    by the pointers, `links_unique`), the sequence `det.reverse ++ q0 ++ stk.reverse` of request nodes is strictly increasing
    in the arrival stamp of the owners (the stamp is taken by the successful publishing CAS), no node occurs twice, and all of
    them are alive.  `det.reverse ++ q0` is the list-level queue and `stk` the list-level stack. -/
theorem c08_queue_is_arrival_order_ptr (wf : Nat) (hwf : c.n ≤ wf) (l : List (Nat × Nat))
    (hg : Mutex.Guarded c (Mutex.init c) l) (det q0 stk : List Node) (bottom : Ptr)
    (hk : Links (arun c wf (init c) l) det q0 stk bottom) :
    ((det.reverse ++ q0 ++ stk.reverse).map (·.1)).Pairwise
      (fun x y => (arun c wf (init c) l).stamp x < (arun c wf (init c) l).stamp y) ∧
    (det ++ q0 ++ stk).Nodup ∧ (∀ n ∈ det ++ q0 ++ stk, (arun c wf (init c) l).live n = true) ∧
    (Mutex.arun c (Mutex.init c) l).queue = (det.reverse ++ q0).map (·.1) ∧
    nodesOf (Mutex.arun c (Mutex.init c) l).req = stk.map (·.1) :=
  have ⟨hR, _, hI, _⟩ := run_facts wf hwf l hg
  links_arrival_order hR hI hk

/- scenario `runA` after the owner's exchange: the pointers denote `det = [(2, 0), (1, 0)]`, `q0 = []`, `stk = []` (readout by
   the executable chain followers), list-level queue `[1, 2]`; 1 arrived before 2 -/
example : ∃ det q0 b, Links pA det q0 (nodesN sA.req) b ∧ sA.queue = (det.reverse ++ q0).map (·.1) := by
  obtain ⟨det, q0, b, h1, h2, _⟩ := links_of_repr (repr_run (c := cfgEx) 3 (by decide) runA (by decide))
  exact ⟨det, q0, b, h1, h2⟩
example : followTo pA.next Seen.door 3 (Seen.node 2 0) = [(2, 0), (1, 0)] ∧ (follow pA.next 3 pA.queue).1 = [] ∧
    sA.queue = [1, 2] ∧ pA.stamp 1 < pA.stamp 2 ∧ pA.live (1, 0) = true ∧ pA.live (2, 0) = true := by decide

/-- **No lost request (pointer level).**  Whatever lists the pointers denote: every agent that waits for the lock (parked
    coroutine / blocking waiter whose flag is not set) — and the found-null acquirer before its `build_queue` — owns exactly
    one linked node (in the stack, in the chain a pending loop has to move, or in `_queue`); nobody else owns one. -/
theorem c08_no_lost_request_ptr (wf : Nat) (hwf : c.n ≤ wf) (l : List (Nat × Nat))
    (hg : Mutex.Guarded c (Mutex.init c) l) (det q0 stk : List Node) (bottom : Ptr)
    (hk : Links (arun c wf (init c) l) det q0 stk bottom) (a : Nat) :
    ((det ++ q0 ++ stk).map (·.1)).count a = (if Listed (Mutex.arun c (Mutex.init c) l) a then 1 else 0) ∧
    (Waiting (Mutex.arun c (Mutex.init c) l) a → ∃ n ∈ det ++ q0 ++ stk, n.1 = a) :=
  have ⟨hR, _, hI, _⟩ := run_facts wf hwf l hg
  links_listed hR hI hk a

example : Waiting sA 1 ∧ Waiting sA 2 ∧ ¬ Listed sA 0 ∧
    (followTo pA.next Seen.door 3 (Seen.node 2 0)).map (·.1) = [2, 1] := by decide

/-- **FIFO hand-over at pointer level.**  Whenever an activity of `x` hands the lock over (`grantee c ls x = some b`), the
    pointer-level activity pops the node of `b` — the pending request with the smallest arrival stamp — off `_queue`: the new
    pointer state represents the list-level state whose pending list lost exactly its head, `b` is the owner. -/
theorem c08_fifo_ptr (wf : Nat) (hwf : c.n ≤ wf) {ps : State} {ls : Mutex.State} (hs : Mutex.Reachable c ls)
    (hR : Repr c ps ls) (t x b : Nat) (hx : canRun ls x = true) (hg : Mutex.grantee c ls x = some b) :
    Repr c (agentStep c wf ps t x).1 (Mutex.agentStep c ls t x).1 ∧
    (Mutex.pending ls).head? = some b ∧ (∀ y ∈ Mutex.pending ls, y ≠ b → ls.stamp b < ls.stamp y) ∧
    Mutex.pending (Mutex.agentStep c ls t x).1 = (Mutex.pending ls).tail ∧
    Owner (abs c (agentStep c wf ps t x).1) b := by
  have h := Mutex.c08_fifo hs t x b hx hg
  have hsim := agentStep_sim wf hR (Mutex.reachable_inv hs) (by have := Mutex.queue_length_le hs; omega) t x
  refine ⟨hsim.2, h.1, h.2.1, h.2.2.2.2.2, ?_⟩
  rw [abs_of_repr (Mutex.reachable_step hs t hx) hsim.2]
  exact h.2.2.1

/- `pA → pA'`: the owner 0 (at `relHand`) runs the loop and pops the head: node of 1 -/
example : Mutex.grantee cfgEx sA 0 = some 1 ∧ (flush 3 pA 0).queue = Seen.node 1 0 ∧ pA'.queue = Seen.node 2 0 ∧
    (abs cfgEx pA').queue = [2] ∧ Owner (abs cfgEx pA') 1 := by decide

/-- **The assertions of mutex.h hold**: `assert(_queue == nullptr)` in `build_queue` (evaluated after the exchange, before
    the loop) and `assert(_requests != nullptr)` at the entry of `unlock` never fail, and the doorman's `_next` is never
    written — along every permitted activity list, and along every schedule of enabled OS threads. -/
theorem c08_assertions_hold_ptr (wf : Nat) (hwf : c.n ≤ wf) :
    (∀ l, Mutex.Guarded c (Mutex.init c) l → (arun c wf (init c) l).asrt = false ∧ (arun c wf (init c) l).doorNext = Seen.null) ∧
    (c.WFT → ∀ fuel ts, Mutex.TGuarded c fuel (Mutex.init c) ts →
      (trun c wf fuel (init c) ts).asrt = false ∧ (trun c wf fuel (init c) ts).doorNext = Seen.null) := by
  refine ⟨fun l hg => ?_, fun hw fuel ts hg => ?_⟩
  · have h := (repr_run wf hwf l hg).2
    exact ⟨h.noAsrt, h.doorN⟩
  · have h := (trun_init_sim hw wf hwf fuel ts hg).1.2
    exact ⟨h.noAsrt, h.doorN⟩

example : pA'.asrt = false ∧ (arun cfgEx 3 (init cfgEx) runZ).asrt = false ∧
    (arun cfgEx 3 (init cfgEx) runZ).requests = Seen.null ∧ (arun cfgEx 3 (init cfgEx) runZ).queue = Seen.null := by decide

end Cocls.MutexPtr
