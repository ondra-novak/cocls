import CoclsModel.PublisherProofs
/-!
# C16 — publisher: subscribers see a gap-free, ordered, duplicate-free stream

Model: `CoclsModel/Publisher.lean`.  The theorems with a
`Reachable` hypothesis quantify over *all* configurations `1 ≤ min ≤ max` (and unlimited `max = none`), *all*
operation lists (= all histories of any number of publishers and subscribers and all interleavings of their lock
regions), all three subscription modes; those about a single step hold in any state; the closed `rfl` theorems are
witnesses (one history each) on the code's steps (`run`) or on the variants of `runAsIs` (the pinned code; a
`close()` that sets its flag late).

End of stream is `getValue` answering `Res.value none` (`valueAt s r = none`; the phase becomes `done`).  `advance`
answering `flag false` says "nothing yet: park" (`advanceSuspend`), not end of stream.

Preconditions (explicit totalisation, see the model): the constructor's `1 ≤ min ≤ max` (`CfgOk`); an explicit start
position is not in the future; the source of a copy is a live subscriber (anywhere inside `next()` or not); a
subscriber is destroyed only outside `next()` and does not call `next()` after end of stream (steps out of this
protocol are rejected by `step` with `Res.bad`).
-/
namespace Cocls.Pub

def Reachable (maxLen : Option Nat) (minLen : Nat) (s : State) : Prop := ∃ ops, s = run (init maxLen minLen) ops

def Live (s : State) (h : Nat) (r : Reg) : Prop := s.regs[h]? = some r ∧ r.used = true

theorem reachable_inv {maxLen : Option Nat} {minLen : Nat} (hc : CfgOk maxLen minLen) {s : State}
    (h : Reachable maxLen minLen s) : Inv s := by
  obtain ⟨ops, rfl⟩ := h
  exact inv_run _ ops (inv_init hc)

variable {maxLen : Option Nat} {minLen : Nat} {s : State} {h : Nat} {r : Reg}

theorem live_regInv (hc : CfgOk maxLen minLen) (hs : Reachable maxLen minLen s) (hl : Live s h r) : RegInv s r :=
  (reachable_inv hc hs).regs h r hl.1 hl.2

/-! ## all_values: contiguous, ordered, duplicate-free -/

/-- The values an `all_values` subscriber has received (up to its first end of stream) are exactly the published
values at positions `start+1, start+2, …` in order: a contiguous run right after the subscription point, no gap,
no duplicate, no reordering. -/
theorem c16_all_values_contiguous (hc : CfgOk maxLen minLen) (hs : Reachable maxLen minLen s) (hl : Live s h r)
    (hm : r.mode = Mode.all) : r.got = (s.stream.drop r.start).take r.got.length := by
  apply List.ext_getElem?
  intro i
  rw [List.getElem?_take, List.getElem?_drop]
  split
  next hi => exact (live_regInv hc hs hl).got_eq hm i hi
  next hi => exact List.getElem?_eq_none (Nat.le_of_not_lt hi)

/-- …and the run cannot be broken later: as long as the subscriber is neither kicked nor ended, its registration
stands exactly at the last value received (`+1` between the advancing step and the fetch), so the next value it
fetches is the successor of the last one. -/
theorem c16_all_values_position (hc : CfgOk maxLen minLen) (hs : Reachable maxLen minLen s) (hl : Live s h r)
    (hm : r.mode = Mode.all) (hd : r.phase ≠ Phase.done) (hk : r.kicked = false) :
    r.pos = r.start + r.got.length + (if r.phase = Phase.fetch then 1 else 0) :=
  (live_regInv hc hs hl).pos_eq hm hd hk

/-- the fetch step of an `all_values` subscriber returns the value at position `start + |got| + 1` and logs it -/
theorem c16_all_values_fetch (hc : CfgOk maxLen minLen) (hs : Reachable maxLen minLen s) (hl : Live s h r)
    (hm : r.mode = Mode.all) {s' : State} {v : Nat} (hstep : stepGetValue s h = (s', Res.value (some v))) :
    s.stream[r.start + r.got.length]? = some v ∧
    s'.regs[h]? = some { r with phase := Phase.idle, got := r.got ++ [v], gotPos := r.gotPos ++ [r.pos] } := by
  unfold stepGetValue at hstep
  simp only [hl.1] at hstep
  split at hstep
  next hcnd =>
    split at hstep
    next w hv =>
      cases hstep
      exact ⟨(live_regInv hc hs hl).fetch_all (reachable_inv hc hs) hm hcnd.2.1 hv, getElem?_set_of_some hl.1⟩
    · cases hstep
  · cases hstep

/-- End of stream is reported to an `all_values` subscriber only when it was kicked, or the publisher is closed and
the subscriber has received everything published since its start (drained), or it is more than `max` behind
(the value it needs is no longer among the newest `max`), or — the case the property statement does not name — its
start position (given explicitly, or taken over by copying such a subscriber) was already outside the retained window
when it subscribed (`covered = false`, decided by `covers` in `subscribeLk`). -/
theorem c16_eof_only_when (hc : CfgOk maxLen minLen) (hs : Reachable maxLen minLen s) (hl : Live s h r)
    (hm : r.mode = Mode.all) (hp : r.phase = Phase.fetch) (ha : r.awt = false) (hv : valueAt s r = none) :
    r.kicked = true
    ∨ (s.closed = true ∧ r.pos = s.pos ∧ r.got = s.stream.drop r.start)
    ∨ (∃ k, s.maxLen = some k ∧ k < s.pos - r.pos)
    ∨ r.covered = false := by
  have hi := reachable_inv hc hs
  have hr := live_regInv hc hs hl
  rcases hr.eof_cases hi hp ha hv with hk | ⟨hk, ⟨hcl, he⟩ | ⟨_, hlt, hq⟩⟩
  · exact Or.inl hk
  · refine Or.inr (Or.inl ⟨hcl, he, ?_⟩)
    have hpe := hr.pos_fetch hm hp hk
    have hpos := hi.pos_eq
    rw [c16_all_values_contiguous hc hs hl hm]
    exact List.take_of_length_le (by rw [List.length_drop]; omega)
  · right; right
    cases hcov : r.covered with
    | false => exact Or.inr rfl
    | true =>
      left
      have hw := hr.window hcov
      have h1 := hr.fetch_pos hp hk
      unfold covers capMin at hw
      cases hmx : s.maxLen with
      | none => rw [hmx] at hw; simp only at hw; omega
      | some k => rw [hmx] at hw; simp only at hw; exact ⟨k, rfl, by omega⟩

/-! ## all modes: positions only move forward; skipping modes -/

/-- `position()` at the values a subscriber received is strictly increasing — in every mode, in particular in
both skipping modes (they only ever move forward). -/
theorem c16_skip_monotone (hc : CfgOk maxLen minLen) (hs : Reachable maxLen minLen s) (hl : Live s h r) :
    r.gotPos.Pairwise (· < ·) :=
  (live_regInv hc hs hl).mono

/-- every advancing step moves strictly forward, whatever the mode and the state -/
theorem c16_advance_moves_forward (s : State) (r : Reg) : r.pos < advPos s r := advPos_gt s r

/-- `skip_to_recent` always yields the newest published value -/
theorem c16_recent_is_newest (hc : CfgOk maxLen minLen) (hs : Reachable maxLen minLen s) (_hl : Live s h r)
    (hm : r.mode = Mode.recent) {v : Nat} (hv : valueAt s r = some v) : s.stream.getLast? = some v := by
  have hi := reachable_inv hc hs
  have h := valueAt_stream hi (live_regInv hc hs _hl).pos_le hv
  simp only [readPos, hm] at h
  have e : s.stream.length - 1 = s.pos - 1 - 1 := by have := hi.pos_eq; omega
  rw [List.getLast?_eq_getElem?, e]
  exact h

/-- `skip_if_behind` yields the value at its position, or the oldest retained one when that is newer -/
theorem c16_behind_value (hc : CfgOk maxLen minLen) (hs : Reachable maxLen minLen s) (hl : Live s h r)
    (hm : r.mode = Mode.behind) (hp : r.phase = Phase.fetch) {v : Nat} (hv : valueAt s r = some v) :
    s.stream[max r.pos (s.pos - s.q.length) - 1]? = some v := by
  have _ := hp -- plays no part: `get_value_lk` does not look at the phase
  have h := valueAt_stream (reachable_inv hc hs) (live_regInv hc hs hl).pos_le hv
  simp only [readPos, hm] at h
  exact h

/-- in the skipping modes end of stream is reported only when kicked, or closed with the position at the end
(they never fall behind) -/
theorem c16_skip_eof_only_when (hc : CfgOk maxLen minLen) (hs : Reachable maxLen minLen s) (hl : Live s h r)
    (hm : r.mode ≠ Mode.all) (hp : r.phase = Phase.fetch) (ha : r.awt = false) (hv : valueAt s r = none) :
    r.kicked = true ∨ (s.closed = true ∧ r.pos = s.pos) := by
  rcases (live_regInv hc hs hl).eof_cases (reachable_inv hc hs) hp ha hv with hk | ⟨_, hend | ⟨hall, _⟩⟩
  · exact Or.inl hk
  · exact Or.inr hend
  · exact absurd hall hm

/-! ## wake-ups: close, kick, and no lost wake-up -/

/-- `close()` (also run by `~publisher`) takes the awaiter of *every* parked subscriber for resumption and leaves
nobody parked. -/
theorem c16_close_wakes_all (s : State) (hcl : s.closed = false) :
    (stepClose s).2 = Res.woken (wokenOf s.regs) ∧ (stepClose s).1.closed = true ∧
    ∀ (k : Nat) (x : Reg), (stepClose s).1.regs[k]? = some x → x.used = true → x.awt = false := by
  unfold stepClose
  rw [if_neg (by rw [hcl]; nofun)]
  exact ⟨(pushLk_wakes s [] true).1, rfl, (pushLk_wakes s [] true).2⟩

/-- the released set is exactly the parked subscribers: `wokenOf` lists the subscriber of every used registration
with a registered awaiter -/
theorem c16_woken_are_the_parked (regs : List Reg) (sid : Nat) :
    sid ∈ wokenOf regs ↔ ∃ x ∈ regs, x.used = true ∧ x.awt = true ∧ x.sub = sid := by
  unfold wokenOf
  simp only [List.mem_map, List.mem_filter, Bool.and_eq_true]
  constructor
  · rintro ⟨x, ⟨hx, hu, ha⟩, rfl⟩; exact ⟨x, hx, hu, ha, rfl⟩
  · rintro ⟨x, hx, hu, ha, rfl⟩; exact ⟨x, ⟨hx, hu, ha⟩, rfl⟩

/-- once closed nobody is parked, and nobody parks again -/
theorem c16_closed_nobody_parked (hc : CfgOk maxLen minLen) (hs : Reachable maxLen minLen s) (hl : Live s h r)
    (hcl : s.closed = true) : r.awt = false := by
  cases ha : r.awt with
  | false => rfl
  | true =>
    have := ((live_regInv hc hs hl).parked ha).2.2.1
    rw [hcl] at this; cases this

/-- No lost wake-up: a subscriber is parked only while there is really nothing for it — it stands at the position
of the next value to be published, the publisher is not closed and it has not been kicked.  (Every publish, close
and kick takes the awaiters it affects under the same lock.) -/
theorem c16_no_lost_wakeup (hc : CfgOk maxLen minLen) (hs : Reachable maxLen minLen s) (hl : Live s h r)
    (ha : r.awt = true) : r.phase = Phase.fetch ∧ r.pos = s.pos ∧ s.closed = false ∧ r.kicked = false :=
  (live_regInv hc hs hl).parked ha

/-- `push_lk` unlocks for its wake-up pass and re-locks afterwards; the second lock region changes nothing of the
queue, so every step that lands *inside* the wake-up pass of a `close()` (a resumed coroutine going straight into
another `next()`, another thread) already sees `closed = true` (first region, `c16_close_wakes_all`) and all the
theorems above apply to it: the operation lists quantified over contain the steps between the two regions. -/
theorem c16_relock_changes_nothing (s : State) :
    (stepRelock s).1.regs = s.regs ∧ (stepRelock s).1.q = s.q ∧ (stepRelock s).1.pos = s.pos ∧
    (stepRelock s).1.closed = s.closed ∧ (stepRelock s).1.stream = s.stream ∧ (stepRelock s).1.nextFree = s.nextFree :=
  ⟨rfl, rfl, rfl, rfl, rfl, rfl⟩

/-- `subscribe()` parks only on a queue whose closed flag is clear (any state, any handle) — together with
`c16_close_wakes_all` (flag set in the same region that takes the awaiters): nobody can slip in behind a close. -/
theorem c16_parks_only_when_open (s : State) (h : Nat) (hp : (stepAdvanceSuspend s h).2 = Res.flag true) :
    s.closed = false := by
  unfold stepAdvanceSuspend at hp
  split at hp
  · cases hp
  next r _ =>
  split at hp
  · split at hp
    · cases hp
    next ha =>
      split at hp
      · cases hp
      next hk => exact (park_cond ha (Bool.eq_false_iff.mpr hk)).2
  · cases hp

/-- Why the order inside `close()` matters: a variant that runs the wake-up pass first and sets the flag in the second
region lets a subscriber register *during* the pass (here: the coroutine resumed for subscriber 0 goes straight into
`next()` of subscriber 1) — it ends up parked on a closed queue and no later close wakes it.  (Seeded change
`c16-closed-flag-late`; replayed on the headers by corpus/c16_reentrant_close.txt.) -/
theorem c16_late_close_flag_loses_wakeup :
    ((runAsIs (init none 1)
        [OpAsIs.op (Op.subRecent 0 Mode.all), OpAsIs.op (Op.subRecent 1 Mode.all),
         OpAsIs.op (Op.advanceSuspend 0), OpAsIs.closeLateBegin, OpAsIs.op (Op.getValue 0),
         OpAsIs.op (Op.advance 1), OpAsIs.op (Op.advanceSuspend 1), OpAsIs.closeLateEnd]).regs[1]?.map (·.awt),
     (runAsIs (init none 1)
        [OpAsIs.op (Op.subRecent 0 Mode.all), OpAsIs.op (Op.subRecent 1 Mode.all),
         OpAsIs.op (Op.advanceSuspend 0), OpAsIs.closeLateBegin, OpAsIs.op (Op.getValue 0),
         OpAsIs.op (Op.advance 1), OpAsIs.op (Op.advanceSuspend 1), OpAsIs.closeLateEnd]).closed)
      = (some true, true) := rfl

/-- the same history on the code's `close()` (flag first): subscriber 1 is told end of stream instead of parking -/
theorem c16_close_flag_first_no_lost_wakeup :
    ((run (init none 1)
        [Op.subRecent 0 Mode.all, Op.subRecent 1 Mode.all, Op.advanceSuspend 0, Op.close, Op.getValue 0,
         Op.advance 1, Op.getValue 1, Op.relock]).regs.map (fun r => (r.awt, r.phase)))
      = [(false, Phase.done), (false, Phase.done)] := rfl

/-- `kick(sub)`: the (first) live registration of that subscriber is marked kicked, its awaiter — if it was parked —
is taken for resumption, nothing else changes -/
theorem c16_kick_wakes (s : State) (sid i : Nat) (r : Reg) (hk : kickIdx s.regs sid = some i)
    (hr : s.regs[i]? = some r) :
    stepKick s sid = (setReg s i { r with awt := false, kicked := true },
                      Res.woken (if r.awt = true then [r.sub] else [])) ∧ r.used = true ∧ r.sub = sid := by
  obtain ⟨r2, h1, h2, h3⟩ := kickIdx_some hk
  rw [hr] at h1; cases h1
  refine ⟨?_, h2, h3⟩
  unfold stepKick
  simp only [hk, hr]

/-- A kick with a stale identity changes nothing: `publisher::kick` may be given the pointer of a subscriber that has
already left (its slot still carries the old `_sub`); `kick_lk` looks at *used* registrations only, so when no live
registration belongs to that identity the whole state — in particular the freed slot that the next subscription will
recycle — is untouched and nobody is resumed. -/
theorem c16_stale_kick_changes_nothing (s : State) (sid : Nat)
    (hstale : ∀ r ∈ s.regs, r.used = true → r.sub ≠ sid) : stepKick s sid = (s, Res.woken []) := by
  unfold stepKick
  rw [kickIdx_none hstale]

/-- a recycled registration starts clean whatever happened to the slot before: not kicked, no awaiter, idle, at the
requested position (`subscribe_lk` re-initialises every field of a re-used slot) -/
theorem c16_recycled_slot_is_clean (hc : CfgOk maxLen minLen) (hs : Reachable maxLen minLen s) (sid : Nat) (m : Mode)
    (p : Nat) : ∃ h' cov, (subscribeLk s sid m p).2 = Res.handle h' ∧
      (subscribeLk s sid m p).1.regs[h']? = some (newReg sid m p cov) ∧
      (newReg sid m p cov).kicked = false ∧ (newReg sid m p cov).awt = false ∧ (newReg sid m p cov).pos = p := by
  obtain ⟨h', _, _, e, sp⟩ := subscribeLk_spec (reachable_inv hc hs) sid m p
  rw [e]
  exact ⟨h', _, rfl, sp.new, rfl, rfl, rfl⟩

/-- leave, a late kick with the stale identity, then a subscription that recycles the slot: the newcomer is not
kicked and reads the next published value (replayed on the headers by corpus/c16_stale_kick.txt) -/
theorem c16_stale_kick_then_reuse :
    ((run (init none 1)
        [Op.subRecent 0 Mode.all, Op.leave 0, Op.kick 0, Op.subRecent 1 Mode.all, Op.push [5],
         Op.advance 0, Op.getValue 0]).regs.map (fun r => (r.sub, r.kicked, r.got)))
      = [(1, false, [5])] := rfl

/-- a kicked subscriber gets end of stream from every later `next()`: `ready()` says no, `check_next()` says none -/
theorem c16_kicked_ends (s : State) (r : Reg) (hk : r.kicked = true) : valueAt s r = none ∧ ¬ canAdvance s r := by
  refine ⟨valueAt_none (Or.inl hk), fun hc => ?_⟩
  have := hc.1; rw [hk] at this; cases this

/-! ## copies -/

/-- A copy — taken at *any* moment, also while the original is waiting inside `next()` — gets a *fresh* registration
(one that no live subscriber holds) in the original's mode, at the original's position but never beyond the last
published value; every other registration — the original included — the window, the position and the stream are
untouched. -/
theorem c16_copy_independent (hc : CfgOk maxLen minLen) (hs : Reachable maxLen minLen s) (hl : Live s h r)
    (sid : Nat) :
    ∃ h', (stepSubCopy s sid h).2 = Res.handle h' ∧ h' ≠ h ∧
      (s.regs[h']? = none ∨ ∃ x, s.regs[h']? = some x ∧ x.used = false) ∧
      (∃ cov, (stepSubCopy s sid h).1.regs[h']? = some (newReg sid r.mode (min r.pos (s.pos - 1)) cov)) ∧
      (∀ k, k ≠ h' → (stepSubCopy s sid h).1.regs[k]? = s.regs[k]?) ∧
      (stepSubCopy s sid h).1.q = s.q ∧ (stepSubCopy s sid h).1.pos = s.pos ∧
      (stepSubCopy s sid h).1.stream = s.stream := by
  obtain ⟨h', _, _, e, sp⟩ := subscribeLk_spec (reachable_inv hc hs) sid r.mode (min r.pos (s.pos - 1))
  have hstep : stepSubCopy s sid h = subscribeLk s sid r.mode (min r.pos (s.pos - 1)) := by
    unfold stepSubCopy; simp only [hl.1]; rw [if_pos hl.2]
  rw [hstep, e]
  refine ⟨h', rfl, ?_, sp.free, ⟨_, sp.new⟩, sp.old, rfl, rfl, rfl⟩
  rintro rfl
  rcases sp.free with e2 | ⟨x, e2, e2'⟩
  · rw [hl.1] at e2; cases e2
  · rw [hl.1] at e2; cases e2; rw [hl.2] at e2'; cases e2'

/-- where the copy starts: between two `next()` calls exactly at the original's position; from a *waiting* original
at the last published value — so the copy receives the very value the original is waiting for, and everything after
it (with `c16_all_values_contiguous` for the copy's own registration) -/
theorem c16_copy_start (hc : CfgOk maxLen minLen) (hs : Reachable maxLen minLen s) (hl : Live s h r) :
    (r.phase = Phase.idle → min r.pos (s.pos - 1) = r.pos) ∧
    (r.awt = true → min r.pos (s.pos - 1) = s.pos - 1 ∧ r.pos = s.pos) ∧
    min r.pos (s.pos - 1) < s.pos := by
  have hi := reachable_inv hc hs
  have hr := live_regInv hc hs hl
  have hp := hi.pos_eq
  refine ⟨?_, ?_, by omega⟩
  · intro hidle; have := hr.idle_lt hidle; omega
  · intro ha; have := (hr.parked ha).2.1; omega

/-- The pinned copy constructor took a waiting original's raw position (the one of the value *not yet published*):
the copy's first `next()` reported end of stream on an open publisher, unkicked and not behind (replayed on the
headers by corpus/c16_copy_waiting.txt; repaired by the `fix:` commit). -/
theorem c16_asis_copy_of_waiting_ends :
    ((runAsIs (init none 1)
        [OpAsIs.op (Op.subRecent 0 Mode.all), OpAsIs.op (Op.advanceSuspend 0), OpAsIs.subCopyAsIs 1 0,
         OpAsIs.op (Op.advance 1), OpAsIs.op (Op.getValue 1)]).regs[1]?.map (fun r => (r.phase, r.kicked)),
     (runAsIs (init none 1)
        [OpAsIs.op (Op.subRecent 0 Mode.all), OpAsIs.op (Op.advanceSuspend 0), OpAsIs.subCopyAsIs 1 0,
         OpAsIs.op (Op.advance 1), OpAsIs.op (Op.getValue 1)]).closed)
      = (some (Phase.done, false), false) := rfl

/-- the same on the repaired step: the copy waits with the original and both receive the published value -/
theorem c16_fixed_copy_of_waiting :
    ((run (init none 1)
        [Op.subRecent 0 Mode.all, Op.advanceSuspend 0, Op.subCopy 1 0, Op.advanceSuspend 1, Op.push [5], Op.relock,
         Op.getValue 0, Op.getValue 1]).regs.map (fun r => (r.got, r.phase)))
      = [([5], Phase.idle), ([5], Phase.idle)] := rfl

/-- every subscription (recent, at a position, by copy) hands out a registration no live subscriber holds -/
theorem c16_subscribe_fresh (hc : CfgOk maxLen minLen) (hs : Reachable maxLen minLen s) (sid : Nat) (m : Mode)
    (p : Nat) : ∃ h', (subscribeLk s sid m p).2 = Res.handle h' ∧
      (s.regs[h']? = none ∨ ∃ x, s.regs[h']? = some x ∧ x.used = false) := by
  obtain ⟨h', _, _, e, sp⟩ := subscribeLk_spec (reachable_inv hc hs) sid m p
  rw [e]
  exact ⟨h', rfl, sp.free⟩

/-- the steps of one subscriber's `next()` touch only its own registration: all other registrations, the window,
the stream position and the closed flag are unchanged — original and copy evolve independently -/
theorem c16_next_is_local (s : State) (h : Nat) (op : Op)
    (hop : op = Op.advance h ∨ op = Op.advanceSuspend h ∨ op = Op.getValue h) :
    (∀ k, k ≠ h → (step s op).1.regs[k]? = s.regs[k]?) ∧ (step s op).1.q = s.q ∧ (step s op).1.pos = s.pos ∧
    (step s op).1.closed = s.closed ∧ (step s op).1.stream = s.stream := by
  suffices hs : (step s op).1 = s ∨ ∃ r', (step s op).1 = setReg s h r' by
    rcases hs with e | ⟨r', e⟩ <;> rw [e]
    · exact ⟨fun _ _ => rfl, rfl, rfl, rfl, rfl⟩
    · exact ⟨fun _ hk => List.getElem?_set_ne (Ne.symm hk), rfl, rfl, rfl, rfl⟩
  rcases hop with rfl | rfl | rfl
  · simp only [step]
    unfold stepAdvance
    split
    · exact Or.inl rfl
    · split
      · split
        · exact Or.inr ⟨_, rfl⟩
        · exact Or.inl rfl
      · exact Or.inl rfl
  · simp only [step]
    unfold stepAdvanceSuspend
    split
    · exact Or.inl rfl
    · split
      · split
        · exact Or.inr ⟨_, rfl⟩
        · split
          · exact Or.inr ⟨_, rfl⟩
          · exact Or.inr ⟨_, rfl⟩
      · exact Or.inl rfl
  · simp only [step]
    unfold stepGetValue
    split
    · exact Or.inl rfl
    · split
      · split
        · exact Or.inr ⟨_, rfl⟩
        · exact Or.inr ⟨_, rfl⟩
      · exact Or.inl rfl

/-! ## the retained window -/

/-- The retained window serves every live registration up to `max`: it holds at least `min(max, pos − r.pos)`
values (capped by the number published).  This is what turns "`relpos ≥ |q|`" into "more than `max` behind". -/
theorem c16_window (hc : CfgOk maxLen minLen) (hs : Reachable maxLen minLen s) (hl : Live s h r)
    (hcov : r.covered = true) : min (capMin s.maxLen (s.pos - r.pos)) (s.pos - 1) ≤ s.q.length :=
  (live_regInv hc hs hl).window hcov

/-- the window is the newest `|q|` published values, newest first, and keeps at least `min` of them -/
theorem c16_window_content (hc : CfgOk maxLen minLen) (hs : Reachable maxLen minLen s) :
    s.pos = s.stream.length + 1 ∧ s.q.length ≤ s.stream.length ∧ min s.minLen (s.pos - 1) ≤ s.q.length ∧
    ∀ i, i < s.q.length → s.q[i]? = s.stream[s.stream.length - 1 - i]? :=
  let hi := reachable_inv hc hs
  ⟨hi.pos_eq, hi.q_len, hi.q_min, hi.q_win⟩

/-- the `size_t` subtractions of the code (`_pos - x._pos`, `_pos - _q.size()`) never wrap -/
theorem c16_no_wrap (hc : CfgOk maxLen minLen) (hs : Reachable maxLen minLen s) (hl : Live s h r) :
    r.pos ≤ s.pos ∧ s.q.length < s.pos := by
  have hi := reachable_inv hc hs
  have := hi.pos_eq
  have := hi.q_len
  exact ⟨(live_regInv hc hs hl).pos_le, by omega⟩

/-! ## the pinned (unrepaired) code violated the property -/

/-- `close()` between `ready()` and `subscribe()` of one `next()`: the pinned `advance_suspend_lk` returned without
moving and `check_next()` delivered the last value a second time (replayed on the headers: corpus/c16_close_window.txt;
repaired by the `fix:` commit). -/
theorem c16_asis_duplicate_on_close :
    ((runAsIs (init none 1)
        [OpAsIs.op (Op.subRecent 0 Mode.all), OpAsIs.op (Op.push [7]),
         OpAsIs.op (Op.advance 0), OpAsIs.op (Op.getValue 0),
         OpAsIs.op (Op.advance 0), OpAsIs.op Op.close, OpAsIs.op (Op.advanceSuspend 0),
         OpAsIs.op (Op.getValue 0)]).regs[0]?.map (·.got)) = some [7, 7] := rfl

/-- the same history on the repaired step: the value once, then end of stream -/
theorem c16_fixed_no_duplicate_on_close :
    ((run (init none 1)
        [Op.subRecent 0 Mode.all, Op.push [7], Op.advance 0, Op.getValue 0,
         Op.advance 0, Op.close, Op.advanceSuspend 0, Op.getValue 0]).regs[0]?.map (fun r => (r.got, r.phase)))
      = some ([7], Phase.done) := rfl

/-- a *blocking* `next()` that really had to wait: the pinned `operator bool` ended in `subscriber::value()` instead
of `check_next()`, reported the old value again and lost the published one (corpus/c16_blocking_stale.txt). -/
theorem c16_asis_blocking_stale :
    ((runAsIs (init none 1)
        [OpAsIs.op (Op.subRecent 0 Mode.all), OpAsIs.op (Op.push [10]),
         OpAsIs.op (Op.advance 0), OpAsIs.op (Op.getValue 0),
         OpAsIs.op (Op.advance 0), OpAsIs.op (Op.advanceSuspend 0), OpAsIs.op (Op.push [20]),
         OpAsIs.blockingResume 0]).regs[0]?.map (·.got)) = some [10, 10] := rfl

/-! ## non-vacuity -/

/-- a reachable state with a bounded window, a lagging `all_values` subscriber, a parked one and a copy -/
example : Reachable (some 2) 1 (run (init (some 2) 1)
    [Op.subRecent 0 Mode.all, Op.subRecent 1 Mode.recent, Op.advanceSuspend 1, Op.push [1, 2, 3],
     Op.advance 0, Op.getValue 0, Op.subCopy 2 0]) := ⟨_, rfl⟩

example : CfgOk (some 2) 1 := ⟨Nat.le_refl _, by intro k hk; cases hk; decide⟩
example : CfgOk none 1 := ⟨Nat.le_refl _, by intro k hk; cases hk⟩

/-- the lagging subscriber (3 published, max 2) is told end of stream by lag; the woken `skip_to_recent` one reads 3 -/
example : (run (init (some 2) 1)
    [Op.subRecent 0 Mode.all, Op.subRecent 1 Mode.recent, Op.advanceSuspend 1, Op.push [1, 2, 3],
     Op.advance 0, Op.getValue 0, Op.getValue 1]).regs.map (fun r => (r.got, r.phase, r.pos))
    = [([], Phase.done, 1), ([3], Phase.idle, 1)] := rfl

/-- an `all_values` subscriber within the window receives 1, 2 in order, its copy continues with 2 -/
example : (run (init (some 3) 1)
    [Op.subRecent 0 Mode.all, Op.push [1, 2, 3], Op.advance 0, Op.getValue 0, Op.subCopy 1 0,
     Op.advance 0, Op.getValue 0, Op.advance 1, Op.getValue 1]).regs.map (fun r => (r.got, r.start))
    = [([1, 2], 0), ([2], 1)] := rfl

/-- the other consumer spellings are the same steps: `if (!sub.next())`, `generator_iterator` (`begin()` = the first
`next()`, `++it` / `it++` = the following ones, `it != end()` = "the last `next()` said true", `*it` = `value()`) and a
range-for loop, i.e. `next()` after `next()`.  Here a range-for consumer reads 1 and 2, parks, is woken by the publish of 3,
reads it, parks again, and leaves the loop when the publisher closes. -/
example : (run (init (some 3) 1)
    [Op.subRecent 0 Mode.all, Op.push [1, 2],
     Op.advance 0, Op.getValue 0, Op.advance 0, Op.getValue 0, Op.advance 0, Op.advanceSuspend 0,
     Op.push [3], Op.relock, Op.getValue 0, Op.advance 0, Op.advanceSuspend 0,
     Op.close, Op.relock, Op.getValue 0]).regs.map (fun r => (r.got, r.gotPos, r.phase))
    = [([1, 2, 3], [1, 2, 3], Phase.done)] := rfl

end Cocls.Pub
