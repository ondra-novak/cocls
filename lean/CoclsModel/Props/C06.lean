import CoclsModel.SuspendPointProofs
/-!
# C06 — a suspend point never loses or duplicates a ready coroutine

Model: `CoclsModel/SuspendPoint.lean` — `suspend_point` at the level of its real representation (`_count_flag`
with the heap bit, 3 inline cells, heap block with doubling, a ghost heap with live blocks / allocation events /
invalid-free events) plus the thread's ready queue.  `handles s i : List Ptr` (what `[begin(), end())` of object
`i` yields) is the abstraction.

Every theorem quantifies over *all* reachable states: any pool size `n` (any number of suspend points), both
modes (`a = false`: operations performed by plain code, `a = true`: by a coroutine running under `coro_queue`),
and *every* operation list — so any number of handles, across the inline→heap transition and every doubling.

Explicit preconditions: operations on a slot that holds no object (or constructing into an occupied slot, or
`typed = std::move(untyped)`, which does not compile) are refused (`Res.bad`, no effect); `c06_await` and
`c06_await_own_handle_not_last` assume that the awaiting coroutine is not already waiting in the ready queue.  The
awaiting coroutine's own handle may be inside the awaited suspend point in any position (`c06_await_own_handle`).
Three defects of the pinned commit are kept as as-is variants with `decide` witnesses: self-merge
(`c06_asis_self_assign_loses_handles`), own handle last (`c06_asis_await_own_handle_last_resumed_twice`) and a merge left
by `std::bad_alloc` (`c06_asis_merge_alloc_failure_duplicates`); all repaired by `fix:` commits and modelled as repaired.
-/
namespace Cocls.SP

def Reachable (n : Nat) (a : Bool) (s : State) : Prop := ∃ ops, s = run (init n a) ops

theorem reachable_inv {n : Nat} {a : Bool} {s : State} (h : Reachable n a s) : Inv s := by
  obtain ⟨ops, rfl⟩ := h
  exact inv_run (inv_init n a) ops

theorem reachable_step {n : Nat} {a : Bool} {s : State} (h : Reachable n a s) (op : Op) :
    Reachable n a (step s op).1 := by
  obtain ⟨ops, rfl⟩ := h
  exact ⟨ops ++ [op], by simp [run, List.foldl_append]⟩

/-! ## conservation: nothing lost, nothing duplicated -/

/-- **Multiset preserved.** Over any operation sequence on any number of suspend points, every handle handed
in (`given`: constructors, `<< h`, awaiting coroutines) is, counted with multiplicity, in exactly one place:
held by some suspend point, waiting in the thread's ready queue, already resumed, or handed back by `pop()`. -/
theorem c06_multiset_preserved {n : Nat} {a : Bool} {s : State} (h : Reachable n a s) (x : Ptr) :
    s.given.count x = (held s).count x + s.queue.count x + (resumed s).count x + s.popped.count x :=
  (reachable_inv h).conserve x

/-- **Never twice.** At no point of any history has a coroutine been resumed (or handed back by `pop`) more
often than it was handed in; in particular a coroutine handed in once is never resumed twice. -/
theorem c06_never_twice {n : Nat} {a : Bool} {s : State} (h : Reachable n a s) (x : Ptr) :
    (resumed s).count x + s.popped.count x ≤ s.given.count x := by
  have := c06_multiset_preserved h x; omega

/-- **Exactly once at end of life.** After any operation list, once every suspend point of the pool has been
destroyed (plain destruction, in slot order) and the running coroutine has ended: nothing is held or queued any
more and every coroutine was resumed (or handed back by `pop`) exactly as often as it was handed in — none
dropped, none resumed twice. -/
theorem c06_exactly_once_at_end (n : Nat) (a : Bool) (ops : List Op) (x : Ptr) :
    let s := run (init n a) (ops ++ endOps n)
    (resumed s).count x + s.popped.count x = s.given.count x ∧ s.queue = [] ∧ held s = [] := by
  intro s
  obtain ⟨IE, hnone, hq⟩ := end_of_life n a ops
  have hh : held s = [] := held_nil_of_all_none hnone
  have c : s.given.count x = (held s).count x + s.queue.count x + (resumed s).count x + s.popped.count x := IE.conserve x
  rw [hh, show s.queue = [] from hq] at c
  exact ⟨by simp only [List.count_nil] at c; omega, hq, hh⟩

/-! ## the representation is an exact implementation of the list abstraction, operation by operation -/

/-- construction from a handle holds exactly that handle; default / value-only construction holds nothing -/
theorem c06_construct {n : Nat} {a : Bool} {s : State} (h : Reachable n a s) {i : Nat} (hv : vacant s i = true)
    (x : Ptr) (v : Nat) :
    handles (step s (Op.ctor i)).1 i = [] ∧ handles (step s (Op.ctorV i v)).1 i = []
    ∧ handles (step s (Op.ctorH i x)).1 i = [x] ∧ handles (step s (Op.ctorHV i x v)).1 i = [x] := by
  have A := (reachable_inv h).reps
  have V := vacant_iff.1 hv
  refine ⟨?_, ?_, ?_, ?_⟩ <;> simp only [step, hv, if_true]
  · exact ((A.ctor V {} (by simp)).hs i).trans (by simp)
  · exact ((A.ctor V { typed := true, value := some v } (by simp)).hs i).trans (by simp)
  · exact (((A.handIn [x]).ctor V { cf := 2, inl := [x, junk, junk] } (by simp)).hs i).trans (by simp)
  · exact (((A.handIn [x]).ctor V { cf := 2, inl := [x, junk, junk], typed := true, value := some v }
      (by simp)).hs i).trans (by simp)

/-- `coro_queue::create_suspend_point(fn)`: the coroutines `fn` made ready (in the order `hs`) end up in the new
suspend point — all of them, each once, in that order (the order in which dropping them one by one would have resumed
them; the pinned code reversed it, `c06_create_asis_reversed`, /repo fix 34c6158) —, the ready queue is as before,
nothing is resumed, no other suspend point changes; a non-void result of `fn` is the attached value.  Whatever the
count (inline, heap, every doubling). -/
theorem c06_create {n : Nat} {a : Bool} {s : State} (h : Reachable n a s) {i : Nat} (hv : vacant s i = true)
    (hs : List Ptr) (v : Option Nat) :
    handles (step s (Op.create i hs v)).1 i = hs
    ∧ (∀ k, k ≠ i → handles (step s (Op.create i hs v)).1 k = handles s k)
    ∧ (step s (Op.create i hs v)).1.queue = s.queue
    ∧ resumed (step s (Op.create i hs v)).1 = resumed s
    ∧ (step s (Op.create i hs v)).1.given = s.given ++ hs
    ∧ ∃ o, (step s (Op.create i hs v)).1.obj i = some o ∧ o.typed = v.isSome ∧ o.value = v := by
  obtain ⟨o, ht, hval, A⟩ := (((reachable_inv h).reps.ctor (vacant_iff.1 hv) { typed := v.isSome, value := v }
    (by simp)).createAll (updF_same _ _ _) hs)
  simp only [step, hv, if_true]
  exact ⟨(A.hs i).trans (by simp), fun k hk => (A.hs k).trans (by simp [updF_other _ _ hk]), A.queue, A.resumed, A.given, o,
    (A.obj i).trans (by simp), ht, hval⟩

/-- as-is fact (pinned commit, before `/repo` commit 34c6158): three coroutines made ready in the order 1, 2, 3 under
`create_suspend_point` came out as 3, 2, 1 — dropping the result resumed them in the opposite order to the same calls without
the wrapper.  Each of them is still held (and later resumed) exactly once, so this is *not* a violation of C06, whose statement
has no order clause; the order is what C05 (FIFO) demands: `c05_asis_create_reversed` in `Props/C05.lean`.  Kept here because the
model and the correspondence (`corpus/c06_create_order.txt`) follow the repaired order. -/
theorem c06_create_asis_reversed : handles (createAsIs (init 1 true) 0 [1, 2, 3] none) 0 = [3, 2, 1] := by decide

/-- `sp << h` appends `h`, whatever the current count (inline, inline→heap, heap, heap doubling); no other
suspend point changes -/
theorem c06_add {n : Nat} {a : Bool} {s : State} (h : Reachable n a s) {i : Nat} {o : Obj}
    (hi : s.obj i = some o) (x : Ptr) :
    handles (step s (Op.addH i x)).1 i = handles s i ++ [x]
    ∧ ∀ k, k ≠ i → handles (step s (Op.addH i x)).1 k = handles s k := by
  obtain ⟨o', -, -, A⟩ := ((reachable_inv h).reps.handIn [x]).add hi x
  simp only [step, hi]
  exact ⟨A.hs_self rfl, A.hs_other rfl⟩

/-- `a << std::move(b)` and `a = std::move(b)` (two distinct objects): `a` holds its handles followed by
`b`'s, `b` is empty, nothing else changes -/
theorem c06_merge {n : Nat} {a : Bool} {s : State} (h : Reachable n a s) {i j : Nat} {oi oj : Obj}
    (hi : s.obj i = some oi) (hj : s.obj j = some oj) (hij : i ≠ j) :
    (handles (step s (Op.merge i j)).1 i = handles s i ++ handles s j
      ∧ handles (step s (Op.merge i j)).1 j = []
      ∧ ∀ k, k ≠ i → k ≠ j → handles (step s (Op.merge i j)).1 k = handles s k)
    ∧ ((step s (Op.assign i j)).2 = Res.unit →
        handles (step s (Op.assign i j)).1 i = handles s i ++ handles s j
        ∧ handles (step s (Op.assign i j)).1 j = []
        ∧ ∀ k, k ≠ i → k ≠ j → handles (step s (Op.assign i j)).1 k = handles s k) := by
  obtain ⟨oi', -, -, M⟩ := (reachable_inv h).reps.merge hi hj hij
  refine ⟨?_, ?_⟩ <;> simp only [step, hi, hj, if_neg hij]
  · exact M.hs_two hij rfl
  · split
    · intro hh; cases hh
    · split
      · intro _
        -- assigning the `value` members does not touch the handles
        exact ((M.setVal (o := oi') ((updF_other _ _ hij).trans (updF_same _ _ _)) oj.value).setVal
          (o := { oj with cf := 0 }) ((updF_other _ _ (Ne.symm hij)).trans (updF_same _ _ _)) none).hs_two hij rfl
      · intro _; exact M.hs_two hij rfl

/-- merging a suspend point into itself (`sp << std::move(sp)`, `sp = std::move(sp)`) changes nothing (repaired
code; see `c06_asis_self_assign_loses_handles` for the pinned commit) -/
theorem c06_self_merge_noop (s : State) (i : Nat) :
    (step s (Op.merge i i)).1 = s ∧ (step s (Op.assign i i)).1 = s := by
  refine ⟨?_, ?_⟩ <;> simp only [step] <;> split <;> simp

/-- move construction (same type, sliced to the base, or into a typed suspend point with a value): the new
object holds exactly the source's handles in the same order, the moved-from source holds nothing -/
theorem c06_move {n : Nat} {a : Bool} {s : State} (h : Reachable n a s) {i j : Nat} {oj : Obj}
    (hv : vacant s i = true) (hj : s.obj j = some oj) (v : Nat) :
    ∀ op, op = Op.mov i j ∨ op = Op.movBase i j ∨ op = Op.ctorSV i j v →
      handles (step s op).1 i = handles s j ∧ handles (step s op).1 j = []
      ∧ ∀ k, k ≠ i → k ≠ j → handles (step s op).1 k = handles s k := by
  have M := (reachable_inv h).reps.move (vacant_iff.1 hv) hj
  have hij : i ≠ j := by intro e; rw [← e, (vacant_iff.1 hv).2] at hj; cases hj
  intro op hop
  rcases hop with rfl | rfl | rfl <;> simp only [step, hj, hv, if_true]
  · split
    · exact ((M oj.typed oj.value).setVal (updF_same _ _ _) none).hs_two hij rfl
    · exact (M oj.typed oj.value).hs_two hij rfl
  · exact (M false none).hs_two hij rfl
  · exact (M true (some v)).hs_two hij rfl

/-- `pop()`: on a non-empty suspend point it returns the *last* handle and removes exactly that one; on an empty
one it returns `noop_coroutine` and changes nothing -/
theorem c06_pop {n : Nat} {a : Bool} {s : State} (h : Reachable n a s) {i : Nat} {o : Obj} (hi : s.obj i = some o) :
    (handles s i = [] → step s (Op.pop i) = (s, Res.handle none))
    ∧ (handles s i ≠ [] → ∃ x, (step s (Op.pop i)).2 = Res.handle (some x)
        ∧ handles s i = handles (step s (Op.pop i)).1 i ++ [x]
        ∧ (step s (Op.pop i)).1.popped = s.popped ++ [x]
        ∧ ∀ k, k ≠ i → handles (step s (Op.pop i)).1 k = handles s k) := by
  have I := reachable_inv h
  by_cases hc : o.cf / 2 = 0
  · have h0 := handles_of_count_zero hi hc
    refine ⟨fun _ => by simp only [step, hi, hc, if_true], fun hne => absurd h0 hne⟩
  · have hh := handles_pop I.own hi hc
    have A := (I.reps.shrink hi 1 (by omega)).handBack [popValue s o]
    refine ⟨fun h0 => ?_, fun _ => ⟨popValue s o, ?_⟩⟩
    · rw [hh] at h0; simp at h0
    · rw [show step s (Op.pop i)
          = ({ setObj s i (some { o with cf := o.cf - 2 }) with popped := s.popped ++ [popValue s o] },
             Res.handle (some (popValue s o))) by simp only [step, hi, hc, if_false]]
      exact ⟨rfl, hh.trans (congrArg (· ++ [popValue s o]) (A.hs_self rfl).symm), rfl,
        A.hs_other rfl⟩

/-- `clear()` and plain destruction: exactly the handles of the suspend point, each once and in order, are
resumed (normal mode) or appended to the thread's ready queue (coroutine mode); the suspend point is left empty
(`clear`) / gone (destructor); no other suspend point changes -/
theorem c06_consume {n : Nat} {a : Bool} {s : State} (h : Reachable n a s) {i : Nat} {o : Obj}
    (hi : s.obj i = some o) :
    (handles (step s (Op.clear i)).1 i = []
      ∧ (step s (Op.clear i)).1.queue = s.queue ++ (if s.active then handles s i else [])
      ∧ resumed (step s (Op.clear i)).1 = resumed s ++ (if s.active then [] else handles s i)
      ∧ ∀ k, k ≠ i → handles (step s (Op.clear i)).1 k = handles s k)
    ∧ ((step s (Op.dtor i)).1.obj i = none
      ∧ (step s (Op.dtor i)).1.queue = s.queue ++ (if s.active then handles s i else [])
      ∧ resumed (step s (Op.dtor i)).1 = resumed s ++ (if s.active then [] else handles s i)
      ∧ ∀ k, k ≠ i → handles (step s (Op.dtor i)).1 k = handles s k) := by
  have A := (reachable_inv h).reps
  have S := A.suspendNow hi
  have D := A.dtor hi
  refine ⟨?_, ?_⟩ <;> simp only [step, hi]
  · exact ⟨S.hs_self rfl, S.queue, S.resumed, S.hs_other rfl⟩
  · exact ⟨(D.obj i).trans (updF_same _ _ _), D.queue, D.resumed, D.hs_other rfl⟩

/-- `co_await sp` by coroutine `me` (not itself among the handles, not already queued).  Empty suspend point:
no suspension, nothing happens.  Otherwise the last handle is resumed first (symmetric transfer), then whatever
was already queued, then the remaining handles in order, then `me` — each exactly once; the suspend point and
the queue are left empty.  In normal mode the queue is empty to begin with, so the same formula holds. -/
theorem c06_await {n : Nat} {a : Bool} {s : State} (h : Reachable n a s) {i : Nat} {o : Obj}
    (hi : s.obj i = some o) (me : Ptr) (hme : me ∉ handles s i) (hq : me ∉ s.queue) :
    (handles s i = [] → (step s (Op.await i me)).1 = s)
    ∧ (handles s i ≠ [] → ∃ rest last, handles s i = rest ++ [last]
        ∧ resumed (step s (Op.await i me)).1 = resumed s ++ [last] ++ s.queue ++ rest ++ [me]
        ∧ (step s (Op.await i me)).1.queue = []
        ∧ handles (step s (Op.await i me)).1 i = []
        ∧ ∀ k, k ≠ i → handles (step s (Op.await i me)).1 k = handles s k) := by
  have I := reachable_inv h
  have e : (step s (Op.await i me)).1 = awaitObj s i o me := by simp only [step, hi]
  rw [e]
  by_cases hc : o.cf / 2 = 0
  · exact ⟨fun _ => by rw [awaitObj, if_pos hc], fun hne => absurd (handles_of_count_zero hi hc) hne⟩
  · have A := I.reps.awaitObj hi hc me
    have hh := handles_pop I.own hi hc
    -- `me` is new: it is queued last, so the scheduler runs the whole queue
    have hrest : me ∉ handlesOf s { o with cf := o.cf - 2 } := fun hm => hme (by rw [hh]; simp [hm])
    have hpv : popValue s o ≠ me := fun e => hme (by rw [hh, e]; simp)
    have hQ : awaitQ s o me = (s.queue ++ handlesOf s { o with cf := o.cf - 2 }) ++ [me] := by
      simp [awaitQ, awaitExtra, hrest, hpv]
    have hidx : (awaitQ s o me).idxOf me + 1 = (awaitQ s o me).length := by
      rw [hQ, idxOf_append_right _ _ _ (by simp [hq, hrest])]; simp; omega
    refine ⟨fun h0 => by rw [hh] at h0; simp at h0, fun _ => ⟨_, _, hh, ?_, ?_, A.hs_self rfl,
      A.hs_other rfl⟩⟩
    · rw [A.resumed]
      cases ha : s.active
      · simp [hQ, I.idle ha]
      · simp [hpv, hidx]; simp [hQ]
    · rw [A.queue]
      cases ha : s.active <;> simp [hpv, hidx]

/-- `co_await sp` by a coroutine whose **own handle is among the handles, but not the last one** (the yield idiom
`sp = co_await self(); sp << others…; co_await sp;`).  `await_suspend` recognises the own handle and does not push
the awaiting coroutine a second time: nothing new is handed in (`given` unchanged), and the multiset
"resumed ++ still queued" grows by exactly the handles of the suspend point — the own handle is queued, and
resumed, exactly once.  Precisely: the last handle runs first, then what was queued, then the remaining handles up
to and including the (first) own handle, at which point `me` continues; in coroutine mode the handles behind the
own one are still queued, in that order; in normal mode (the queue is flushed before `co_await` returns to plain
code) all of them have run.  (Own handle *last*: `c06_await_own_handle_last`.) -/
theorem c06_await_own_handle_not_last {n : Nat} {a : Bool} {s : State} (h : Reachable n a s) {i : Nat} {o : Obj}
    (hi : s.obj i = some o) (me : Ptr) (hq : me ∉ s.queue) :
    ∀ rest last, handles s i = rest ++ [last] → me ∈ rest → last ≠ me →
      (step s (Op.await i me)).1.given = s.given
      ∧ handles (step s (Op.await i me)).1 i = []
      ∧ (∀ k, k ≠ i → handles (step s (Op.await i me)).1 k = handles s k)
      ∧ resumed (step s (Op.await i me)).1 ++ (step s (Op.await i me)).1.queue
          = resumed s ++ [last] ++ s.queue ++ rest
      ∧ (s.active = true →
          resumed (step s (Op.await i me)).1 = resumed s ++ [last] ++ s.queue ++ rest.take (rest.idxOf me + 1)
          ∧ (step s (Op.await i me)).1.queue = rest.drop (rest.idxOf me + 1))
      ∧ (s.active = false →
          resumed (step s (Op.await i me)).1 = resumed s ++ [last] ++ rest
          ∧ (step s (Op.await i me)).1.queue = []) := by
  have I := reachable_inv h
  intro rest last hdec hmem hlast
  -- the decomposition is the model's own: rest = handles after the pop, last = the popped value
  obtain ⟨hc, rfl, rfl⟩ := handles_snoc I.own hi hdec
  have A := I.reps.awaitObj hi hc me
  rw [show (step s (Op.await i me)).1 = awaitObj s i o me by simp only [step, hi]]
  -- the own handle is found among the remaining ones: `me` is not pushed again
  have hE : awaitExtra s o me = [] := by simp [awaitExtra, hmem]
  have hQ : awaitQ s o me = s.queue ++ handlesOf s { o with cf := o.cf - 2 } := by simp [awaitQ, hE]
  have hr : resumed (awaitObj s i o me) = _ := A.resumed
  have hqq : (awaitObj s i o me).queue = _ := A.queue
  simp only [hQ, if_neg hlast, idxOf_append_right _ _ _ hq, Nat.add_assoc, List.take_length_add_append,
    List.drop_length_add_append] at hr hqq
  refine ⟨A.given.trans (by simp [hE]), A.hs_self rfl, A.hs_other rfl,
    ?_, fun ha => by simp [hr, hqq, ha], fun ha => by simp [hr, hqq, ha, I.idle ha]⟩
  cases ha : s.active <;> simp [hr, hqq, ha]

/-- `co_await sp` by a coroutine whose **own handle is the last one** (`suspend_point<void> me = co_await self();
co_await me;`, or the own handle added last): `pop()` takes the own handle for the symmetric transfer, the guard of the
repaired `await_suspend` starts from the popped handle, so the awaiting coroutine is resumed exactly once — by the
transfer — and is *not* queued again; nothing new is handed in.  In coroutine mode the remaining handles are queued
behind what was already queued and the coroutine continues at once; in normal mode they have all run when `co_await`
returns to plain code.  (The pinned code queued the own handle as well: `c06_asis_await_own_handle_last_resumed_twice`.) -/
theorem c06_await_own_handle_last {n : Nat} {a : Bool} {s : State} (h : Reachable n a s) {i : Nat} {o : Obj}
    (hi : s.obj i = some o) (me : Ptr) :
    ∀ rest, handles s i = rest ++ [me] →
      (step s (Op.await i me)).1.given = s.given
      ∧ handles (step s (Op.await i me)).1 i = []
      ∧ (∀ k, k ≠ i → handles (step s (Op.await i me)).1 k = handles s k)
      ∧ resumed (step s (Op.await i me)).1 ++ (step s (Op.await i me)).1.queue
          = resumed s ++ [me] ++ s.queue ++ rest
      ∧ (s.active = true →
          resumed (step s (Op.await i me)).1 = resumed s ++ [me]
          ∧ (step s (Op.await i me)).1.queue = s.queue ++ rest)
      ∧ (s.active = false →
          resumed (step s (Op.await i me)).1 = resumed s ++ [me] ++ rest
          ∧ (step s (Op.await i me)).1.queue = []) := by
  have I := reachable_inv h
  intro rest hdec
  obtain ⟨hc, rfl, hme⟩ := handles_snoc I.own hi hdec
  have A := I.reps.awaitObj hi hc me
  rw [show (step s (Op.await i me)).1 = awaitObj s i o me by simp only [step, hi]]
  -- the guard starts from the popped handle, which is `me`: not pushed again
  have hE : awaitExtra s o me = [] := by simp [awaitExtra, ← hme]
  have hQ : awaitQ s o me = s.queue ++ handlesOf s { o with cf := o.cf - 2 } := by simp [awaitQ, hE]
  have hr : resumed (awaitObj s i o me) = _ := A.resumed
  have hqq : (awaitObj s i o me).queue = _ := A.queue
  simp only [hQ, ← hme, if_true] at hr hqq
  refine ⟨A.given.trans (by simp [hE]), A.hs_self rfl, A.hs_other rfl,
    ?_, fun ha => by simp [hr, hqq, ha], fun ha => by simp [hr, hqq, ha, I.idle ha]⟩
  cases ha : s.active <;> simp [hr, hqq, ha]

/-- **Own handle in any position: resumed exactly once.**  A coroutine awaits a suspend point that contains its own
handle once (first, in the middle, or last) and is not already queued: nothing new is handed in, and afterwards the
coroutine has been resumed-or-is-queued exactly once more than before — by the symmetric transfer when its handle was
the last one, through the ready queue otherwise; every other handle of the suspend point likewise exactly once. -/
theorem c06_await_own_handle {n : Nat} {a : Bool} {s : State} (h : Reachable n a s) {i : Nat} {o : Obj}
    (hi : s.obj i = some o) (me : Ptr) (hq : me ∉ s.queue) (hmem : me ∈ handles s i) :
    (step s (Op.await i me)).1.given = s.given
    ∧ handles (step s (Op.await i me)).1 i = []
    ∧ ∀ x, (resumed (step s (Op.await i me)).1).count x + (step s (Op.await i me)).1.queue.count x
        = (resumed s).count x + s.queue.count x + (handles s i).count x := by
  have _ := hq   -- not needed: conservation holds whatever is queued
  have I := reachable_inv h
  have hc : o.cf / 2 ≠ 0 := fun hc => by rw [handles_of_count_zero hi hc] at hmem; cases hmem
  have A := I.reps.awaitObj hi hc me
  have hh := handles_pop I.own hi hc
  -- the guard of `await_suspend` finds the own handle: `me` is not pushed
  have hE : awaitExtra s o me = [] := by
    rw [hh, List.mem_append, List.mem_singleton] at hmem
    exact if_pos (hmem.symm.imp Eq.symm id)
  rw [show (step s (Op.await i me)).1 = awaitObj s i o me by simp only [step, hi]]
  refine ⟨A.given.trans (by simp [hE]), A.hs_self rfl, fun x => ?_⟩
  rw [await_count I.reps hi hc me x, hE]; rfl

/-- **A moved-from or emptied suspend point resumes nothing**: whatever consumes an object that holds no handle
(`clear`, destructor, `co_await`; for `pop` see `c06_pop`) resumes nothing and enqueues nothing -/
theorem c06_empty_resumes_nothing {n : Nat} {a : Bool} {s : State} (h : Reachable n a s) {i : Nat} {o : Obj}
    (hi : s.obj i = some o) (h0 : handles s i = []) (me : Ptr) :
    ∀ op, op = Op.clear i ∨ op = Op.dtor i ∨ op = Op.await i me →
      resumed (step s op).1 = resumed s ∧ (step s op).1.queue = s.queue := by
  have I := reachable_inv h
  have C := c06_consume h hi
  have hc : o.cf / 2 = 0 := by
    rw [← handlesOf_length (I.own.wf i o hi), show handlesOf s o = handles s i by simp [handles, hi], h0]; rfl
  intro op hop
  rcases hop with rfl | rfl | rfl
  · exact ⟨by rw [C.1.2.2.1, h0]; simp, by rw [C.1.2.1, h0]; simp⟩
  · exact ⟨by rw [C.2.2.2.1, h0]; simp, by rw [C.2.2.1, h0]; simp⟩
  · have e : (step s (Op.await i me)).1 = s := by simp only [step, hi, awaitObj, hc, if_true]
    rw [e]; exact ⟨rfl, rfl⟩

/-! ## heap: balanced, no double free, no leak, no out-of-bounds access -/

/-- **Heap balance.** In every reachable state: no `delete[]` ever hit an address that was not a live block
(no double free after move / merge, no invalid free), no write ever went outside a live block, and the number
of `new[]` equals the number of `delete[]` plus the number of blocks still live. -/
theorem c06_heap_balanced {n : Nat} {a : Bool} {s : State} (h : Reachable n a s) :
    Ev.badfree ∉ s.trace ∧ Ev.oob ∉ s.trace ∧ news s = deletes s + s.live.length :=
  ⟨(reachable_inv h).heap.no_badfree, (reachable_inv h).heap.no_oob, (reachable_inv h).heap.balance⟩

/-- every live block is owned by exactly one suspend point (which has its heap bit set and points to it): a
block can never be freed twice through two owners, and a block without owner — a leak — does not exist -/
theorem c06_block_ownership {n : Nat} {a : Bool} {s : State} (h : Reachable n a s) :
    (∀ b, b ∈ s.live → ∃ i o, s.obj i = some o ∧ o.cf % 2 = 1 ∧ o.ext = b)
    ∧ (∀ i j oi oj, s.obj i = some oi → s.obj j = some oj → oi.cf % 2 = 1 → oj.cf % 2 = 1 → oi.ext = oj.ext → i = j) := by
  have I := reachable_inv h
  refine ⟨?_, I.own.excl⟩
  intro b hb
  have := (I.heap.live_iff b).1 hb
  cases hg : s.mem.get b with
  | none => rw [hg] at this; cases this
  | some c => exact I.own.owned b c hg

/-- **No leak.** When no suspend point uses heap storage (in particular when all have been destroyed) no block
is live and every `new[]` was matched by exactly one `delete[]`; this is the case at the end of every history
(`ops ++ endOps n`), however far the counts outgrew the inline capacity in between. -/
theorem c06_no_leak {n : Nat} {a : Bool} {s : State} (h : Reachable n a s)
    (hnone : ∀ i o, s.obj i = some o → o.cf % 2 = 0) : s.live = [] ∧ news s = deletes s := by
  have hl : s.live = [] := by
    apply List.eq_nil_iff_forall_not_mem.2
    intro b hb
    obtain ⟨i, o, ho, hf, -⟩ := (c06_block_ownership h).1 b hb
    have := hnone i o ho; omega
  have := (c06_heap_balanced h).2.2
  rw [hl] at this
  exact ⟨hl, by simpa using this⟩

theorem c06_no_leak_at_end (n : Nat) (a : Bool) (ops : List Op) :
    let s := run (init n a) (ops ++ endOps n)
    s.live = [] ∧ news s = deletes s ∧ Ev.badfree ∉ s.trace ∧ Ev.oob ∉ s.trace := by
  intro s
  have hr : Reachable n a s := ⟨ops ++ endOps n, rfl⟩
  have L := c06_no_leak hr (fun i o ho => by rw [(end_of_life n a ops).2.1 i] at ho; cases ho)
  exact ⟨L.1, L.2, (c06_heap_balanced hr).1, (c06_heap_balanced hr).2.1⟩

/-- the count never exceeds the storage in use: at most 3 inline, at most the capacity of the (live) block on
the heap — so every read of `[begin(), end())` and of `from[idx-1]` is in bounds -/
theorem c06_count_within_storage {n : Nat} {a : Bool} {s : State} (h : Reachable n a s) {i : Nat} {o : Obj}
    (hi : s.obj i = some o) :
    (o.cf % 2 = 0 → o.cf / 2 ≤ inlineCount ∧ o.inl.length = inlineCount)
    ∧ (o.cf % 2 = 1 → ∃ c, s.mem.get o.ext = some c ∧ c.length = o.cap ∧ o.cf / 2 ≤ o.cap ∧ o.ext ∈ s.live) := by
  have I := reachable_inv h
  have w := I.own.wf i o hi
  refine ⟨fun hf => ⟨w.inl_le hf, w.inl_len⟩, fun hf => ?_⟩
  obtain ⟨c, hg, hl, hle, -⟩ := w.ext_ok hf
  exact ⟨c, hg, hl, hle, (I.heap.live_iff o.ext).2 (by simp [hg])⟩

/-- **No allocation within the inline capacity**: adding / merging handles into a suspend point that uses inline
storage, as long as the resulting count does not exceed 3, touches neither the heap nor the event trace
(`new[]` only ever happens in `add`, and only when the count outgrows the storage) -/
theorem c06_inline_no_alloc {s : State} {i : Nat} {o : Obj} (hi : s.obj i = some o) (hf : o.cf % 2 = 0)
    (hs : List Ptr) (hc : o.cf / 2 + hs.length ≤ inlineCount) :
    (addAll s i hs).trace = s.trace ∧ (addAll s i hs).mem = s.mem ∧ (addAll s i hs).live = s.live :=
  addAll_inline hi hf hs hc

/-! ## the attached value -/

/-- a typed suspend point is constructed with the value its producer supplied -/
theorem c06_value_constructed {n : Nat} {a : Bool} {s : State} (_h : Reachable n a s) {i : Nat}
    (hv : vacant s i = true) (x : Ptr) (v : Nat) :
    (∃ o, (step s (Op.ctorV i v)).1.obj i = some o ∧ o.typed = true ∧ o.value = some v)
    ∧ (∃ o, (step s (Op.ctorHV i x v)).1.obj i = some o ∧ o.typed = true ∧ o.value = some v)
    ∧ (∀ j oj, s.obj j = some oj →
        (∃ o, (step s (Op.ctorSV i j v)).1.obj i = some o ∧ o.typed = true ∧ o.value = some v)
        ∧ (∃ o, (step s (Op.mov i j)).1.obj i = some o ∧ o.typed = oj.typed ∧ o.value = oj.value)) := by
  obtain ⟨hil, hin⟩ := vacant_iff.1 hv
  have new : ∀ (t : State) (o : Obj), t.objs.length = s.objs.length → (setObj t i (some o)).obj i = some o :=
    fun t o ht => by rw [obj_setObj _ i _ (ht ▸ hil), updF_same]
  refine ⟨?_, ?_, ?_⟩
  · simp only [step, hv, if_true]
    exact ⟨_, new s _ rfl, rfl, rfl⟩
  · simp only [step, hv, if_true]
    exact ⟨_, new _ _ rfl, rfl, rfl⟩
  · intro j oj hj
    have hij : i ≠ j := by intro e; subst e; rw [hin] at hj; cases hj
    have M := obj_stepMove hil hj
    have tv : ∀ t w, (moveFrom oj t w).typed = t ∧ (moveFrom oj t w).value = w := by
      intro t w; unfold moveFrom; split <;> exact ⟨rfl, rfl⟩
    refine ⟨?_, ?_⟩ <;> simp only [step, hj, hv, if_true]
    · exact ⟨_, by rw [M, if_neg hij, if_pos rfl], (tv _ _).1, (tv _ _).2⟩
    · split
      · exact ⟨_, by rw [obj_setVal (by rw [M, if_pos rfl]) none, updF_other _ _ hij, M, if_neg hij, if_pos rfl], (tv _ _).1,
          (tv _ _).2⟩
      · exact ⟨_, by rw [M, if_neg hij, if_pos rfl], (tv _ _).1, (tv _ _).2⟩

/-- **Reading the value never changes anything**: the conversion on a non-const object (`operator X()`), the
conversion on a const object, `await_resume()` — and all three in a row — leave the whole state untouched and yield
the attached value (`Res.gone` only if the value had been moved away by a move construction / move assignment);
`co_await` on a typed suspend point yields the same value.  So the value can be read any number of times, in any
order, before or after awaiting. -/
theorem c06_value_read {s : State} {i : Nat} {o : Obj} (hi : s.obj i = some o) (ht : o.typed = true) (me : Ptr) :
    step s (Op.conv i) = (s, readVal o) ∧ step s (Op.cconv i) = (s, readVal o)
    ∧ step s (Op.ares i) = (s, readVal o) ∧ step s (Op.value i) = (s, readVal o)
    ∧ (step s (Op.await i me)).2 = readVal o
    ∧ (∀ v, o.value = some v → readVal o = Res.num v) := by
  refine ⟨?_, ?_, ?_, ?_, ?_, ?_⟩ <;> (try simp only [step, hi, ht, if_true])
  intro v hv; simp [readVal, hv]

/-- **The value is the one its producer supplied**: no operation changes the type or the value of an existing
suspend point — reading it (in any way), adding, merging into it or out of it, slicing / moving its handles out, pop,
clear, co_await, growing to the heap.  The only exceptions are the implicit member-wise move operations of
`suspend_point<X>`: the *target* of a move-assignment between two typed suspend points receives the source's value,
and the *source* of a typed move construction / move assignment is left with a moved-from value (`none`). -/
theorem c06_value {n : Nat} {a : Bool} {s : State} (h : Reachable n a s) (op : Op) {k : Nat} {o o' : Obj}
    (hk : s.obj k = some o) (hk' : (step s op).1.obj k = some o') :
    o'.typed = o.typed ∧
    (o'.value = o.value
     ∨ (∃ j oj, op = Op.assign k j ∧ j ≠ k ∧ s.obj j = some oj ∧ o.typed = true ∧ oj.typed = true ∧ o'.value = oj.value)
     ∨ (o.typed = true ∧ o'.value = none
        ∧ ((∃ i, op = Op.mov i k) ∨ ∃ i oi, op = Op.assign i k ∧ i ≠ k ∧ s.obj i = some oi ∧ oi.typed = true))) :=
  (step_spec (reachable_inv h) op).val k o o' hk hk'

/-! ## the pinned commit violated the property -/

/-- The unrepaired `operator<<` / move-assignment applied to the object itself (`sp = std::move(sp)` with two
handles): the loop re-adds the object's own handles (spilling to the heap on the way), then resets the count —
both coroutines are dropped (held nowhere, never resumed) and the block allocated on the way is leaked.
Replayed on the headers in corpus/c06_selfassign.txt; repaired by `/repo` commit a20835f (self-merge is a no-op). -/
theorem c06_asis_self_assign_loses_handles :
    let s := runAsIs (init 1 false) [Op.ctorH 0 1, Op.addH 0 2, Op.assign 0 0]
    s.given = [1, 2] ∧ handles s 0 = [] ∧ resumed s = [] ∧ s.queue = [] ∧ s.popped = []
    ∧ s.live = [1] ∧ s.trace = [Ev.alloc 6] := by decide

/-- The unrepaired `await_suspend` with the awaiting coroutine's own handle last (`me = co_await self(); co_await me;`,
coroutine 99 running under `coro_queue`): the handle is handed in once, the symmetric transfer resumes 99 and the
guard — which only looked at the remaining handles — queues it as well; when the coroutine ends and the queue is
flushed it is resumed a second time.  Normal mode (coroutine 100 outside `coro_queue`): both resumptions happen inside
the `co_await`.  Replayed on the headers in corpus/c06_ownhandle_last.txt; repaired by `/repo` commit e49d44d ("fix: co_await on
a suspend point whose last handle is the awaiting coroutine resumed it twice": the guard starts from the popped handle). -/
theorem c06_asis_await_own_handle_last_resumed_twice :
    resumed (runAsIs (init 1 true) [Op.ctorH 0 99, Op.await 0 99, Op.finish]) = [99, 99]
    ∧ resumed (runAsIs (init 1 false) [Op.ctorH 0 100, Op.await 0 100]) = [100, 100]
    ∧ resumed (run (init 1 true) [Op.ctorH 0 99, Op.await 0 99, Op.finish]) = [99]
    ∧ resumed (run (init 1 false) [Op.ctorH 0 100, Op.await 0 100]) = [100] := by decide

/-! ## non-vacuity: the hypotheses are satisfiable by non-trivial reachable states -/

/-- 7 handles added to one suspend point: inline → heap (6) → doubling (12) -/
def demoGrow : List Op := [Op.ctor 0, Op.addH 0 10, Op.addH 0 11, Op.addH 0 12, Op.addH 0 13, Op.addH 0 14,
  Op.addH 0 15, Op.addH 0 16]

example : Reachable 2 false (run (init 2 false) demoGrow) := ⟨_, rfl⟩
example : handles (run (init 2 false) demoGrow) 0 = [10, 11, 12, 13, 14, 15, 16] := by decide
example : (run (init 2 false) demoGrow).trace = [Ev.alloc 6, Ev.alloc 12, Ev.free 6] := by decide
example : ((run (init 2 false) demoGrow).obj 0).map (·.cf) = some 15 := by decide   -- count 7, heap bit set
/-- merging a heap-backed suspend point into an inline one, then destroying both in normal mode: every handle
resumed once, in order, all blocks freed -/
example : resumed (run (init 2 false) (demoGrow ++ [Op.ctorH 1 9, Op.merge 1 0] ++ endOps 2))
    = [9, 10, 11, 12, 13, 14, 15, 16] := by decide
example : (run (init 2 false) (demoGrow ++ [Op.ctorH 1 9, Op.merge 1 0] ++ endOps 2)).live = [] := by decide
/-- coroutine mode: a discarded suspend point only enqueues; `co_await` runs its last handle first -/
example : resumed (run (init 2 true) [Op.ctorH 0 1, Op.addH 0 2, Op.clear 0, Op.ctorH 1 3, Op.addH 1 4, Op.addH 1 5,
    Op.await 1 99]) = [5, 1, 2, 3, 4, 99] := by decide

/-- the yield idiom in coroutine mode: own handle (99) first, handles 1 2 3 behind it; the last one (3) runs first, then
the own handle — queued once — gets control back while 1 and 2 are still queued; nothing new was handed in -/
example : resumed (run (init 1 true) [Op.ctorH 0 99, Op.addH 0 1, Op.addH 0 2, Op.addH 0 3, Op.await 0 99]) = [3, 99]
    ∧ (run (init 1 true) [Op.ctorH 0 99, Op.addH 0 1, Op.addH 0 2, Op.addH 0 3, Op.await 0 99]).queue = [1, 2]
    ∧ (run (init 1 true) [Op.ctorH 0 99, Op.addH 0 1, Op.addH 0 2, Op.addH 0 3, Op.await 0 99]).given = [99, 1, 2, 3] := by
  decide
/-- own handle in the middle, normal mode (a coroutine outside `coro_queue`): everything has run, each once -/
example : resumed (run (init 1 false) [Op.ctorH 0 1, Op.addH 0 100, Op.addH 0 2, Op.addH 0 3, Op.await 0 100])
    = [3, 1, 100, 2] := by decide

/-- the value is read four times (twice through the non-const conversion), awaited, moved with the typed move
constructor and read again: always the producer's 42; the moved-from source reads as moved-from -/
example : (step (run (init 2 false) [Op.ctorHV 0 1 42, Op.conv 0, Op.conv 0, Op.cconv 0, Op.ares 0, Op.await 0 100])
      (Op.conv 0)).2 = Res.num 42
    ∧ (step (run (init 2 false) [Op.ctorHV 0 1 42, Op.conv 0, Op.mov 1 0]) (Op.conv 1)).2 = Res.num 42
    ∧ (step (run (init 2 false) [Op.ctorHV 0 1 42, Op.conv 0, Op.mov 1 0]) (Op.conv 0)).2 = Res.gone := by decide

/-- `create_suspend_point` with five coroutines made ready and the result 7: same order, one block, value attached -/
example : handles (run (init 1 true) [Op.create 0 [1, 2, 3, 4, 5] (some 7)]) 0 = [1, 2, 3, 4, 5]
    ∧ (run (init 1 true) [Op.create 0 [1, 2, 3, 4, 5] (some 7)]).trace = [Ev.alloc 6]
    ∧ (step (run (init 1 true) [Op.create 0 [1, 2, 3, 4, 5] (some 7)]) (Op.conv 0)).2 = Res.num 7 := by decide

/-! ## faults: allocation failure (`std::bad_alloc`) and exceptions out of callables run under a freshly installed queue

All conservation / heap theorems above (`c06_multiset_preserved`, `c06_never_twice`, `c06_exactly_once_at_end`,
`c06_heap_balanced`, `c06_block_ownership`, `c06_no_leak_at_end`, `c06_value`) quantify over *every* operation list, and `Op`
includes the fault operations `Op.fault f`: histories in which allocations fail at any growth position and callables throw,
followed by any further operations on the same objects, are covered by them. -/

/-- **`sp << h` under allocation failure: strong guarantee.**  `add` calls `new[]` exactly when the inline storage is full
(3 handles: the inline→heap switch) or the heap block is at capacity (every doubling).  When that allocation throws
`std::bad_alloc`, *nothing at all* has changed — not the handles, not the representation (count, flag, capacity, block), not
the heap; the handle stays with the caller (it was not handed in).  Otherwise the operation is the plain `sp << h`. -/
theorem c06_add_alloc_failure {n : Nat} {a : Bool} {s : State} (h : Reachable n a s) {i : Nat} {o : Obj}
    (hi : s.obj i = some o) (x : Ptr) :
    (needsAlloc o = true → step s (Op.fault (FOp.addF i x)) = (s, Res.threw))
    ∧ (needsAlloc o = false → step s (Op.fault (FOp.addF i x)) = ((step s (Op.addH i x)).1, Res.unit))
    ∧ (needsAlloc o = true ↔ (o.cf % 2 = 0 ∧ o.cf / 2 = inlineCount) ∨ (o.cf % 2 = 1 ∧ o.cf / 2 = o.cap)) := by
  refine ⟨fun hn => by simp only [step, stepF, hi, hn, if_true], fun hn => by simp [step, stepF, hi, hn], ?_⟩
  have W := (c06_count_within_storage h hi).1
  unfold needsAlloc
  split
  · next hf => simp [hf]
  · next hf =>
    have := (W (by omega)).1
    simp; omega

/-- **Merging under allocation failure** (`a << std::move(b)`, `a = std::move(b)`, two distinct objects, the `k`-th `new[]` of
the operation fails — the inline→heap switch of the target or any of its doublings, whatever the two sizes and storage
kinds).  Either no allocation failed and the operation *is* the plain merge, or `std::bad_alloc` came out and **every** suspend
point — target, source, bystanders — holds exactly the handles it held before, in the same order: nothing lost (the source
keeps everything), nothing duplicated (the handles already copied are dropped from the target again: `/repo` fix 07a2414; the
unrepaired code left them in both: `c06_asis_merge_alloc_failure_duplicates`); nothing was resumed, queued, handed in or
popped.  The target may have moved to a bigger block on the way; heap balance and block ownership hold (reachable state). -/
theorem c06_merge_alloc_failure {n : Nat} {a : Bool} {s : State} (h : Reachable n a s) {i j : Nat} {oi oj : Obj}
    (hi : s.obj i = some oi) (hj : s.obj j = some oj) (hij : i ≠ j) (k : Nat) :
    step s (Op.fault (FOp.mergeF i j k)) = step s (Op.merge i j)
    ∨ ((step s (Op.fault (FOp.mergeF i j k))).2 = Res.threw
        ∧ (∀ x, handles (step s (Op.fault (FOp.mergeF i j k))).1 x = handles s x)
        ∧ (step s (Op.fault (FOp.mergeF i j k))).1.queue = s.queue
        ∧ resumed (step s (Op.fault (FOp.mergeF i j k))).1 = resumed s
        ∧ (step s (Op.fault (FOp.mergeF i j k))).1.given = s.given
        ∧ (step s (Op.fault (FOp.mergeF i j k))).1.popped = s.popped
        ∧ (step s (Op.fault (FOp.mergeF i j k))).1.active = s.active) := by
  have e1 : step s (Op.fault (FOp.mergeF i j k)) = stepMergeF s i j oj k := by
    simp only [step, stepF, hi, hj, if_neg hij]
  have e2 : step s (Op.merge i j) = (stepMerge s i j oj, Res.unit) := by
    simp only [step, hi, hj, if_neg hij]
  rw [e1, e2]
  rcases (reachable_inv h).reps.mergeF hi j oj k with e | ⟨t, _, -, -, A⟩
  · left; exact e
  · right; exact ⟨t, A.hs, A.queue, A.resumed, A.given, A.popped, A.active⟩

/-- as-is fact (before `/repo` commit 07a2414 "fix: suspend_point merge left already copied handles in both objects when
growing failed with bad_alloc"): a target with two handles, a source with three (10 11 12).  Handle 10 is copied into the third
inline cell, then the inline→heap switch needed for handle 11 fails.  The unrepaired `operator<<` had no handler: the
exception left handle 10 in the target *and* in the source; destroying both resumes coroutine 10 twice.  The repaired code
drops it from the target again.  Replayed on the headers in corpus/c06_merge_bad_alloc.txt. -/
theorem c06_asis_merge_alloc_failure_duplicates :
    let s0 := run (init 2 false) [Op.ctorH 0 1, Op.addH 0 2, Op.ctorH 1 10, Op.addH 1 11, Op.addH 1 12]
    let s1 := (stepMergeFAsIs s0 0 1 { cf := 6, inl := [10, 11, 12] } 0).1
    (s0.obj 1 = some { cf := 6, inl := [10, 11, 12] })
    ∧ (stepMergeFAsIs s0 0 1 { cf := 6, inl := [10, 11, 12] } 0).2 = Res.threw
    ∧ handles s1 0 = [1, 2, 10] ∧ handles s1 1 = [10, 11, 12]
    ∧ resumed (run s1 (endOps 2)) = [1, 2, 10, 10, 11, 12]
    ∧ resumed (run (step s0 (Op.fault (FOp.mergeF 0 1 0))).1 (endOps 2)) = [1, 2, 10, 11, 12] := by decide

/-- **An exception out of a callable run under a freshly installed queue** (`coro_queue::install_queue_and_call(fn)`, from plain
code or from a coroutine; `fn` makes the coroutines `hs` ready, optionally clears suspend point `j`, then returns or throws).
The state after the call does not depend on whether `fn` returned or threw: the thread is in the mode it was in before
(`is_active()` unchanged — in particular plain code is *not* left in coroutine mode), the ready queue is empty, and everything
that was queued before, everything `fn` made ready and everything the cleared suspend point held has been resumed, each exactly
once, in that order; no other suspend point changed. -/
theorem c06_call_exception {n : Nat} {a : Bool} {s : State} (h : Reachable n a s) (hs : List Ptr) (j : Option Nat)
    (hj : callRefused s j = false) :
    (step s (Op.fault (FOp.call hs j true))).1 = (step s (Op.fault (FOp.call hs j false))).1
    ∧ (step s (Op.fault (FOp.call hs j true))).2 = Res.threw
    ∧ (step s (Op.fault (FOp.call hs j true))).1.active = s.active
    ∧ (step s (Op.fault (FOp.call hs j true))).1.queue = []
    ∧ (step s (Op.fault (FOp.call hs j true))).1.given = s.given ++ hs
    ∧ resumed (step s (Op.fault (FOp.call hs j true))).1
        = resumed s ++ s.queue ++ hs ++ (match j with | some jj => handles s jj | none => [])
    ∧ (∀ k, some k ≠ j → handles (step s (Op.fault (FOp.call hs j true))).1 k = handles s k)
    ∧ (∀ jj, j = some jj → handles (step s (Op.fault (FOp.call hs j true))).1 jj = []) := by
  have e : ∀ b, step s (Op.fault (FOp.call hs j b)) = (stepCall s hs j, if b then Res.threw else Res.unit) := by
    intro b; simp only [step, stepF, hj]; rfl
  rw [e true, e false]
  have A := (reachable_inv h).reps.call hs j hj
  refine ⟨rfl, rfl, A.active, A.queue, A.given, A.resumed.trans (by cases j <;> rfl), fun k hk => (A.hs k).trans ?_,
    fun jj e => (A.hs jj).trans (by subst e; exact updF_same _ _ _)⟩
  cases j with
  | none => rfl
  | some jj => exact updF_other _ _ (fun e => hk (by rw [e]))

/-- **`coro_queue::create_suspend_point(fn)` with `fn` throwing** after it has made the coroutines `hs` ready: no suspend point
is created and none changes, the thread stays in its mode; from plain code every coroutine of `hs` has been resumed exactly
once when the exception reaches the caller (the temporarily installed queue is flushed and uninstalled), from a coroutine they
wait in the ready queue behind what was queued before — none is dropped. -/
theorem c06_create_exception {n : Nat} {a : Bool} {s : State} (h : Reachable n a s) (hs : List Ptr) :
    (step s (Op.fault (FOp.createX hs))).2 = Res.threw
    ∧ (∀ k, (step s (Op.fault (FOp.createX hs))).1.obj k = s.obj k)
    ∧ (∀ k, handles (step s (Op.fault (FOp.createX hs))).1 k = handles s k)
    ∧ (step s (Op.fault (FOp.createX hs))).1.active = s.active
    ∧ (step s (Op.fault (FOp.createX hs))).1.given = s.given ++ hs
    ∧ (s.active = true → (step s (Op.fault (FOp.createX hs))).1.queue = s.queue ++ hs
        ∧ resumed (step s (Op.fault (FOp.createX hs))).1 = resumed s)
    ∧ (s.active = false → (step s (Op.fault (FOp.createX hs))).1.queue = []
        ∧ resumed (step s (Op.fault (FOp.createX hs))).1 = resumed s ++ hs) := by
  have I := reachable_inv h
  by_cases ha : s.active = true
  · have e : step s (Op.fault (FOp.createX hs)) = (ready s hs, Res.threw) := by simp only [step, stepF, ha, if_true]
    rw [e]
    exact ⟨rfl, fun _ => rfl, fun _ => rfl, rfl, rfl, fun _ => ⟨rfl, rfl⟩,
      fun hf => by rw [ha] at hf; cases hf⟩
  · have ha' : s.active = false := by simpa using ha
    have e : step s (Op.fault (FOp.createX hs)) = (stepCall s hs none, Res.threw) := by
      simp only [step, stepF, ha', Bool.false_eq_true, if_false]
    rw [e]
    have A := I.reps.call hs none rfl
    refine ⟨rfl, A.obj, A.hs, A.active, A.given, (fun hf => by rw [ha'] at hf; cases hf), fun _ => ⟨A.queue, ?_⟩⟩
    rw [A.resumed]; simp [I.idle ha']

/-- **No fault operation changes the thread's mode**: after an allocation failure or an exception out of a callable — caught by
the caller — `coro_queue::is_active()` is what it was, so the suspend points used afterwards resume (normal mode) or queue
(coroutine mode) their coroutines as before (`c06_consume`); `FOp.isActive` reads it. -/
theorem c06_fault_mode_unchanged {n : Nat} {a : Bool} {s : State} (h : Reachable n a s) (f : FOp) :
    (step s (Op.fault f)).1.active = s.active
    ∧ step s (Op.fault FOp.isActive) = (s, Res.flag s.active) :=
  ⟨(step_spec (reachable_inv h) (Op.fault f)).active, rfl⟩

/-! non-vacuity of the fault theorems -/

/-- six handles in a block of six: the seventh `<<` needs the first doubling, which fails — nothing changes; the retry succeeds -/
example : let s := run (init 1 false) [Op.ctor 0, Op.addH 0 1, Op.addH 0 2, Op.addH 0 3, Op.addH 0 4, Op.addH 0 5, Op.addH 0 6]
    (step s (Op.fault (FOp.addF 0 7))).2 = Res.threw
    ∧ handles (step s (Op.fault (FOp.addF 0 7))).1 0 = [1, 2, 3, 4, 5, 6]
    ∧ handles (run s [Op.fault (FOp.addF 0 7), Op.addH 0 7]) 0 = [1, 2, 3, 4, 5, 6, 7]
    ∧ (run s [Op.fault (FOp.addF 0 7), Op.addH 0 7]).trace = [Ev.alloc 6, Ev.alloc 12, Ev.free 6] := by decide
/-- a merge whose second allocation fails: the target went to the heap (block of 6) and took four handles, then the doubling
failed: it holds its own two handles again, in the new block; the source still holds its seven -/
example : let s := run (init 2 false) (demoGrow ++ [Op.ctorH 1 1, Op.addH 1 2])
    (step s (Op.fault (FOp.mergeF 1 0 1))).2 = Res.threw
    ∧ handles (step s (Op.fault (FOp.mergeF 1 0 1))).1 1 = [1, 2]
    ∧ handles (step s (Op.fault (FOp.mergeF 1 0 1))).1 0 = [10, 11, 12, 13, 14, 15, 16]
    ∧ ((step s (Op.fault (FOp.mergeF 1 0 1))).1.obj 1).map (·.cf) = some 5
    ∧ resumed (run s ([Op.fault (FOp.mergeF 1 0 1), Op.merge 1 0] ++ endOps 2)) = [1, 2, 10, 11, 12, 13, 14, 15, 16]
    ∧ (run s ([Op.fault (FOp.mergeF 1 0 1), Op.merge 1 0] ++ endOps 2)).live = [] := by decide
/-- plain code: a callable readies 7 and 8, clears a suspend point holding 1 2 and throws: all four resumed once, normal mode again -/
example : let s := run (init 1 false) [Op.ctorH 0 1, Op.addH 0 2, Op.fault (FOp.call [7, 8] (some 0) true)]
    resumed s = [7, 8, 1, 2] ∧ s.active = false ∧ s.queue = [] ∧ handles s 0 = [] := by decide
example : let s := run (init 1 true) [Op.ctorH 0 1, Op.clear 0, Op.fault (FOp.createX [7, 8])]
    resumed s = [] ∧ s.queue = [1, 7, 8] ∧ s.active = true := by decide

end Cocls.SP
