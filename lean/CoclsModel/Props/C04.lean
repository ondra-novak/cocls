import CoclsModel.AsyncProofs
import CoclsModel.AsyncRaceProofs
/-!
# C04 — an async coroutine runs once, delivers to its bound party, frees once

Model: `CoclsModel/Async.lean`.  A program is any family of scripts `prog : Nat → List Act` (acts: compute, await an
external future, `co_await` / `start()`-and-await a child — nesting of any depth, since children are scripts again —,
detach a child (discarded or awaited suspend point), drop a child unstarted, throw, return) together with `nExt`
driver-owned promises.  A *schedule* is an operation list: driver operations (`create`, `dropU` = `~async` unstarted,
`detach`, `start` = `start()` / `future<T>(async)` / returning it from a `future<T>` coroutine / `join` / `thread_pool::run`
— they all go through `async::start_promise` on a fresh promise —, `startP` = `start(promise)`, `setF`/`dropP` =
the driver resolves / drops a promise) interleaved in any way with micro-steps `step c` of any coroutine.  Every theorem
quantifies over **all programs, all `nExt`, all result types and all schedules** (`Reachable`), i.e. every start mode ×
completion mode × interleaving × nesting depth × behaviour of the result value's constructor at `co_return` (`State.ctorExc`:
for which operands the converting / copy construction inside the bound future throws, and what — an arbitrary function;
constantly `none` for `int`, `void`, references); the ghost counters are cumulative over the whole history.
-/
namespace Cocls.Async

/-- `cx`: the result type, as `State.ctorExc` -/
def Reachable (prog : Nat → List Act) (nExt : Nat) (s : State) : Prop := ∃ cx ops, s = run (init prog nExt cx) ops

theorem reachable_next {prog : Nat → List Act} {nExt : Nat} {s : State} (h : Reachable prog nExt s) :
    ∃ cx, Next (init prog nExt cx) s := by
  obtain ⟨cx, ops, rfl⟩ := h
  exact ⟨cx, next_run _ ops (inv_init prog nExt cx)⟩

theorem reachable_inv {prog : Nat → List Act} {nExt : Nat} {s : State} (h : Reachable prog nExt s) : Inv s :=
  (reachable_next h).elim fun _ n => n.inv

theorem reachable_cb {prog : Nat → List Act} {nExt : Nat} {s : State} (h : Reachable prog nExt s) : CbInv s :=
  (reachable_next h).elim fun cx n => n.ext.cb (cb_init prog nExt cx)

theorem reachable_run {prog : Nat → List Act} {nExt : Nat} {s : State} (h : Reachable prog nExt s) (ops : List Op) :
    Reachable prog nExt (run s ops) := by
  obtain ⟨cx, ops0, rfl⟩ := h
  exact ⟨cx, ops0 ++ ops, by simp [run, List.foldl_append]⟩

/-- **Body exactly once.**  On every schedule the number of times the body of `c` has begun is 1 if `c` is in a state
past the beginning of its body and 0 otherwise, never more; the number of successful start operations is 1 iff the handle
has left the `async` object; and the body never begins without (or more often than) a successful start. -/
theorem c04_body_once {prog : Nat → List Act} {nExt : Nat} {s : State} (h : Reachable prog nExt s) (c : Nat) :
    (s.co c).bodyStarts = (if (s.co c).st.began then 1 else 0)
    ∧ (s.co c).startsOk = (if (s.co c).st.started then 1 else 0)
    ∧ (s.co c).bodyStarts ≤ (s.co c).startsOk ∧ (s.co c).startsOk ≤ 1 := by
  have hc := (reachable_inv h).co_ok c
  refine ⟨hc.body, hc.starts, ?_, ?_⟩
  · rw [hc.body, hc.starts]; cases (s.co c).st <;> simp [St.began, St.started]
  · rw [hc.starts]; split <;> omega

/-- **Frame, arguments and locals destroyed exactly once.**  The frame has been freed once iff the coroutine is `done`
(ran to its end) or `dropped` (destroyed unstarted), never twice; the arguments die with the frame; the locals have been
destroyed once iff the body ran to its end; a frame is only freed if it was allocated, and it is allocated once. -/
theorem c04_frame_once {prog : Nat → List Act} {nExt : Nat} {s : State} (h : Reachable prog nExt s) (c : Nat) :
    (s.co c).frameFrees = (if (s.co c).st.freed then 1 else 0)
    ∧ (s.co c).argDtors = (s.co c).frameFrees
    ∧ (s.co c).localDtors = (if (s.co c).st = St.done then 1 else 0)
    ∧ (s.co c).allocs = (if (s.co c).st = St.absent then 0 else 1)
    ∧ (s.co c).frameFrees ≤ (s.co c).allocs := by
  have hc := (reachable_inv h).co_ok c
  refine ⟨hc.frees, hc.args, hc.locals, hc.allocs, ?_⟩
  rw [hc.frees, hc.allocs]; cases (s.co c).st <;> simp [St.freed]

/-- A destroyed frame stays destroyed: once `done` or `dropped`, no later operation of any schedule changes that
(so "exactly once" holds for the whole future of the run, not only up to now). -/
theorem c04_final_forever {prog : Nat → List Act} {nExt : Nat} {s : State} (_h : Reachable prog nExt s) (c : Nat)
    (ops : List Op) :
    ((s.co c).st = St.done → ((run s ops).co c).st = St.done)
    ∧ ((s.co c).st = St.dropped → ((run s ops).co c).st = St.dropped) :=
  have e := (next_run s ops (reachable_inv _h)).ext.frozen c
  ⟨fun h => (e.2 h).1, e.1⟩

/-- **Delivery to exactly the bound party.**  When the coroutine has finished, its result was stored into exactly
the futures `bound.toList` — its bound future, nobody when detached — and that future is ready, holds exactly the
outcome the body produced, and was written once, by `c`. -/
theorem c04_delivery {prog : Nat → List Act} {nExt : Nat} {s : State} (h : Reachable prog nExt s) (c : Nat)
    (hd : (s.co c).st = St.done) :
    (s.co c).deliveredTo = (s.co c).bound.toList
    ∧ (s.co c).outcome.isSome = true
    ∧ ∀ f, (s.co c).bound = some f →
        (s.fut f).ready = true ∧ (s.fut f).out = (s.co c).outcome ∧ (s.fut f).setBy = [some c] := by
  have hi := reachable_inv h
  have hc := hi.co_ok c
  refine ⟨by rw [hc.deliv]; simp [hd], by rw [hc.outc]; simp [hd], fun f hf => hi.bound_done c f hf hd⟩

/-- Nothing is delivered early or to anybody else: before the coroutine has finished it has stored nothing anywhere and
its bound future is still unresolved and empty; a detached coroutine never delivers anything. -/
theorem c04_no_early_delivery {prog : Nat → List Act} {nExt : Nat} {s : State} (h : Reachable prog nExt s) (c : Nat) :
    ((s.co c).st ≠ St.done → (s.co c).deliveredTo = [] ∧ (s.co c).outcome = none
        ∧ ∀ f, (s.co c).bound = some f → (s.fut f).ready = false ∧ (s.fut f).out = none ∧ (s.fut f).setBy = [])
    ∧ ((s.co c).bound = none → (s.co c).deliveredTo = []) := by
  have hi := reachable_inv h
  have hc := hi.co_ok c
  constructor
  · intro hd
    refine ⟨by rw [hc.deliv]; simp [hd], ?_, fun f hf => hi.bound_live c f hf hd⟩
    have := hc.outc
    cases ho : (s.co c).outcome
    · rfl
    · rw [ho] at this; simp [hd] at this
  · intro hb; rw [hc.deliv, hb]; simp

/-- A future receives at most one value over the whole run, and if a coroutine `c` stored it, then `c` is the
coroutine bound to that future and it has finished: results never reach a future of another party. -/
theorem c04_delivery_exclusive {prog : Nat → List Act} {nExt : Nat} {s : State} (h : Reachable prog nExt s) (f : Nat) :
    (s.fut f).setBy.length ≤ 1
    ∧ ∀ c, some c ∈ (s.fut f).setBy → (s.co c).bound = some f ∧ (s.co c).st = St.done := by
  have hi := reachable_inv h
  by_cases hb : ∃ c', (s.co c').bound = some f
  · obtain ⟨c', hc'⟩ := hb
    by_cases hd : (s.co c').st = St.done
    · have := (hi.bound_done c' f hc' hd).2.2
      rw [this]; refine ⟨by simp, ?_⟩
      intro c hc; simp at hc; subst hc; exact ⟨hc', hd⟩
    · have := (hi.bound_live c' f hc' hd).2.2
      rw [this]; simp
  · have hb' : ∀ c, (s.co c).bound ≠ some f := fun c hc => hb ⟨c, hc⟩
    rcases hi.unbound_set f hb' with e | e
    · rw [e]; simp
    · rw [e.1]; simp

/-- What an awaiting coroutine receives is the outcome of the coroutine bound to the awaited future: whenever `c` has been
made resumable by future `f` (or finds it ready) and `j` is bound to `f`, then `j` has finished, its frame is gone, and `f`
holds exactly what `j`'s body produced — which is what `consume` hands to `c` (`c04_consume_reads`). -/
theorem c04_await_receives_bound_outcome {prog : Nat → List Act} {nExt : Nat} {s : State} (h : Reachable prog nExt s)
    (c j f : Nat) (hb : (s.co j).bound = some f) (hr : (s.fut f).ready = true) (_hc : (s.co c).st.refs f = true) :
    (s.co j).st = St.done ∧ (s.fut f).out = (s.co j).outcome ∧ (s.co j).frameFrees = 1 := by
  have hi := reachable_inv h
  have hd : (s.co j).st = St.done := Decidable.byContradiction fun hd => by
    have := (hi.bound_live j f hb hd).1; rw [hr] at this; cases this
  refine ⟨hd, (hi.bound_done j f hb hd).2.1, ?_⟩
  rw [(hi.co_ok j).frees]; simp [hd, St.freed]

/-- decision logic of `await_resume`: the value/exception taken is the content of the future (cancellation when the promise
was dropped); a value is added to the accumulator and logged, an exception is logged when caught and otherwise becomes the
outcome of the awaiting coroutine itself (propagation along the `co_await` chain). -/
theorem c04_consume_reads (s : State) (c f : Nat) (ct : Bool) :
    (∀ v, (s.fut f).out = some (Outcome.val v) →
        ((consume s c f ct).co c).saw = (f, Outcome.val v) :: (s.co c).saw ∧ ((consume s c f ct).co c).acc = (s.co c).acc + v)
    ∧ (∀ o, ((s.fut f).out).getD Outcome.canceled = o → (∀ v, o ≠ Outcome.val v) → ct = false →
        consume s c f ct = finish s c o) := by
  constructor
  · intro v hv; simp [consume, hv, setCo]
  · intro o ho hne hct
    unfold consume
    rw [ho]
    cases o with
    | val v => exact absurd rfl (hne v)
    | exc e => simp [hct]
    | canceled => simp [hct]

/-- **Destroyed without being started.**  Such a coroutine never ran (and never will, `c04_final_forever`), its arguments
were destroyed exactly once with the frame, no locals ever existed, nothing was delivered, nobody was bound. -/
theorem c04_unstarted {prog : Nat → List Act} {nExt : Nat} {s : State} (h : Reachable prog nExt s) (c : Nat)
    (hd : (s.co c).st = St.dropped) :
    (s.co c).bodyStarts = 0 ∧ (s.co c).argDtors = 1 ∧ (s.co c).frameFrees = 1 ∧ (s.co c).localDtors = 0
    ∧ (s.co c).deliveredTo = [] ∧ (s.co c).outcome = none ∧ (s.co c).bound = none ∧ (s.co c).startsOk = 0 := by
  have hc := (reachable_inv h).co_ok c
  have h1 := hc.body; have h2 := hc.frees; have h3 := hc.args; have h4 := hc.locals
  have h5 := hc.deliv; have h6 := hc.outc; have h7 := hc.unb; have h8 := hc.starts
  simp [hd, St.began, St.freed, St.started] at h1 h2 h4 h5 h6 h7 h8
  exact ⟨h1, by omega, h2, h4, h5, h6, h7, h8⟩

/-- as long as the handle sits in the `async` object the body has not run, nothing was freed, nothing is bound -/
theorem c04_unstarted_idle {prog : Nat → List Act} {nExt : Nat} {s : State} (h : Reachable prog nExt s) (c : Nat)
    (hu : (s.co c).st = St.unstarted) :
    (s.co c).bodyStarts = 0 ∧ (s.co c).frameFrees = 0 ∧ (s.co c).argDtors = 0 ∧ (s.co c).bound = none := by
  have hc := (reachable_inv h).co_ok c
  have h1 := hc.body; have h2 := hc.frees; have h3 := hc.args; have h7 := hc.unb
  simp [hu, St.began, St.freed, St.started] at h1 h2 h7
  exact ⟨h1, h2, by omega, h7⟩

/-- **`start(promise)` on an already claimed promise** returns `false`, leaves the coroutine unstarted (handle still in the
`async` object, not bound, body not run — `c04_unstarted_idle`) and changes nothing else; on an unclaimed promise it
returns `true`, claims it and binds the coroutine to exactly that future. -/
theorem c04_claimed_promise (s : State) (c k : Nat) (hu : (s.co c).st = St.unstarted) (hk : k < s.nExt) :
    ((s.fut k).claimed = true →
        (step s (Op.startP c k)).2 = Res.flag false
        ∧ ((step s (Op.startP c k)).1.co c).st = St.unstarted
        ∧ ((step s (Op.startP c k)).1.co c).bound = none
        ∧ ((step s (Op.startP c k)).1.co c).bodyStarts = (s.co c).bodyStarts
        ∧ (step s (Op.startP c k)).1.fut = s.fut
        ∧ ∀ c', c' ≠ c → (step s (Op.startP c k)).1.co c' = s.co c')
    ∧ ((s.fut k).claimed = false →
        (step s (Op.startP c k)).2 = Res.flag true
        ∧ ((step s (Op.startP c k)).1.co c).st = St.scheduled
        ∧ ((step s (Op.startP c k)).1.co c).bound = some k
        ∧ ((step s (Op.startP c k)).1.fut k).claimed = true) := by
  constructor
  · intro hc
    simp only [step, hu, hk, hc, and_self, if_true, setCo, upd_same, true_and]
    intro c' hc'; exact upd_ne _ _ hc'
  · intro hc
    simp [step, hu, hk, hc, startCoro, setCo, setFut]

/-- **Chain transfer.**  For a future created by `co_await child` / `child.start()` inside coroutine `p` (`owner = p`): the
only coroutine ever subscribed to it is `p`, at most once; and every suspension of a coroutine is matched by exactly one
wake-up (`wakes + [currently suspended] = suspends`), so nobody is resumed twice and nobody is resumed spuriously. -/
theorem c04_chain_transfer {prog : Nat → List Act} {nExt : Nat} {s : State} (h : Reachable prog nExt s) :
    (∀ f x, s.nExt ≤ f → x ∈ (s.fut f).waiters → (s.fut f).owner = some x)
    ∧ (∀ f x, (s.fut f).waiters.count x ≤ 1)
    ∧ (∀ c, (s.co c).wakes + (if (s.co c).st.susp then 1 else 0) = (s.co c).suspends) := by
  have hi := reachable_inv h
  refine ⟨?_, ?_, fun c => (hi.co_ok c).wake⟩
  · intro f x hf hx
    have hcount := hi.waiters_count x f
    have hpos : 0 < (s.fut f).waiters.count x := List.count_pos_iff.mpr hx
    have haw : (s.co x).st.isAw f = true := by
      cases ha : (s.co x).st.isAw f
      · rw [ha] at hcount; simp at hcount; omega
      · rfl
    exact hi.owner_only x f hf (St.isAw_refs haw)
  · intro f x; rw [hi.waiters_count x f]; split <;> omega

/-- **No lost wake-up.**  A suspended coroutine is on the chain of exactly the future it awaits, exactly once, and that
future is not resolved yet; a resolved future has an empty chain (everybody was made resumable by the resolution). -/
theorem c04_no_lost_wakeup {prog : Nat → List Act} {nExt : Nat} {s : State} (h : Reachable prog nExt s) :
    (∀ c f ct, (s.co c).st = St.awaiting f ct → (s.fut f).waiters.count c = 1 ∧ (s.fut f).ready = false)
    ∧ (∀ f, (s.fut f).ready = true → (s.fut f).waiters = []) := by
  have hi := reachable_inv h
  refine ⟨?_, fun f hf => (hi.ready_ok f hf).1⟩
  intro c f ct hs
  have hcount := hi.waiters_count c f
  simp [hs, St.isAw] at hcount
  refine ⟨hcount, ?_⟩
  cases hr : (s.fut f).ready
  · rfl
  · have := (hi.ready_ok f hr).1; rw [this] at hcount; simp at hcount

/-- the end of the child wakes the awaiting parent exactly once and hands over the result: if `j` (body still executing)
is bound to `f` and `p` is suspended on `f`, then after `j`'s `co_return`/`throw` + `final_awaiter`, `p` is resumable by `f`
with one more wake-up, `f` holds the outcome, `j`'s frame is destroyed — for every reachable state. -/
theorem c04_child_end_resumes_parent {prog : Nat → List Act} {nExt : Nat} {s : State} (h : Reachable prog nExt s)
    (j p f : Nat) (ct : Bool) (o : Outcome) (hb : (s.co j).bound = some f) (hm : (s.co j).st.mid = true)
    (hp : (s.co p).st = St.awaiting f ct) :
    ((finish s j o).co p).st = St.resumable f ct ∧ ((finish s j o).co p).wakes = (s.co p).wakes + 1
    ∧ ((finish s j o).fut f).out = some o ∧ ((finish s j o).fut f).ready = true
    ∧ ((finish s j o).co j).st = St.done := by
  have hi := reachable_inv h
  have hpj : p ≠ j := by intro e; subst e; rw [hp] at hm; simp [St.mid] at hm
  simp only [finish, hb]
  rw [finish_bound_eq s j f o hi hm]
  simp only [upd_ne _ _ hpj, upd_same, wk_of_aw _ f ct hp, delivered, retired, and_self]

/-- The binding of a coroutine never changes once made (on any schedule), and every future that was created for a
coroutine (`start()`, `co_await child`, …) has that coroutine bound to it: so a parent suspended on such a future always has
a started child that has not finished yet and whose end will resume it (`c04_child_end_resumes_parent`). -/
theorem c04_awaited_child_alive {prog : Nat → List Act} {nExt : Nat} {s : State} (h : Reachable prog nExt s)
    (p f : Nat) (ct : Bool) (hp : (s.co p).st = St.awaiting f ct) (hf : s.nExt ≤ f) :
    ∃ j, (s.co j).bound = some f ∧ (s.co j).st.started = true ∧ (s.co j).st ≠ St.done
      ∧ ∀ ops, ((run s ops).co j).bound = some f := by
  have hi := reachable_inv h
  have hab : AllBound s := (reachable_next h).elim fun cx n => n.ext.allBound (ab_init prog nExt cx)
  have hlt : f < s.nextFut := hi.refs_lt p f (by simp [hp, St.refs])
  obtain ⟨j, hj⟩ := hab f hf hlt
  have hnr := ((c04_no_lost_wakeup h).1 p f ct hp).2
  refine ⟨j, hj, ?_, ?_, ?_⟩
  · cases hs : (s.co j).st.started
    · have := (hi.co_ok j).unb hs; rw [this] at hj; cases hj
    · rfl
  · intro hd; have := (hi.bound_done j f hj hd).1; rw [hnr] at this; cases this
  · intro ops; exact (next_run s ops hi).ext.bound j f hj

/-- **The bound party is notified before the frame dies.**  `final_awaiter` resolves the bound future first and destroys
the frame afterwards: whenever a frame has been destroyed at its final suspend point, the bound future was already resolved at
that moment (`notifiedAtFree = some true`; no frame that is not `done` carries the mark).  In particular when the frame's
arguments are the last owner of the bound future (an operation object holding the result future and a completion callback,
`isOp`), the callback has been called — exactly once — before the operation dies with the frame. -/
theorem c04_notified_before_frame_dies {prog : Nat → List Act} {nExt : Nat} {s : State} (h : Reachable prog nExt s) (c : Nat) :
    ((s.co c).st = St.done → (s.co c).notifiedAtFree = some true
        ∧ ∀ f, (s.co c).bound = some f → (s.fut f).isOp = true → (s.fut f).cbCalls = 1 ∧ (s.fut f).cb = false)
    ∧ ((s.co c).st ≠ St.done → (s.co c).notifiedAtFree = none) := by
  have hi := reachable_inv h
  have hn := (hi.co_ok c).notif
  constructor
  · intro hd
    refine ⟨by rw [hn]; simp [hd], ?_⟩
    intro f hf hop
    have hr := (hi.bound_done c f hf hd).1
    obtain ⟨h1, h2⟩ := reachable_cb h f
    rw [hop, hr] at h1 h2
    exact ⟨by simpa using h1, by simpa using h2⟩
  · intro hd; rw [hn]; simp [hd]

/-- a completion callback is called at most once over the whole run, exactly when its future gets resolved; futures without
a callback never call one -/
theorem c04_callback_once {prog : Nat → List Act} {nExt : Nat} {s : State} (h : Reachable prog nExt s) (f : Nat) :
    (s.fut f).cbCalls = (if (s.fut f).isOp && (s.fut f).ready then 1 else 0)
    ∧ (s.fut f).cb = ((s.fut f).isOp && !(s.fut f).ready) :=
  reachable_cb h f

/-- **Progress.**  A started coroutine that has not finished can always either take a step or is suspended on a future
that is not resolved yet — it is never stranded in a state nobody will move (the executor's ordering is C05's business). -/
theorem c04_progress {prog : Nat → List Act} {nExt : Nat} {s : State} (h : Reachable prog nExt s) (c : Nat)
    (hs : (s.co c).st.started = true) (hd : (s.co c).st ≠ St.done) :
    (stepCo s c).2 = Res.unit ∨ ∃ f ct, (s.co c).st = St.awaiting f ct ∧ (s.fut f).ready = false := by
  cases hst : (s.co c).st with
  | awaiting f ct => exact Or.inr ⟨f, ct, rfl, ((c04_no_lost_wakeup h).1 c f ct hst).2⟩
  | absent => simp [hst, St.started] at hs
  | unstarted => simp [hst, St.started] at hs
  | dropped => simp [hst, St.started] at hs
  | done => exact absurd hst hd
  | scheduled => left; simp [stepCo, hst]
  | yielded => left; simp [stepCo, hst]
  | resumable f ct => left; simp [stepCo, hst]
  | wantAwait f ct => left; simp only [stepCo, hst]; split <;> rfl
  | running => left; simp only [stepCo, hst]; split <;> rfl

/-! ### non-vacuity: concrete reachable states exercising the hypotheses -/

/-- coroutine 1 `co_await`s child 2, which awaits external future 0; coroutine 3 is detached and throws;
coroutine 4 is dropped unstarted; coroutine 5 is refused by `start(promise)` on the claimed promise 0 -/
def demoProg : Nat → List Act
  | 1 => [Act.awaitChild 2 true true, Act.ret 10]
  | 2 => [Act.awaitFut 0 true, Act.ret 5]
  | 3 => [Act.throw 7]
  | _ => []

def demoOps : List Op :=
  [Op.create 1, Op.start 1, Op.step 1, Op.step 1, Op.step 2, Op.step 2, Op.step 2,   -- 1 awaits 2 awaits ext 0
   Op.create 3, Op.detach 3, Op.step 3, Op.step 3,                                    -- detached, throws
   Op.create 4, Op.dropU 4,
   Op.setF 0 (Outcome.val 7), Op.create 5, Op.startP 5 0,                             -- refused
   Op.step 2, Op.step 2, Op.step 1, Op.step 1]

example : Reachable demoProg 1 (run (init demoProg 1) demoOps) := ⟨_, _, rfl⟩
example : ((run (init demoProg 1) (demoOps.take 7)).co 1).st = St.awaiting 2 true
    ∧ ((run (init demoProg 1) (demoOps.take 7)).co 2).st = St.awaiting 0 true := by decide
example : ((run (init demoProg 1) demoOps).co 1).outcome = some (Outcome.val 22)
    ∧ ((run (init demoProg 1) demoOps).co 1).st = St.done
    ∧ ((run (init demoProg 1) demoOps).fut 1).out = some (Outcome.val 22)
    ∧ ((run (init demoProg 1) demoOps).co 2).deliveredTo = [2]
    ∧ ((run (init demoProg 1) demoOps).co 3).st = St.done
    ∧ ((run (init demoProg 1) demoOps).co 3).deliveredTo = []
    ∧ ((run (init demoProg 1) demoOps).co 4).st = St.dropped
    ∧ ((run (init demoProg 1) demoOps).co 5).st = St.unstarted
    ∧ ((run (init demoProg 1) demoOps).co 1).wakes = 1 := by decide

/-- coroutine 1 is started bound to the result future of an operation object that its own frame owns (`start 1 true`),
suspends on external future 0, the driver resolves it, the coroutine consumes the value -/
def opProg : Nat → List Act
  | 1 => [Act.awaitFut 0 true, Act.ret 5]
  | _ => []
def opOps : List Op :=
  [Op.create 1, Op.start 1 true, Op.step 1, Op.step 1, Op.step 1, Op.setF 0 (Outcome.val 7), Op.step 1]

/-- the code as it is: resolve, then destroy — callback called once, frame died notified -/
example : ((run (init opProg 1) (opOps ++ [Op.step 1])).co 1).notifiedAtFree = some true
    ∧ ((run (init opProg 1) (opOps ++ [Op.step 1])).fut 1).cbCalls = 1
    ∧ ((run (init opProg 1) (opOps ++ [Op.step 1])).fut 1).out = some (Outcome.val 12) := by decide

/-- The seeded variant that destroys the frame *before* `resolve()` (`finishDestroyFirst`) violates the property on exactly
this program: the operation — and the pending future in it — dies with the frame, the callback is never called, the result
reaches nobody (replayed on the headers by corpus/c04_opfuture.txt). -/
theorem c04_destroy_first_violates :
    ((finishDestroyFirst (run (init opProg 1) opOps) 1 (Outcome.val 12)).co 1).notifiedAtFree = some false
    ∧ ((finishDestroyFirst (run (init opProg 1) opOps) 1 (Outcome.val 12)).fut 1).cbCalls = 0
    ∧ ((finishDestroyFirst (run (init opProg 1) opOps) 1 (Outcome.val 12)).fut 1).ready = false := by decide

/-! ### result types whose construction at `co_return` can throw -/

/-- **`co_return` with any result type, for the rest of every run.**  In every reachable state (any program, any start mode,
any result-constructor behaviour `ctorExc`), when coroutine `c` executes `co_return v` (operand converted, or copied when
`cp`), then after that step and after *every* continuation `ops` of the schedule: `c` is finished, what it ended with is
`resultOf …` — the value, or, for a bound coroutine whose result construction throws `e`, the exception `e` —; its binding is
unchanged; a detached coroutine delivered to nobody (and nothing was constructed, so nothing threw); and the bound future is
ready, holds exactly that outcome — in particular it is never left without a value — and was written once, by `c`. -/
theorem c04_result_construction {prog : Nat → List Act} {nExt : Nat} {s : State} (h : Reachable prog nExt s)
    (c v : Nat) (cp : Bool) (rest : List Act)
    (hr : (s.co c).st = St.running) (hpc : (s.co c).pc = Act.ret v cp :: rest) (ops : List Op) :
    ((run s (Op.step c :: ops)).co c).st = St.done
    ∧ ((run s (Op.step c :: ops)).co c).outcome = some (resultOf s.ctorExc (s.co c).bound cp (v + (s.co c).acc))
    ∧ ((run s (Op.step c :: ops)).co c).bound = (s.co c).bound
    ∧ ((s.co c).bound = none → ((run s (Op.step c :: ops)).co c).deliveredTo = [])
    ∧ ∀ f, (s.co c).bound = some f →
        ((run s (Op.step c :: ops)).fut f).ready = true
        ∧ ((run s (Op.step c :: ops)).fut f).out = some (resultOf s.ctorExc (s.co c).bound cp (v + (s.co c).acc))
        ∧ ((run s (Op.step c :: ops)).fut f).setBy = [some c] := by
  have e1 : (step s (Op.step c)).1
      = finish (setCo s c { s.co c with pc := rest }) c (resultOf s.ctorExc (s.co c).bound cp (v + (s.co c).acc)) := by
    simp [step, stepCo, hr, hpc, execAct, setCo]
  obtain ⟨h1, h2, h3, h4, h5⟩ := finish_forever (reachable_inv h) c _ _ e1 ops
  have hb : ((setCo s c { s.co c with pc := rest }).co c).bound = (s.co c).bound := by simp [setCo]
  rw [hb] at h3 h4 h5
  exact ⟨h1, h2, h3, fun e => by rw [h4, e]; rfl, h5⟩

/-- **The exception of a throwing result constructor reaches the bound party.**  If `c` is bound to `f` and constructing the
result from the `co_return` operand throws `e`, then for the rest of every run `f` is ready and holds *that exception* (not
"no value"/`await_canceled_exception`, not the value), stored once by `c`, and it is what `c` is recorded to have ended with. -/
theorem c04_ctor_exception_delivered {prog : Nat → List Act} {nExt : Nat} {s : State} (h : Reachable prog nExt s)
    (c v f e : Nat) (cp : Bool) (rest : List Act)
    (hr : (s.co c).st = St.running) (hpc : (s.co c).pc = Act.ret v cp :: rest)
    (hb : (s.co c).bound = some f) (he : s.ctorExc cp (v + (s.co c).acc) = some e) (ops : List Op) :
    ((run s (Op.step c :: ops)).fut f).ready = true
    ∧ ((run s (Op.step c :: ops)).fut f).out = some (Outcome.exc e)
    ∧ ((run s (Op.step c :: ops)).fut f).setBy = [some c]
    ∧ ((run s (Op.step c :: ops)).co c).outcome = some (Outcome.exc e) := by
  have hres : resultOf s.ctorExc (s.co c).bound cp (v + (s.co c).acc) = Outcome.exc e := by simp [resultOf, hb, he]
  obtain ⟨_, h2, _, _, h5⟩ := c04_result_construction h c v cp rest hr hpc ops
  rw [hres] at h2 h5
  exact ⟨(h5 f hb).1, (h5 f hb).2.1, (h5 f hb).2.2, h2⟩

/-- a detached coroutine constructs no result at all: whatever the constructor would do with the operand, the coroutine ends
with the value, nothing is delivered anywhere -/
theorem c04_detached_constructs_nothing {prog : Nat → List Act} {nExt : Nat} {s : State} (h : Reachable prog nExt s)
    (c v : Nat) (cp : Bool) (rest : List Act)
    (hr : (s.co c).st = St.running) (hpc : (s.co c).pc = Act.ret v cp :: rest)
    (hb : (s.co c).bound = none) (ops : List Op) :
    ((run s (Op.step c :: ops)).co c).outcome = some (Outcome.val (v + (s.co c).acc))
    ∧ ((run s (Op.step c :: ops)).co c).deliveredTo = [] := by
  obtain ⟨_, h2, _, h4, _⟩ := c04_result_construction h c v cp rest hr hpc ops
  exact ⟨by rw [h2]; simp [resultOf, hb], h4 hb⟩

/-- the same at the end of the script (`co_return acc`, operand converted) -/
theorem c04_result_construction_at_end {prog : Nat → List Act} {nExt : Nat} {s : State} (h : Reachable prog nExt s)
    (c : Nat) (hr : (s.co c).st = St.running) (hpc : (s.co c).pc = []) (ops : List Op) :
    ((run s (Op.step c :: ops)).co c).st = St.done
    ∧ ((run s (Op.step c :: ops)).co c).outcome = some (resultOf s.ctorExc (s.co c).bound false (s.co c).acc)
    ∧ ∀ f, (s.co c).bound = some f →
        ((run s (Op.step c :: ops)).fut f).ready = true
        ∧ ((run s (Op.step c :: ops)).fut f).out = some (resultOf s.ctorExc (s.co c).bound false (s.co c).acc) := by
  have e1 : (step s (Op.step c)).1 = finish s c (resultOf s.ctorExc (s.co c).bound false (s.co c).acc) := by
    simp [step, stepCo, hr, hpc]
  obtain ⟨h1, h2, -, -, h5⟩ := finish_forever (reachable_inv h) c _ _ e1 ops
  exact ⟨h1, h2, fun f hf => ⟨(h5 f hf).1, (h5 f hf).2.1⟩⟩

/-- result type of the harness (`struct picky`): converting `v` throws `20 + v % 3` when `v % 4 = 1`, copying throws
`30 + v % 3` when `v % 4 = 2` -/
def pkCx : Bool → Nat → Option Nat := fun cp v =>
  if cp then (if v % 4 = 2 then some (30 + v % 3) else none) else (if v % 4 = 1 then some (20 + v % 3) else none)

/-- coroutine 1 `co_await`s child 2 without catching; child 2 awaits external future 0 and `co_return`s a copy of `2 + value`;
coroutine 3 is detached and `co_return`s 5 (the converting constructor would throw, but nothing is constructed) -/
def pkProg : Nat → List Act
  | 1 => [Act.awaitChild 2 true false, Act.ret 1]
  | 2 => [Act.awaitFut 0 true, Act.ret 2 true]
  | 3 => [Act.ret 5]
  | _ => []

def pkOps : List Op :=
  [Op.create 1, Op.start 1, Op.step 1, Op.step 1, Op.step 2, Op.step 2, Op.step 2, Op.setF 0 (Outcome.val 4), Op.step 2]

/-- non-vacuity of `c04_ctor_exception_delivered`: the hypotheses hold in a reachable state (child 2, bound to future 2, is at
`co_return` of a copy of 6, whose copy constructor throws 30), … -/
example : Reachable pkProg 1 (run (init pkProg 1 pkCx) pkOps) := ⟨_, _, rfl⟩
example : ((run (init pkProg 1 pkCx) pkOps).co 2).st = St.running
    ∧ ((run (init pkProg 1 pkCx) pkOps).co 2).pc = [Act.ret 2 true]
    ∧ ((run (init pkProg 1 pkCx) pkOps).co 2).bound = some 2
    ∧ (run (init pkProg 1 pkCx) pkOps).ctorExc true (2 + ((run (init pkProg 1 pkCx) pkOps).co 2).acc) = some 30 := by decide
/-- … the exception reaches the awaiting parent (future 2), propagates (uncaught) to the parent's own bound future 1, and
the detached coroutine 3 ends with the value although `picky(5)` would throw -/
example :
    let t := run (init pkProg 1 pkCx) (pkOps ++ [Op.step 2, Op.step 1, Op.create 3, Op.detach 3, Op.step 3, Op.step 3])
    (t.fut 2).out = some (Outcome.exc 30) ∧ (t.fut 2).ready = true ∧ (t.fut 2).setBy = [some 2]
    ∧ (t.co 1).outcome = some (Outcome.exc 30) ∧ (t.fut 1).out = some (Outcome.exc 30)
    ∧ (t.co 3).outcome = some (Outcome.val 5) ∧ (t.co 3).deliveredTo = [] := by decide

/-- The seeded variant that guards `set()` by a flag of its own, taken before `set()` runs (`finishFlagFirst`), violates the
property on exactly this program: the bound future of child 2 is resolved *without a value* (the parent would see `await_canceled_exception`)
although the coroutine ended with exception 30 (replayed on the headers by corpus/c04_result_ctor_throws.txt). -/
theorem c04_flag_before_set_violates :
    ((finishFlagFirst (run (init pkProg 1 pkCx) pkOps) 2 true 6).fut 2).ready = true
    ∧ ((finishFlagFirst (run (init pkProg 1 pkCx) pkOps) 2 true 6).fut 2).out = none
    ∧ ((finishFlagFirst (run (init pkProg 1 pkCx) pkOps) 2 true 6).co 2).outcome = some (Outcome.exc 30) := by decide

end Cocls.Async

/-!
# Racing `start(promise)` on one shared promise (thread level)

Model: `CoclsModel/AsyncRace.lean` — any number `c.n` of threads, each either starting its own fresh coroutine with
`start(shared_promise)` (body returns / awaits a gate first / throws), or invoking the promise (`p(value)`, `p(exception)`,
`p(drop)`), or destroying it; one step per atomic operation of the code; a schedule is any list of thread ids.
-/
namespace Cocls.AsyncRace
open Cocls.Async (Outcome)

/-- the C++ lifetime precondition that the promise object is destroyed at most once -/
def OneDtor (c : Cfg) : Prop := ∀ x y, c.kind x = Kind.dtor → c.kind y = Kind.dtor → x = y

theorem reachable_inv (c : Cfg) (hd : OneDtor c) (sched : List Nat) : Inv c (run c {} sched) :=
  inv_run c {} sched hd (inv_init c)

/-- **At most one claim succeeds**: for any number of contenders and every interleaving of their atomic operations, at
most one call (`start(promise)` or `p(...)`) obtains the future, and while the promise is still armed nobody has. -/
theorem c04_race_unique_winner (c : Cfg) (hd : OneDtor c) (sched : List Nat) :
    (∀ a b, (run c {} sched).claimed a = some true → (run c {} sched).claimed b = some true → a = b)
    ∧ ((run c {} sched).owner = true → ∀ a, (run c {} sched).claimed a ≠ some true) :=
  ⟨(reachable_inv c hd sched).unique, fun h => ((reachable_inv c hd sched).owner_free h).1⟩

/-- **A loser stays unstarted**: a `start(promise)` that did not obtain the future (returned `false`, or has not
claimed yet) never runs its body, never destroys its frame/arguments, and its coroutine is not parked anywhere —
on every schedule, at every point of the run. -/
theorem c04_race_loser_unstarted (c : Cfg) (hd : OneDtor c) (sched : List Nat) (a : Nat)
    (h : (run c {} sched).claimed a ≠ some true) :
    (run c {} sched).bodyStarts a = 0 ∧ (run c {} sched).argDtors a = 0 ∧ (run c {} sched).suspended a = false :=
  (reachable_inv c hd sched).loser_idle a h

/-- **Body and frame at most once, only for the winner**. -/
theorem c04_race_body_once (c : Cfg) (hd : OneDtor c) (sched : List Nat) (a : Nat) :
    (run c {} sched).bodyStarts a ≤ 1 ∧ (run c {} sched).argDtors a ≤ 1
    ∧ ((run c {} sched).bodyStarts a = 1 → (run c {} sched).claimed a = some true) := by
  have hi := reachable_inv c hd sched
  refine ⟨(hi.body_le a).1, (hi.body_le a).2, ?_⟩
  intro hb
  exact Decidable.byContradiction fun hc => by have := (hi.loser_idle a hc).1; omega

/-- **The future holds the winner's outcome and is resolved once**: whatever the shared future holds was stored by
the unique winner (the value its coroutine returned / the exception it threw / the value passed to `p(...)`), and
`resolve()` ran at most once. -/
theorem c04_race_delivery (c : Cfg) (hd : OneDtor c) (sched : List Nat) :
    (∀ x a, (run c {} sched).fut = some x → (run c {} sched).claimed a = some true → x = (c.kind a).payload)
    ∧ (run c {} sched).resolves ≤ 1 := by
  have hi := reachable_inv c hd sched
  refine ⟨fun x a hx ha => hi.fut_winner x hx a ha, ?_⟩
  rw [hi.resolves_eq]; split <;> omega

/-- The seeded check-then-claim variant of `start_promise` (`if (!p) return nullptr; _future = p.claim(); return
start_coro();`) violates all of the above: with two racing starters and the alternating schedule both calls report
success and both bodies run (replayed on the headers by the `start-promise-race` suite). -/
theorem c04_race_check_then_claim_violates :
    let c : Cfg := { n := 2, kind := fun i => Kind.start (10 + i) }
    let s := runMut c {} [0, 1, 0, 1, 0, 1, 0, 1]
    s.claimed 0 = some true ∧ s.claimed 1 = some true ∧ s.bodyStarts 0 = 1 ∧ s.bodyStarts 1 = 1 ∧ s.detached 1 = true := by
  decide

/-- non-vacuity: the same schedule on the real step function: thread 0 wins and runs, thread 1 is refused -/
example :
    let c : Cfg := { n := 2, kind := fun i => Kind.start (10 + i) }
    let s := run c {} [0, 1, 0, 1, 0, 1]
    s.claimed 0 = some true ∧ s.claimed 1 = some false ∧ s.bodyStarts 0 = 1 ∧ s.bodyStarts 1 = 0
      ∧ s.fut = some (some (Outcome.val 10)) := by
  decide

end Cocls.AsyncRace
