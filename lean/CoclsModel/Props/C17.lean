import CoclsModel.SharedFutureTrace
import CoclsModel.SharedFutureApiProofs
/-!
# C17 — shared_future: one result for all copies; state lives exactly as long as needed

Model: `CoclsModel/SharedFuture.lean` (micro-steps).  A configuration `c : Cfg` fixes the construction path (`Mode`), ANY
number `c.n` of threads, ANY program of copy / drop / peek / await (coroutine, blocking, callback) per thread (a thread awaits
once: after its first await the further awaits of its program are skipped, in the model as in the harness), and the resolver
kind (value, exception, drop, promise destroyed).  Every theorem quantifies over all configurations of the repaired code
(`Fixed c`) and over ALL schedules `sched : List Nat` (interleavings at atomic-operation granularity).

`runEv c sched` is the run from the initial state together with the printed events; `run c (init c) sched` its state.

The namespace `Cocls.SharedFutureApi` below is about histories of whole calls of the public interface on any number of handles
and states (model `CoclsModel/SharedFutureApi.lean`).
-/
namespace Cocls.SharedFuture

/-- **One result for all copies.** Whatever the schedule, every observation of the result — by the await of any thread
through its own copy, in any style (coroutine, blocking `wait()`, callback) or by `ready()`+`value()` — is the single
result fixed by the configuration (`resultObs`: the resolver's value / exception, `canceled` for a dropped or destroyed
promise, the factory's value). -/
theorem c17_same_result (c : Cfg) (hf : Fixed c) (hn : 0 < c.n) (sched : List Nat) (x : Nat) (k : WK) (o : Obs)
    (h : Ev.obs x k o ∈ (runEv c sched).2) : o = resultObs c :=
  (step_runEv hf hn sched).good x k o h

/-- **Never more than once.** In every reachable state each awaiter has been woken at most once and has observed the
result at most once, and the number of observation events printed for it is exactly its counter. -/
theorem c17_awaiters_at_most_once (c : Cfg) (hf : Fixed c) (hn : 0 < c.n) (sched : List Nat) (x : Nat) :
    (run c (init c) sched).woken x ≤ 1 ∧ (run c (init c) sched).observed x ≤ 1 ∧
    (runEv c sched).2.countP (isAwObs x) = (run c (init c) sched).observed x := by
  have h := inv_reach hf hn sched
  refine ⟨?_, ?_, ?_⟩
  · have := h.wake x
    have h1 : (if (run c (init c) sched).subscribed x = true then 1 else 0) ≤ 1 := by split <;> omega
    omega
  · have := h.obsv x
    have h1 : (if (run c (init c) sched).awaited x = true then 1 else 0) ≤ 1 := by split <;> omega
    omega
  · simpa [init] using (step_runEv hf hn sched).acc.1 x

/-- **Exactly once.** When every thread has finished: every thread that awaited (in whatever style, subscribed or
refused because the result was already there) observed the result exactly once, every subscribed awaiter was woken
exactly once, and exactly that many observation events were printed. -/
theorem c17_awaiters_once (c : Cfg) (hf : Fixed c) (hwf : WF c) (sched : List Nat)
    (hq : Quiescent c (run c (init c) sched)) (x : Nat) :
    (run c (init c) sched).observed x = (if (run c (init c) sched).awaited x then 1 else 0) ∧
    (run c (init c) sched).woken x = (if (run c (init c) sched).subscribed x then 1 else 0) ∧
    (runEv c sched).2.countP (isAwObs x) = (if (run c (init c) sched).awaited x then 1 else 0) := by
  have h := inv_reach hf hwf.1 sched
  have hfacts := quiescent_facts hq h hwf.hasResolver
  refine ⟨hfacts.1 x, hfacts.2.1 x, ?_⟩
  rw [(c17_awaiters_at_most_once c hf hwf.1 sched x).2.2]
  exact hfacts.1 x

/-- **No lost wake-up.** A reachable state in which no thread can take a step is quiescent: no awaiter (in particular
no thread blocked in `wait()`) is left behind, whatever the order of subscription, resolution and handle drops. -/
theorem c17_no_lost_wakeup (c : Cfg) (hf : Fixed c) (hwf : WF c) (sched : List Nat)
    (hst : ∀ t, enabled (run c (init c) sched) t = false) : Quiescent c (run c (init c) sched) :=
  not_stuck (inv_reach hf hwf.1 sched) hwf hst

/-- **Alive until resolved.** While the future is pending the shared state has not been freed and at least one
reference exists — whatever the handle threads did (in particular after every one of them dropped every handle). -/
theorem c17_alive_until_resolved (c : Cfg) (hf : Fixed c) (hn : 0 < c.n) (sched : List Nat)
    (hp : (run c (init c) sched).slot ≠ Slot.ready) :
    (run c (init c) sched).freed = 0 ∧ 1 ≤ (run c (init c) sched).refs :=
  inv_alive_pending (inv_reach hf hn sched) hp

/-- **Freed at most once, by the step that drops the last reference.** `freed ≤ 1` in every reachable state, the state
is freed exactly when no reference is left, the reference count is the number of owners (handles held by threads,
handles owned by waiting coroutine frames / callback contexts, the tracer), and the printed `freed` events are exactly
the counter. -/
theorem c17_freed_at_most_once (c : Cfg) (hf : Fixed c) (hn : 0 < c.n) (sched : List Nat) :
    (run c (init c) sched).freed ≤ 1 ∧
    ((run c (init c) sched).freed = 1 ↔ (run c (init c) sched).refs = 0) ∧
    (run c (init c) sched).refs = (run c (init c) sched).holders.length ∧
    (runEv c sched).2.countP isFreedEv = (run c (init c) sched).freed := by
  have h := inv_reach hf hn sched
  refine ⟨inv_freed_le_one h, ?_, h.refsLen, ?_⟩
  · rw [h.freedIff]; split <;> simp [*]
  · simpa [init] using (step_runEv hf hn sched).acc.2

/-- **No leak.** When every thread has finished, the state has been freed exactly once (and exactly one `freed` event
was printed): neither the tracer nor a forgotten context keeps it. -/
theorem c17_freed_once (c : Cfg) (hf : Fixed c) (hwf : WF c) (sched : List Nat)
    (hq : Quiescent c (run c (init c) sched)) :
    (run c (init c) sched).freed = 1 ∧ (run c (init c) sched).refs = 0 ∧ (runEv c sched).2.countP isFreedEv = 1 := by
  have h := inv_reach hf hwf.1 sched
  have := quiescent_freed hq h hwf.hasResolver
  exact ⟨this.1, this.2, by rw [(c17_freed_at_most_once c hf hwf.1 sched).2.2.2, this.1]⟩

/-- **No use after free.** `uaf` counts the accesses to the shared state or its control block (every operation on the
awaiter slot, `set`, reading the result, the tracer's fields, every reference-count operation) made after the state was
freed: it is 0 in every reachable state. -/
theorem c17_no_use_after_free (c : Cfg) (hf : Fixed c) (hn : 0 < c.n) (sched : List Nat) :
    (run c (init c) sched).uaf = 0 :=
  (inv_reach hf hn sched).noUaf

/-- **The tracer is subscribed first, hence released last.** Whenever the tracer is in the chain it is the bottom
element; once the object is constructed and while it is pending, the tracer IS in the chain (exactly once) — so the
walker (the chain is LIFO) visits it after every other node. -/
theorem c17_tracer_last (c : Cfg) (hf : Fixed c) (hn : 0 < c.n) (sched : List Nat) :
    (Node.tracer ∈ chainOf (run c (init c) sched).slot → (chainOf (run c (init c) sched).slot).getLast? = some Node.tracer) ∧
    ((run c (init c) sched).slot ≠ Slot.ready → (run c (init c) sched).constructed = true →
      Node.tracer ∈ chainOf (run c (init c) sched).slot ∧ (chainOf (run c (init c) sched).slot).count Node.tracer = 1) := by
  have h := inv_reach hf hn sched
  exact ⟨h.tracerLast, fun hp hc => ⟨(inv_tracer_in_chain h hp hc).1, (inv_tracer_in_chain h hp hc).2.2⟩⟩

/-- **Late initialisation.** A default-constructed object initialised through `get_promise()` (mode `gp`; mode `ip`:
`init_if_needed()` first and the other threads' copies taken BEFORE `get_promise()` — they share the state that
`get_promise()` then initialises, so `c17_same_result` / `c17_awaiters_once` speak about those copies; mode `ls`:
`init_if_needed()` + `operator<<`) never crashes, and once the construction is complete the promise has been handed
out and, while pending, the tracer holds the extra reference — i.e. it behaves like any other shared_future (all
theorems above cover these modes).  Built into the model (contract of future.h, asserted by the code; `Out.pre` in
`SharedFutureApi.lean`): a state is awaited only after `get_promise()` has initialised it (the handle threads wait for the
end of the construction), and `get_promise()` is called once, on an object without a state or with a fresh
`init_if_needed()` state (not on a pending or resolved one). -/
theorem c17_late_init (c : Cfg) (hf : Fixed c) (hn : 0 < c.n) (hm : c.mode = Mode.gp ∨ c.mode = Mode.ip ∨ c.mode = Mode.ls)
    (sched : List Nat) :
    (run c (init c) sched).crashed = false ∧
    ((run c (init c) sched).constructed = true →
      (run c (init c) sched).published = true ∧
      ((run c (init c) sched).slot ≠ Slot.ready → (run c (init c) sched).tracerRef = true)) := by
  have h := inv_reach hf hn sched
  have hpm : c.mode.hasPromise = true := by rcases hm with e | e | e <;> (rw [e]; rfl)
  exact ⟨h.noCrash, fun hc => ⟨(inv_constructed h hc).2 hpm, (inv_constructed h hc).1⟩⟩

/-! ## Non-vacuity: concrete reachable states that meet the hypotheses -/

/-- creator awaits in a coroutine, a handle thread blocks in `wait()` and drops, a third uses a callback; value 5 -/
def exCfg : Cfg :=
  { n := 4, mode := Mode.pf, rtid := 3, rk := RK.value 5,
    prog := fun t => if t = 0 then [Act.await WK.coro] else if t = 1 then [Act.copy, Act.await WK.sync, Act.drop]
                     else if t = 2 then [Act.await WK.cb] else [] }

def exSched : List Nat := [0, 0, 0, 0, 0, 0, 0, 1, 1, 1, 1, 2, 2, 2, 2, 3, 3, 3, 3, 1, 1, 3, 3]

example : Fixed exCfg ∧ WF exCfg := ⟨⟨rfl, rfl⟩, by decide, by decide⟩
example : (run exCfg (init exCfg) exSched).freed = 1 ∧ (run exCfg (init exCfg) exSched).refs = 0 := by decide
example : ((List.range 4).all fun t => (run exCfg (init exCfg) exSched).pc t == Pc.done) = true := by decide
example : ((List.range 3).all fun t => (run exCfg (init exCfg) exSched).observed t == 1) = true := by decide
example : (runEv exCfg exSched).2.countP isObsEv = 3 ∧ (runEv exCfg exSched).2.countP isFreedEv = 1 := by decide
/-- every handle dropped while pending: the state is still alive (the tracer keeps it), and freed by the resolver -/
def exDropCfg : Cfg := { n := 3, mode := Mode.ff, rtid := 2, rk := RK.exc 7, prog := fun _ => [Act.drop] }
example : (run exDropCfg (init exDropCfg) [0, 0, 0, 0, 0, 1]).slot ≠ Slot.ready ∧
    (run exDropCfg (init exDropCfg) [0, 0, 0, 0, 0, 1]).refs = 1 ∧ (run exDropCfg (init exDropCfg) [0, 0, 0, 0, 0, 1]).freed = 0 ∧
    (run exDropCfg (init exDropCfg) [0, 0, 0, 0, 0, 1]).held 0 = 0 ∧ (run exDropCfg (init exDropCfg) [0, 0, 0, 0, 0, 1]).held 1 = 0 := by decide
example : (run exDropCfg (init exDropCfg) [0, 0, 0, 0, 0, 1, 2, 2, 2]).freed = 1 := by decide
/-- late initialisation through `get_promise()` -/
def exGpCfg : Cfg := { n := 2, mode := Mode.gp, rtid := 1, rk := RK.value 1, prog := fun _ => [Act.await WK.sync] }
example : (run exGpCfg (init exGpCfg) [0, 0, 0, 0, 0]).constructed = true ∧ (run exGpCfg (init exGpCfg) [0, 0, 0, 0, 0]).tracerRef = true := by decide

/-- copies taken between `init_if_needed()` and `get_promise()` observe the result of that promise -/
def exIpCfg : Cfg := { n := 3, mode := Mode.ip, rtid := 2, rk := RK.value 9, prog := fun t => if t = 1 then [Act.await WK.sync] else [] }
example : (run exIpCfg (init exIpCfg) [0]).refs = 2 ∧ (run exIpCfg (init exIpCfg) [0]).held 1 = 1 ∧
    (run exIpCfg (init exIpCfg) [0]).constructed = false := by decide
example : (runEv exIpCfg [0, 0, 0, 0, 0, 1, 1, 1, 1, 2, 2, 2, 1, 1, 2]).2.filter isObsEv = [Ev.obs 1 WK.sync (Obs.val 9)] ∧
    (runEv exIpCfg [0, 0, 0, 0, 0, 1, 1, 1, 1, 2, 2, 2, 1, 1, 2]).1.freed = 1 := by decide

/-! ## The two defects of the pinned commit, as-is variants of the step, certified on concrete runs -/

/-- `init_if_needed()` as pinned (`if (_ptr)` instead of `if (!_ptr)`): `get_promise()` on a default-constructed object
dereferences null — the first step of the creator crashes (replayed on the real headers: corpus/c17_late_init.txt) -/
theorem c17_asis_late_init_crashes :
    (run { exGpCfg with asIsInit := true } (init { exGpCfg with asIsInit := true }) [0]).crashed = true := by decide

def exLsAsIs : Cfg := { n := 2, mode := Mode.ls, rtid := 1, rk := RK.value 3, prog := fun _ => [Act.drop], asIsLshift := true }

/-- `operator<<` as pinned (tracer not wired): with every handle dropped while pending the state is freed while the
promise still points at it, and the resolution then writes into freed memory (corpus/c17_lshift_tracer.txt) -/
theorem c17_asis_lshift_freed_while_pending :
    (run exLsAsIs (init exLsAsIs) [0, 0, 0]).freed = 1 ∧ (run exLsAsIs (init exLsAsIs) [0, 0, 0]).slot ≠ Slot.ready ∧
    (run exLsAsIs (init exLsAsIs) [0, 0, 0, 1, 1]).uaf = 1 := by decide

end Cocls.SharedFuture

namespace Cocls.SharedFutureApi

/-! # C17 at the level of whole calls: every access spelling, any number of handles and states, the stored value's state

Model: `CoclsModel/SharedFutureApi.lean` — a history is ANY list of calls `ops : List Op` of the public interface
(construction paths, copy / copy-assignment / destruction of handles, `init_if_needed()`, `get_promise()`, `operator<<`,
the promise used in any of the four ways, every observer spelling `Sp` on any handle at any point, the user moving the
value out).  The stored value carries its state (`Res.val v intact`): a moved-from value is observable (`Obs.moved`).
`run init ops` is the state after the history. -/

/-- the spellings that hand out the stored value (or throw the stored exception) -/
def Sp.returnsValue : Sp → Bool
  | Sp.value => true | Sp.cvalue => true | Sp.wait => true | Sp.fwait => true
  | Sp.cwait => true | Sp.cjoin => true | Sp.cderef => true
  | _ => false

/-- **One result, whatever the spelling and whichever copy.** After ANY history, a state that has been resolved (by the
promise or by a factory) and whose value the user has not moved out shows exactly what the resolver stored — value intact —
to every value-returning spelling (`value()`, `wait()`, `force_wait()`, `operator Base&` + `value()` / `wait()` / `join()` /
`operator*`), to `join()` (returns / throws accordingly), to a `co_await` or callback awaiter created now, and `ready()`
is true: the answers are functions of the state alone (not of the handle) and the state holds the resolver's result. -/
theorem c17_api_single_result (ops : List Op) (k : Nat) (ss : SState) (rk : RK)
    (hk : (run init ops).states[k]? = some ss) (hr : ss.resolvedBy = some rk) (ht : ss.taken = false) :
    look ss = rk.obs ∧ readyOf ss = true ∧
    (∀ sp : Sp, sp.returnsValue = true → seeOut sp k ss = Out.o (some k) rk.obs) ∧
    seeOut Sp.join k ss = Out.j k rk.obs := by
  obtain ⟨hph, hl⟩ := (good_of_run ops hk).look_resolved hr ht
  refine ⟨hl, by simp [readyOf, hph], fun sp hsp => ?_, by simp [seeOut, hl]⟩
  cases sp <;> simp [Sp.returnsValue] at hsp <;> simp [seeOut, hl]

/-- **`ready()` is false until the resolution** — at every point of the late-initialisation life cycle (no state,
`init_if_needed()` done, copies taken, `get_promise()` done) and on every handle: after ANY history, `ready()` (and
`ready()` through `operator Base&`) answers true on handle `i` only if the handle has a state and that state has been
resolved (`resolvedBy` is set by the promise call / promise destruction / the ready-made factories only). -/
theorem c17_api_ready_only_when_resolved (ops : List Op) (sp : Sp) (hsp : sp = Sp.ready ∨ sp = Sp.cready) (i : Nat) (kk : Option Nat)
    (h : (opSee (run init ops) sp i).2.1 = Out.b kk true) :
    ∃ k ss, kk = some k ∧ handleAt (run init ops) i = Handle.at k ∧ (run init ops).states[k]? = some ss ∧ ss.resolvedBy.isSome = true := by
  unfold opSee at h
  split at h
  · cases h
  · rcases hsp with rfl | rfl <;> simp at h
  · rename_i k hk
    split at h
    · cases h
    · rename_i ss hss
      have hcls : sp.cls = SpClass.poll := by rcases hsp with rfl | rfl <;> rfl
      rw [hcls] at h
      simp only at h
      have hrd : readyOf ss = true ∧ kk = some k := by
        rcases hsp with rfl | rfl <;> (simp only [seeOut, Out.b.injEq] at h; exact ⟨h.2, h.1.symm⟩)
      have hph : ss.phase = Phase.ready := by simpa [readyOf] using hrd.1
      obtain ⟨rk, h1, _⟩ := (good_of_run ops hss).resolved hph
      exact ⟨k, ss, hrd.2, hk, hss, by simp [h1]⟩

/-- **Nothing but `notready` / `canceled` before the resolution**: after ANY history an unresolved state yields no value
and no exception to any spelling, and `ready()` is false. -/
theorem c17_api_unresolved_shows_nothing (ops : List Op) (k : Nat) (ss : SState)
    (hk : (run init ops).states[k]? = some ss) (hr : ss.resolvedBy = none) :
    readyOf ss = false ∧ (look ss = Obs.notready ∨ look ss = Obs.canceled) := by
  obtain ⟨hph, hl⟩ := (good_of_run ops hk).look_unresolved hr
  exact ⟨by simp [readyOf, hph], hl⟩

/-- **No access spelling of any copy changes what later accesses observe.** From ANY state, an observer call in any
spelling on any handle — and likewise creating, copying, assigning, destroying handles and `init_if_needed()` — leaves
phase, stored result (including intact / moved-from), and resolution of EVERY state as they were; only the resolver, the
calls attaching a promise and the user's explicit `std::move(h.value())` (`Op.mutates`) are exempt. -/
theorem c17_api_access_changes_nothing (s : St) (op : Op) (hq : op.mutates = false) (k : Nat) (ss : SState)
    (h : s.states[k]? = some ss) :
    ∃ ss', (step s op).1.states[k]? = some ss' ∧ ss'.phase = ss.phase ∧ ss'.res = ss.res ∧
      ss'.resolvedBy = ss.resolvedBy ∧ ss'.taken = ss.taken ∧ look ss' = look ss ∧ readyOf ss' = readyOf ss := by
  obtain ⟨ss', h1, hv⟩ := (step_evolves s op).getElem? (P := fun y => view y = view ss) (fun _ _ e hx => (e.view hq).trans hx) h rfl
  simp only [view, Prod.mk.injEq] at hv
  obtain ⟨a, b, c, d⟩ := hv
  exact ⟨ss', h1, a, b, c, d, by simp [look, a, b], by simp [readyOf, a]⟩

/-- the same over whole histories: any sequence of non-mutating calls (any spellings by any holders, in any order) -/
theorem c17_api_accesses_change_nothing (ops : List Op) (hq : ∀ op ∈ ops, op.mutates = false) :
    ∀ (s : St) (k : Nat) (ss : SState), s.states[k]? = some ss →
    ∃ ss', (run s ops).states[k]? = some ss' ∧ look ss' = look ss ∧ readyOf ss' = readyOf ss ∧ ss'.res = ss.res := by
  induction ops with
  | nil => intro s k ss h; exact ⟨ss, h, rfl, rfl, rfl⟩
  | cons o l ih =>
      intro s k ss h
      obtain ⟨s1, h1, _, hres, _, _, hl, hr⟩ := c17_api_access_changes_nothing s o (hq o (by simp)) k ss h
      obtain ⟨s2, h2, hl2, hr2, hres2⟩ := ih (fun op hop => hq op (by simp [hop])) (step s o).1 k s1 h1
      exact ⟨s2, h2, hl2.trans hl, hr2.trans hr, hres2.trans hres⟩

/-- **All copies agree**: two handles that share a state get the same answer (and cause the same events and the same
successor state) from every spelling. -/
theorem c17_api_copies_agree (s : St) (sp : Sp) (i j : Nat) (h : handleAt s i = handleAt s j) :
    opSee s sp i = opSee s sp j := by
  unfold opSee; rw [h]

/-- **An intact value stays intact unless the user moves it out**: from any reachable state, no call other than `take`
turns a stored intact value into anything else. -/
theorem c17_api_only_take_moves (ops : List Op) (op : Op) (hop : ∀ i, op ≠ Op.take i) (k v : Nat) (ss : SState)
    (h : (run init ops).states[k]? = some ss) (hv : ss.res = Res.val v true) :
    ∃ ss', (step (run init ops) op).1.states[k]? = some ss' ∧ ss'.res = Res.val v true :=
  step_keeps_val (inv_run init ops inv_init) op hop h hv

/-! ### The hypotheses are satisfiable: histories as in corpus/c17api_ready_before_get_promise.txt and
corpus/c17api_join_then_reread.txt -/

/-- late initialisation with a poll at every point: default-constructed, `init_if_needed()`, a copy, `get_promise()`,
resolved — `ready()` on the copy is false, false, then true; then `join()` through the copy and a re-read through the
original -/
def exLate : List Op :=
  [Op.new, Op.init 0, Op.copy 0, Op.see Sp.ready 1, Op.getp 0, Op.see Sp.ready 1, Op.resolve 0 (RK.value 42)]

example : (opSee (run init [Op.new]) Sp.ready 0).2.1 = Out.b none false := by decide
example : (opSee (run init [Op.new, Op.init 0, Op.copy 0]) Sp.ready 1).2.1 = Out.b (some 0) false := by decide
example : (opSee (run init [Op.new, Op.init 0, Op.copy 0]) Sp.value 1).2.1 = Out.o (some 0) Obs.canceled := by decide
example : (opSee (run init [Op.new, Op.init 0, Op.copy 0, Op.getp 0]) Sp.ready 1).2.1 = Out.b (some 0) false := by decide
example : (opSee (run init exLate) Sp.ready 1).2.1 = Out.b (some 0) true := by decide
example : (run init exLate).states[0]? =
    some { phase := Phase.ready, res := Res.val 42 true, refs := 2, resolvedBy := some (RK.value 42) } := by decide
example : (opSee (run init (exLate ++ [Op.see Sp.join 1])) Sp.value 0).2.1 = Out.o (some 0) (Obs.val 42) := by decide
/-- the stored value's state is real data: after the user's explicit move every copy observes `moved` -/
example : (opSee (run init (exLate ++ [Op.take 1])) Sp.value 0).2.1 = Out.o (some 0) Obs.moved := by decide
/-- suspended awaiters of both kinds observe the resolver's value when the promise is called -/
example : (step (run init [Op.mk Mk.pf, Op.copy 0, Op.see Sp.coro 1, Op.see Sp.cb 0, Op.drop 0, Op.drop 1]) (Op.resolve 0 (RK.value 7))).2.2 =
    [Ev.obs 1 WK.cb (Obs.val 7), Ev.obs 0 WK.coro (Obs.val 7), Ev.freed 0] := by decide

end Cocls.SharedFutureApi
