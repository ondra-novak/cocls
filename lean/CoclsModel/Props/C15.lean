import CoclsModel.SignalProofs
/-!
# C15 — signal: every waiting listener gets every value; disconnect wakes all

Model: `CoclsModel/Signal.lean`.  Every theorem quantifies over *all* operation lists (`Reachable`): any number of
listeners of any script, callbacks of any budget, collector calls by value / by reference, succeeding or failing (`emitFail`),
`emitter::operator=` (`assign`), `connect` through a signal object without state (`connect0`) or of an lvalue callable which the
caller destroys right afterwards (`connectL`), handle copies and destruction, flushes in any order.  Those that need the
documented contract (the suspend point returned by a collector call is flushed before the next call / before the state dies)
quantify over all operation lists satisfying `Flushed`: `FlushedReachable`.

Ghost vocabulary: `got l` = what listener `l` has observed so far, in order; `expect l` = for a coroutine listener
the outcomes issued *while it was waiting in the chain* (`val v` appended by `emit v`, `canceled` by the state
destructor / by awaiting a dead emitter) — `c15_expect_emit` / `c15_expect_disconnect` pin that meaning down;
`emitted` = the values of the successful collector calls; `subAt l` = `emitted.length` when `l` was created;
`pure l` = `l` was created by `listen` and has since done nothing but re-await (no `gate`, no `exit`).
-/
namespace Cocls.Signal

def Reachable (s : State) : Prop := ∃ ops, s = run init ops
def FlushedReachable (s : State) : Prop := ∃ ops, Flushed init ops ∧ s = run init ops

theorem reachable_inv {s : State} (h : Reachable s) : Inv False s := by
  obtain ⟨ops, rfl⟩ := h
  exact inv_run init ops inv_init nofun

theorem flushed_inv {s : State} (h : FlushedReachable s) : Inv True s := by
  obtain ⟨ops, hf, rfl⟩ := h
  exact inv_run init ops inv_init fun _ => hf

/-- what listener `l` has observed, including the outcome it reads when it is resumed from the suspend point it sits in -/
def observed (s : State) (l : Nat) : List Out := s.got l ++ (if l ∈ s.rel then [readNow s] else [])

/-- meaning of the ghost `expect` (1): a collector call adds its value to exactly the listeners in the chain -/
theorem c15_expect_emit (s : State) (r : Bool) (v : Nat) (h0 : s.handles ≠ 0) (l : Nat) :
    (stepEmit s r v).1.expect l = if l ∈ s.chain then s.expect l ++ [Out.val v] else s.expect l := by
  simp [stepEmit, h0]

/-- meaning of the ghost `expect` (2): destroying the last handle adds `canceled` to exactly the listeners in the chain -/
theorem c15_expect_disconnect (s : State) (h1 : s.handles = 1) (l : Nat) :
    (stepDrop s).1.expect l = if l ∈ s.chain then s.expect l ++ [Out.canceled] else s.expect l := by
  simp [stepDrop, h1]

/-- Exactly once, every history (even outside the contract): each time a waiting coroutine listener is released —
by a collector call or by disconnection — it is resumed exactly once: #observed + (1 if currently released) =
#outcomes issued while it was waiting. -/
theorem c15_each_once {s : State} (h : Reachable s) (l : Nat) (hl : l < s.next) (hk : s.isCb l = false) :
    (s.got l).length + (if l ∈ s.rel then 1 else 0) = (s.expect l).length :=
  (reachable_inv h).once hl hk

/-- Broadcast, all flushed histories: every coroutine listener observes exactly the values emitted while it was
waiting — all of them, each once, that value, in order — and the cancellation if it was waiting at disconnection. -/
theorem c15_broadcast {s : State} (h : FlushedReachable s) (l : Nat) (hl : l < s.next) (hk : s.isCb l = false) :
    observed s l = s.expect l :=
  ((flushed_inv h).finv.ex.exact l hl hk).symm

/-- Broadcast, one collector call in ghost-free terms: in any reachable state with nothing unflushed, the call
puts exactly the waiting coroutine listeners into the returned suspend point (each once), every one of them reads `v`
when it runs, every waiting callback is called with `v` right away (and released iff it answers false), and nobody
else observes anything. -/
theorem c15_broadcast_step {s : State} (h : Reachable s) (hrel : s.rel = []) (h0 : s.handles ≠ 0) (r : Bool) (v : Nat) :
    (stepEmit s r v).1.rel = corosOf s ∧ (corosOf s).Nodup ∧ (stepEmit s r v).2 = Res.num (corosOf s).length ∧
    readNow (stepEmit s r v).1 = Out.val v ∧
    (∀ c, c ∈ cbsOf s → (stepEmit s r v).1.got c = s.got c ++ Out.val v :: (if 0 < s.left c then [] else [Out.free])) ∧
    (∀ l, l ∉ s.chain → (stepEmit s r v).1.got l = s.got l ∧ l ∉ (stepEmit s r v).1.rel) := by
  refine ⟨by simp [stepEmit, h0, hrel], List.filter_sublist.nodup (reachable_inv h).chain_nodup, by simp [stepEmit, h0],
    readNow_emit h0 r v, ?_, ?_⟩
  · intro c hc
    simp only [stepEmit, h0, if_false, hc, if_true, cbOuts]
    split <;> rfl
  · intro l hl
    have hn : l ∉ cbsOf s := fun hh => hl (mem_cbsOf.mp hh).1
    refine ⟨by simp [stepEmit, h0, hn], ?_⟩
    simp only [stepEmit, h0, if_false, hrel, List.nil_append]
    exact fun hh => hl (mem_corosOf.mp hh).1

/-- …and a released listener that is resumed before the next collector call reads that value, exactly once:
it leaves the suspend point and (re-)subscribes, gates or exits according to its script. -/
theorem c15_resume_reads_current {s : State} (h : Reachable s) (l : Nat) (hl : l ∈ s.rel) :
    (stepResume s l).1.got l = s.got l ++ [readNow s] ∧ l ∉ (stepResume s l).1.rel := by
  have hi := reachable_inv h
  have hme : l ∉ s.rel.erase l := hi.rel_nodup.not_mem_erase
  have hcn := (hi.rel_ok _ hl).2.1
  rw [stepResume_eq hl]
  split
  next => simp [hme]
  next hcan =>
    -- the signal is connected, so the listener goes on with its script: no continuation touches `got` or puts it back into `rel`
    have h0 : s.handles ≠ 0 := fun h0 => hcan (readNow_dead h0)
    unfold afterValue await reawait
    dsimp only
    split <;> simp [h0, hme, hcn]

/-- No miss, all flushed histories: a listener that does nothing between signals except re-await has observed
(or is about to read) *every* value emitted since it subscribed, in order, followed by the cancellation once the
last handle is gone. -/
theorem c15_no_miss {s : State} (h : FlushedReachable s) (l : Nat) (hl : l < s.next) (hp : s.pure l = true) :
    observed s l = (s.emitted.drop (s.subAt l)).map Out.val ++ (if s.handles = 0 then [Out.canceled] else []) := by
  have hi := flushed_inv h
  rw [c15_broadcast h l hl (hi.pure_coro l hp)]
  exact hi.finv.ex.form l hl hp

/-- such a listener is never lost while the signal is connected: it is waiting in the chain or sits in a suspend point -/
theorem c15_no_miss_present {s : State} (h : FlushedReachable s) (l : Nat) (hl : l < s.next) (hp : s.pure l = true)
    (h0 : s.handles ≠ 0) : l ∈ s.chain ∨ l ∈ s.rel :=
  (flushed_inv h).finv.present l hl hp h0

/-- Callbacks, every history: a connected callback with budget `n` (answers `true` n times) has been called with
exactly the first `n+1` values emitted since `connect`, once each, in order; it is released (`free`, exactly once, as
its last event) iff it answered false or the last handle is gone; it stays connected exactly as long as neither happened. -/
theorem c15_callbacks {s : State} (h : Reachable s) (c : Nat) (hc : c < s.next) (hk : s.isCb c = true)
    (hcn : s.conn c = true) :
    s.got c = ((s.emitted.drop (s.subAt c)).take (s.budget c + 1)).map Out.val
                ++ (if c ∈ s.chain then [] else [Out.free]) ∧
    (c ∈ s.chain ↔ s.handles ≠ 0 ∧ s.emitted.length - s.subAt c ≤ s.budget c) := by
  have sp := (reachable_inv h).cb hc hk hcn
  exact ⟨sp.1, sp.2.1⟩

/-- **The connection owns its callback.**  `connect(fn)` with an lvalue callable that the caller destroys (or modifies, or
reuses) as soon as `connect` has returned is the same step as `connect` of a temporary: the awaiter stores `std::decay_t<Fn>`,
a copy.  The new callback is waiting in the chain, has observed nothing — in particular it has *not* been released by the
caller's destruction of its own object — and `c15_callbacks` (which quantifies over every operation list, `connectL` included)
says what it observes from here on: the next `n + 1` values, once each, then its release, exactly once, as its last event.
(The pinned code stored a reference: `c15_asis_connect_lvalue_dangling`.) -/
theorem c15_connect_owns_callback (s : State) (n : Nat) :
    step s (Op.connectL n) = step s (Op.connect n)
    ∧ (s.handles ≠ 0 →
        (step s (Op.connectL n)).2 = Res.id s.next
        ∧ s.next ∈ (step s (Op.connectL n)).1.chain
        ∧ (step s (Op.connectL n)).1.got s.next = []
        ∧ (step s (Op.connectL n)).1.isCb s.next = true
        ∧ (step s (Op.connectL n)).1.conn s.next = true
        ∧ (step s (Op.connectL n)).1.budget s.next = n
        ∧ (step s (Op.connectL n)).1.subAt s.next = s.emitted.length) := by
  refine ⟨rfl, fun h0 => ?_⟩
  simp [step, stepConnect, h0, fresh]

/-- …and a callback connected through a `signal` object that has no state (moved-from): `initial_reg` cannot lock the
weak pointer, the awaiter deletes itself at once — released exactly once, never called, never in the chain (every history). -/
theorem c15_callbacks_unconnected {s : State} (h : Reachable s) (c : Nat) (hc : c < s.next) (hk : s.isCb c = true)
    (hcn : s.conn c = false) : s.got c = [Out.free] ∧ c ∉ s.chain := by
  refine ⟨(reachable_inv h).cb0 hc hk hcn, fun hm => ?_⟩
  have := ((reachable_inv h).chain_ok c hm).2.1
  rw [hcn] at this; cases this

/-- Emitter assignment (`emitter::operator=`, only the weak pointer is copied), every history: assigning to the emitter of
a listener that is busy elsewhere changes nothing but what that emitter denotes — every subscribed or released listener
stays where it is, the state it denoted before loses no reference (emitters hold none) and nobody observes anything;
every listener that is waiting or released denotes the shared state (so the broadcast theorems apply to it unchanged). -/
theorem c15_assign_only_retargets {s : State} (h : Reachable s) (l : Nat) (b : Bool) :
    (stepAssign s l b).1.chain = s.chain ∧ (stepAssign s l b).1.rel = s.rel ∧ (stepAssign s l b).1.handles = s.handles
    ∧ (stepAssign s l b).1.got = s.got ∧ (stepAssign s l b).1.gated = s.gated
    ∧ (∀ l', l' ∈ s.chain ∨ l' ∈ s.rel → (stepAssign s l b).1.conn l' = true) := by
  have hi := reachable_inv h
  -- a waiting or released listener is connected and not gated
  have hw : ∀ l', l' ∈ s.chain ∨ l' ∈ s.rel → s.conn l' = true ∧ l' ∉ s.gated := fun l' hm =>
    hm.elim (fun hm => ⟨(hi.chain_ok _ hm).2.1, (hi.chain_ok _ hm).2.2.2⟩) (fun hm => ⟨(hi.rel_ok _ hm).2.1, (hi.rel_ok _ hm).2.2.2⟩)
  unfold stepAssign
  split
  next hl =>
    refine ⟨rfl, rfl, rfl, rfl, rfl, fun l' hm => ?_⟩
    exact (upd_other _ _ fun e : l' = l => (hw l' hm).2 (e ▸ hl)).trans (hw l' hm).1
  next => exact ⟨rfl, rfl, rfl, rfl, rfl, fun l' hm => (hw l' hm).1⟩

/-- …and what the assigned-to emitter denotes afterwards decides the listener's next `co_await`: an emitter assigned
from a connected one subscribes (while the signal is connected), one assigned from an emitter without state fails at
once with the cancellation and is not parked. -/
theorem c15_assign_then_await {s : State} (h : Reachable s) (l : Nat) (hl : l ∈ s.gated) :
    (s.handles ≠ 0 → l ∈ (stepWake (stepAssign s l true).1 l).1.chain) ∧
    ((stepWake (stepAssign s l false).1 l).1.got l = s.got l ++ [Out.canceled]
      ∧ l ∉ (stepWake (stepAssign s l false).1 l).1.chain ∧ l ∉ (stepWake (stepAssign s l false).1 l).1.gated) := by
  have hi := reachable_inv h
  have hme : l ∉ s.gated.erase l := hi.gated_nodup.not_mem_erase
  have hc : l ∉ s.chain := fun hc => (hi.chain_ok _ hc).2.2.2 hl
  refine ⟨fun h0 => ?_, ?_⟩
  · simp [stepAssign, stepWake, await, reawait, hl, h0]
  · simp [stepAssign, stepWake, await, cancelNow, hl, hme, hc]

/-- Disconnect (1), every history: once the last handle is gone nobody is parked in the chain — every callback
has been released (by `c15_callbacks`) and every coroutine listener is in a suspend point, busy elsewhere, or finished. -/
theorem c15_disconnect_nobody_parked {s : State} (h : Reachable s) (h0 : s.handles = 0) :
    s.chain = [] ∧ (∀ c, c < s.next → s.isCb c = true → (s.got c).getLast? = some Out.free) ∧
    (∀ l, l ∈ s.rel → readNow s = Out.canceled) := by
  have hch := (reachable_inv h).dead h0
  refine ⟨hch, fun c hc hk => ?_, fun _ _ => readNow_dead h0⟩
  by_cases hcn : s.conn c = true
  · rw [(c15_callbacks h c hc hk hcn).1]; simp [hch]
  · rw [(reachable_inv h).cb0 hc hk (by simpa using hcn)]; rfl

/-- Disconnect (2), the step: destroying the last handle releases the whole chain: every waiting coroutine listener
goes into the destructor's suspend point and will read the cancellation, every callback is released, the chain is empty. -/
theorem c15_disconnect_wakes_all (s : State) (h1 : s.handles = 1) :
    (stepDrop s).1.chain = [] ∧ (stepDrop s).1.rel = s.rel ++ corosOf s ∧
    (∀ l, l ∈ s.chain → s.isCb l = false → l ∈ (stepDrop s).1.rel) ∧
    (∀ c, c ∈ s.chain → s.isCb c = true → (stepDrop s).1.got c = s.got c ++ [Out.free]) ∧
    readNow (stepDrop s).1 = Out.canceled ∧ (stepDrop s).1.handles = 0 := by
  refine ⟨by simp [stepDrop, h1], by simp [stepDrop, h1], ?_, ?_, by simp [stepDrop, h1, readNow], by simp [stepDrop, h1]⟩
  · intro l hl hk
    simp only [stepDrop, h1]
    exact mem_rel_coros.mpr (Or.inr ⟨hl, hk⟩)
  · intro c hc hk
    have : c ∈ cbsOf s := mem_cbsOf.mpr ⟨hc, hk⟩
    simp [stepDrop, h1, this]

/-- Disconnect (3): a listener resumed after disconnection observes `await_canceled_exception` and is finished
(it does not wait anywhere any more). -/
theorem c15_disconnect_resumes_canceled {s : State} (h : Reachable s) (h0 : s.handles = 0) (l : Nat) (hl : l ∈ s.rel) :
    (stepResume s l).1.got l = s.got l ++ [Out.canceled] ∧
    l ∉ (stepResume s l).1.chain ∧ l ∉ (stepResume s l).1.rel ∧ l ∉ (stepResume s l).1.gated := by
  have hi := reachable_inv h
  have hc : l ∉ s.chain := by simp [hi.dead h0]
  simp [stepResume_eq hl, readNow_dead h0, hi.rel_nodup.not_mem_erase, hc, (hi.rel_ok _ hl).2.2.2]

/-- Awaiting a disconnected emitter fails immediately: a new listener, a gated listener that re-awaits, and a listener
on a never-connected emitter observe the cancellation at once and are not parked. -/
theorem c15_await_disconnected_fails {s : State} (h : Reachable s) (h0 : s.handles = 0) (sc : List Act) :
    ((stepListen s sc).1.got s.next = [Out.canceled] ∧ (stepListen s sc).1.chain = [] ∧ (stepListen s sc).1.rel = s.rel) ∧
    (∀ l, l ∈ s.gated → (stepWake s l).1.got l = s.got l ++ [Out.canceled] ∧ (stepWake s l).1.chain = []
        ∧ l ∉ (stepWake s l).1.gated ∧ (stepWake s l).1.rel = s.rel) := by
  have hi := reachable_inv h
  have hc := hi.dead h0
  refine ⟨by simp [stepListen, reawait, fresh, h0, hc], ?_⟩
  intro l hl
  have hme : l ∉ s.gated.erase l := hi.gated_nodup.not_mem_erase
  by_cases hcn : s.conn l = true
  · simp [stepWake, await, reawait, hl, h0, hc, hme, hcn]
  · simp [stepWake, await, cancelNow, hl, hc, hme, hcn]

/-- …and a never-connected (default constructed) emitter fails the same way in every state -/
theorem c15_await_unconnected_fails (s : State) (sc : List Act) :
    (stepListen0 s sc).1.got s.next = [Out.canceled] ∧ (stepListen0 s sc).1.chain = s.chain
    ∧ (stepListen0 s sc).1.rel = s.rel := by
  simp [stepListen0, cancelNow, fresh]

/-- Negative lemma — why `Flushed` is needed: three collector calls whose suspend points are not flushed in between
(emitting coroutine that discards them, or a thread that keeps them) make a purely re-awaiting listener observe only
the *third* value, once: the first is overwritten before it runs and the other two find the chain empty. The history
is reachable but not `Flushed`; `c15_each_once` still holds for it. (Replayed on the headers: corpus/c15_unflushed.txt.) -/
theorem c15_unflushed_can_miss :
    (run init [Op.listen [], Op.emit false 1, Op.emit false 2, Op.emit false 3, Op.resume 0]).got 0 = [Out.val 3]
    ∧ (run init [Op.listen [], Op.emit false 1, Op.emit false 2, Op.emit false 3, Op.resume 0]).expect 0 = [Out.val 1]
    ∧ (run init [Op.listen [], Op.emit false 1, Op.emit false 2, Op.emit false 3, Op.resume 0]).emitted = [1, 2, 3]
    ∧ ¬ Flushed init [Op.listen [], Op.emit false 1, Op.emit false 2, Op.emit false 3, Op.resume 0] := by decide

theorem reachable_step {s : State} (h : Reachable s) (op : Op) : Reachable (step s op).1 := by
  obtain ⟨ops, rfl⟩ := h
  exact ⟨ops ++ [op], by simp [run, List.foldl_append]⟩

/-! ### Failed emissions: a by-value collector call whose value cannot be constructed

Every theorem above quantifies over operation lists that contain any number of such calls anywhere: `c15_broadcast`,
`c15_no_miss`, `c15_callbacks`, `c15_each_once` say that `emitted` / `expect` — what listeners are owed — consist of the
*successful* calls only and that all of it is delivered; the theorems below say what the failed call itself does. -/

/-- **A failed emission delivers nothing and loses nobody** (the step, every state with a live handle): the exception reaches
the caller; the chain of waiting listeners (coroutines and callbacks), the listeners sitting in suspend points, the gated ones,
everything anybody has observed or is owed, the callbacks' budgets, the handle count and `_cur_val` are exactly what they
were; only `_value_storage` is now empty. -/
theorem c15_failed_emit_loses_nobody (s : State) (h0 : s.handles ≠ 0) :
    (stepEmitFail s).2 = Res.threw ∧
    (stepEmitFail s).1.chain = s.chain ∧ (stepEmitFail s).1.rel = s.rel ∧ (stepEmitFail s).1.gated = s.gated ∧
    (stepEmitFail s).1.got = s.got ∧ (stepEmitFail s).1.expect = s.expect ∧ (stepEmitFail s).1.emitted = s.emitted ∧
    (stepEmitFail s).1.left = s.left ∧ (stepEmitFail s).1.handles = s.handles ∧ (stepEmitFail s).1.cur = s.cur ∧
    (stepEmitFail s).1.stored = none ∧
    cbsOf (stepEmitFail s).1 = cbsOf s ∧ corosOf (stepEmitFail s).1 = corosOf s := by
  simp [stepEmitFail, h0, cbsOf, corosOf]

/-- any number of failed emissions in a row -/
def failN : Nat → State → State
  | 0, s => s
  | n + 1, s => failN n (stepEmitFail s).1

theorem failN_reachable {s : State} (h : Reachable s) (n : Nat) : Reachable (failN n s) := by
  induction n generalizing s with
  | zero => exact h
  | succ n ih => exact ih (reachable_step h Op.emitFail)

theorem failN_eq (n : Nat) (s : State) (h0 : s.handles ≠ 0) :
    failN n s = { s with stored := if n = 0 then s.stored else none } := by
  induction n generalizing s with
  | zero => rfl
  | succ n ih =>
    have e : (stepEmitFail s).1 = { s with stored := none } := by rw [stepEmitFail, if_neg h0]
    rw [failN, e, ih { s with stored := none } h0]
    by_cases hn : n = 0 <;> simp [hn]

/-- **Across failed emissions** (every reachable state with nothing unflushed, any number `n` of failed calls in a row): the next
collector call that succeeds — of any flavour — finds everybody who was waiting before the failures: exactly the waiting
coroutines go into its suspend point, each reads `v`; every waiting callback is called with `v` (and released iff it answers
false); nobody else observes anything. -/
theorem c15_failed_emits_then_next_delivers {s : State} (h : Reachable s) (hrel : s.rel = []) (h0 : s.handles ≠ 0)
    (n : Nat) (r : Bool) (v : Nat) :
    (stepEmit (failN n s) r v).1.rel = corosOf s ∧ (stepEmit (failN n s) r v).2 = Res.num (corosOf s).length ∧
    readNow (stepEmit (failN n s) r v).1 = Out.val v ∧
    (∀ c, c ∈ cbsOf s → (stepEmit (failN n s) r v).1.got c = s.got c ++ Out.val v :: (if 0 < s.left c then [] else [Out.free])) ∧
    (∀ l, l ∉ s.chain → (stepEmit (failN n s) r v).1.got l = s.got l ∧ l ∉ (stepEmit (failN n s) r v).1.rel) := by
  have hreach := failN_reachable h n
  rw [failN_eq n s h0] at hreach ⊢
  obtain ⟨a, _, b, c, d, e⟩ := c15_broadcast_step hreach hrel h0 r v
  exact ⟨a, b, c, d, e⟩

/-- …and destroying the last handle after failed emissions wakes everybody who was waiting before them: every waiting
coroutine goes into the destructor's suspend point and reads the cancellation, every waiting callback is released. -/
theorem c15_failed_emits_then_disconnect (s : State) (h1 : s.handles = 1) (n : Nat) :
    (stepDrop (failN n s)).1.chain = [] ∧ (stepDrop (failN n s)).1.rel = s.rel ++ corosOf s ∧
    (∀ l, l ∈ s.chain → s.isCb l = false → l ∈ (stepDrop (failN n s)).1.rel) ∧
    (∀ c, c ∈ s.chain → s.isCb c = true → (stepDrop (failN n s)).1.got c = s.got c ++ [Out.free]) ∧
    readNow (stepDrop (failN n s)).1 = Out.canceled := by
  rw [failN_eq n s (by omega)]
  obtain ⟨a, b, c, d, e, _⟩ := c15_disconnect_wakes_all { s with stored := if n = 0 then s.stored else none } h1
  exact ⟨a, b, c, d, e⟩

/-- **The stale `_cur_val` is never read under the contract** (all flushed histories): after a failed emission `_cur_val` may
still point at `_value_storage`, which holds no object any more — but a listener that is about to run never reads a destroyed
value: what it reads is the last thing it is owed, a value that was really emitted or the cancellation. -/
theorem c15_failed_emit_stale_pointer_unread {s : State} (h : FlushedReachable s) (l : Nat) (hl : l ∈ s.rel) :
    readNow s ≠ Out.dead ∧ ∀ o, o ∈ observed s l → o ≠ Out.dead := by
  have hi := flushed_inv h
  have hb := c15_broadcast h l (hi.rel_ok _ hl).1 (hi.rel_ok _ hl).2.2.1
  have key : ∀ o, o ∈ observed s l → o ≠ Out.dead := by
    intro o ho e
    rw [hb, e] at ho
    exact hi.no_dead_owed l ho
  refine ⟨fun e => key (readNow s) ?_ e, key⟩
  simp [observed, hl]

/-- …every history, contract or not: no coroutine listener is ever *owed* a destroyed value, and callbacks never see one
(a callback reads inside the very collector call that stored the value: `c15_callbacks`). -/
theorem c15_never_owed_dead {s : State} (h : Reachable s) (l : Nat) : Out.dead ∉ s.expect l :=
  (reachable_inv h).no_dead_owed l

/-- Negative lemma — the contract matters here too: a listener released by a by-value call whose suspend point is still held
when the next by-value call fails is handed a reference to the copy that the failed `emplace` has destroyed (`_cur_val` is
stale).  Reachable, not `Flushed`; on the headers: corpus/c15_failed_emit.txt, second case (`vdead`). -/
theorem c15_unflushed_failed_emit_reads_destroyed :
    (run init [Op.listen [], Op.emit false 1, Op.emitFail, Op.resume 0]).got 0 = [Out.dead]
    ∧ ¬ Flushed init [Op.listen [], Op.emit false 1, Op.emitFail, Op.resume 0]
    ∧ (run init [Op.listen [], Op.emit true 1, Op.emitFail, Op.resume 0]).got 0 = [Out.val 1] := by decide

/-- non-vacuity: a flushed history with failed emissions before anything was stored, between by-value and by-reference
calls, twice in a row, with re-awaiting / gating / leaving coroutines and a callback waiting; everybody gets every value of the
successful calls, nothing from the failed ones, and the cancellation / release at the end -/
def demoFail : List Op :=
  [Op.listen [], Op.listen [Act.gate], Op.connect 2, Op.emitFail,
   Op.emit false 5, Op.resume 1, Op.resume 0,
   Op.emitFail, Op.emitFail, Op.wake 1,
   Op.emit true 6, Op.resume 0, Op.resume 1,
   Op.emitFail,
   Op.emit false 7, Op.resume 1, Op.resume 0,
   Op.emitFail, Op.dropHandle, Op.resume 0, Op.resume 1]

example : FlushedReachable (run init demoFail) := ⟨demoFail, by decide, rfl⟩
example : (run init demoFail).got 0 = [Out.val 5, Out.val 6, Out.val 7, Out.canceled]
    ∧ (run init demoFail).got 1 = [Out.val 5, Out.val 6, Out.val 7, Out.canceled]
    ∧ (run init demoFail).got 2 = [Out.val 5, Out.val 6, Out.val 7, Out.free]
    ∧ (run init demoFail).emitted = [5, 6, 7] ∧ (run init demoFail).pure 0 = true := by decide
/-- a reachable state right after a failed emission with two coroutines and a callback waiting and the stale pointer in place
(hypotheses of `c15_failed_emits_then_next_delivers` / `c15_failed_emit_loses_nobody`) -/
example : (run init (demoFail.take 8)).rel = [] ∧ (run init (demoFail.take 8)).handles = 1
    ∧ (run init (demoFail.take 8)).chain = [0, 2] ∧ (run init (demoFail.take 8)).gated = [1]
    ∧ (run init (demoFail.take 8)).cur = some Ptr.owned ∧ (run init (demoFail.take 8)).stored = none := by decide

/-- `hook_up` (signal.h:324-343): the first `co_await` creates the state, subscribes the coroutine and only THEN runs the
registration function.  So a collector call made by the registration function itself (a generator that replays its
current value on registration) — or by anyone who got the collector from it — finds the coroutine waiting: it is put
into the returned suspend point and reads that value when it runs (after its `await_suspend` has returned).
Stated for any reachable state with nothing unflushed; `hook_up` itself starts from `init`. -/
theorem c15_hookup_receives_registration_value {s : State} (h : Reachable s) (hrel : s.rel = []) (h0 : s.handles ≠ 0)
    (sc : List Act) (r : Bool) (v : Nat) :
    s.next ∈ (stepListen s sc).1.chain ∧
    s.next ∈ (stepEmit (stepListen s sc).1 r v).1.rel ∧
    readNow (stepEmit (stepListen s sc).1 r v).1 = Out.val v ∧
    (stepResume (stepEmit (stepListen s sc).1 r v).1 s.next).1.got s.next = [Out.val v] := by
  have h1 : Reachable (stepListen s sc).1 := reachable_step h (Op.listen sc)
  have h2 : Reachable (stepEmit (stepListen s sc).1 r v).1 := reachable_step h1 (Op.emit r v)
  -- the signal is connected: the new coroutine is waiting, has observed nothing, and nobody else has moved
  rw [stepListen, reawait_live (show (fresh s false sc 0 true true).handles ≠ 0 from h0)] at h1 h2 ⊢
  have hk : upd s.isCb s.next false s.next = false := upd_same ..
  obtain ⟨hrel2, _, _, hread, _, _⟩ := c15_broadcast_step h1 hrel h0 r v
  have hm := hrel2 ▸ mem_corosOf.mpr ⟨List.mem_cons_self, hk⟩
  refine ⟨List.mem_cons_self, hm, hread, ?_⟩
  rw [(c15_resume_reads_current h2 s.next hm).1, hread]
  simp [stepEmit, fresh, h0, mem_cbsOf]

/-- the hook-up history of the demo: registration replays 1, the generator then emits 2 and 3 and lets the collector go -/
example : (run init [Op.listen [], Op.emit false 1, Op.resume 0, Op.emit false 2, Op.resume 0, Op.emit false 3,
    Op.resume 0, Op.dropHandle, Op.resume 0]).got 0 = [Out.val 1, Out.val 2, Out.val 3, Out.canceled] := by decide

/-- Model fidelity: on every reachable state the closed forms used by `step` are exactly the loops of the code —
`resume_chain_lk` walking the detached chain awaiter by awaiter inside the collector call and inside `~state`. -/
theorem c15_model_is_the_loop {s : State} (h : Reachable s) (r : Bool) (v : Nat) :
    stepEmitLoop s r v = stepEmit s r v ∧ stepDropLoop s = stepDrop s :=
  ⟨stepEmit_eq_loop s (reachable_inv h).chain_nodup r v, stepDrop_eq_loop s (reachable_inv h).chain_nodup⟩

/-- Publication discipline (repaired in `/repo` commit 58a90f6): in the repaired `awaiter::subscribe`
nothing follows the CAS that publishes the awaiter, so under every schedule of any number of subscribing threads and
chain releases no destroyed awaiter is ever read. -/
theorem c15_subscribe_no_touch_after_publish (ops : List Pub.Op) (h : ∀ l, Pub.Op.post l ∉ ops) :
    (Pub.run ops).uaf = false :=
  Pub.foldl_uaf ops {} h rfl

/-- The pinned code evaluated `assert(_next != this)` after the publishing CAS: subscriber publishes, the collector's
thread releases the chain and the one-shot listener's awaiter dies, then the subscriber reads it
(heap-use-after-free on the headers with assertions enabled: corpus/c15t_subscribe_assert_uaf.txt). -/
theorem c15_asis_subscribe_uaf :
    (Pub.run [Pub.Op.cas 0, Pub.Op.release, Pub.Op.post 0]).uaf = true := by decide

/-- The pinned `signal::connect` (before `/repo` commit d8a7c3e "fix: signal::connect kept a reference to an lvalue callback
instead of owning it"; replayed on the headers in corpus/c15_connect_lvalue.txt): a callable with budget 2 is connected as an
lvalue and destroyed by its owner right after `connect` returned — the callback has been released (`free`) while its awaiter is
still waiting in the chain, and the next value is "delivered" by calling the destroyed callable (`free` is not its last event:
`c15_callbacks` fails).  The repaired code delivers 7 to the owned copy and releases it once, at disconnection. -/
theorem c15_asis_connect_lvalue_dangling :
    (runAsIs init [Op.connectL 2]).got 0 = [Out.free]
    ∧ 0 ∈ (runAsIs init [Op.connectL 2]).chain
    ∧ (runAsIs init [Op.connectL 2, Op.emit false 7]).got 0 = [Out.free, Out.val 7]
    ∧ 0 ∈ (runAsIs init [Op.connectL 2, Op.emit false 7]).chain
    ∧ (run init [Op.connectL 2, Op.emit false 7]).got 0 = [Out.val 7]
    ∧ (run init [Op.connectL 2, Op.emit false 7, Op.dropHandle]).got 0 = [Out.val 7, Out.free] := by decide

/-! ### non-vacuity: flushed histories with re-awaiting, gating and leaving listeners, callbacks, by-value and
by-reference calls, a held-then-flushed suspend point, and disconnection -/

def demo : List Op :=
  [Op.listen [], Op.listen [Act.gate], Op.connect 1, Op.listen [Act.exit], Op.addHandle,
   Op.emit false 5, Op.resume 3, Op.resume 1, Op.resume 0,
   Op.emit true 6, Op.resume 0,
   Op.wake 1, Op.dropHandle,
   Op.emit false 7, Op.resume 1, Op.resume 0,
   Op.dropHandle, Op.resume 0, Op.resume 1, Op.listen []]

example : FlushedReachable (run init demo) := ⟨demo, by decide, rfl⟩
example : (run init demo).pure 0 = true ∧ (run init demo).handles = 0 ∧ (run init demo).emitted = [5, 6, 7] := by decide
example : (run init demo).got 0 = [Out.val 5, Out.val 6, Out.val 7, Out.canceled]
    ∧ (run init demo).got 1 = [Out.val 5, Out.val 7, Out.canceled]
    ∧ (run init demo).got 2 = [Out.val 5, Out.val 6, Out.free]
    ∧ (run init demo).got 3 = [Out.val 5]
    ∧ (run init demo).got 4 = [Out.canceled] := by decide
/-- a reachable state with nothing unflushed, a live handle, waiting coroutines and a waiting callback (`c15_broadcast_step`) -/
example : (run init (demo.take 5)).rel = [] ∧ (run init (demo.take 5)).handles = 2
    ∧ corosOf (run init (demo.take 5)) = [3, 1, 0] ∧ cbsOf (run init (demo.take 5)) = [2] := by decide
/-- a reachable state with the last handle about to go and two parked listeners (`c15_disconnect_wakes_all`) -/
example : (run init (demo.take 16)).handles = 1 ∧ (run init (demo.take 16)).chain = [0, 1] := by decide

/-- reachable states that use `assign` and `connect0`: a listener is gated, its emitter is assigned from an emitter without state
(`assign 0 false`), it re-awaits and is cancelled at once while listener 1 keeps receiving; a callback connected through a
moved-from signal (`connect0`) is released at once; assigning a connected emitter again (`assign 2 true`) re-subscribes -/
def demoAssign : List Op :=
  [Op.listen [Act.gate], Op.listen [], Op.listen [Act.gate, Act.gate], Op.connect0 3,
   Op.emit false 1, Op.resume 2, Op.resume 1, Op.resume 0,
   Op.assign 0 false, Op.wake 0, Op.assign 2 false, Op.assign 2 true, Op.wake 2,
   Op.emit true 2, Op.resume 2, Op.resume 1]

example : FlushedReachable (run init demoAssign) := ⟨demoAssign, by decide, rfl⟩
example : (run init demoAssign).got 0 = [Out.val 1, Out.canceled]
    ∧ (run init demoAssign).got 1 = [Out.val 1, Out.val 2]
    ∧ (run init demoAssign).got 2 = [Out.val 1, Out.val 2]
    ∧ (run init demoAssign).got 3 = [Out.free]
    ∧ (run init demoAssign).conn 0 = false ∧ (run init demoAssign).conn 2 = true
    ∧ (run init demoAssign).chain = [1] ∧ (run init demoAssign).gated = [2] := by decide

/-- a reachable (flushed) history with a callback connected as an lvalue (`connectL`, budget 1): it gets the two values emitted
while it is connected, answers false to the second and is released exactly once -/
example : FlushedReachable (run init [Op.listen [], Op.connectL 1, Op.emit false 4, Op.resume 0, Op.emit true 5, Op.resume 0,
      Op.emit false 6, Op.resume 0]) := ⟨_, by decide, rfl⟩
example : (run init [Op.listen [], Op.connectL 1, Op.emit false 4, Op.resume 0, Op.emit true 5, Op.resume 0,
      Op.emit false 6, Op.resume 0]).got 1 = [Out.val 4, Out.val 5, Out.free] := by decide

end Cocls.Signal
