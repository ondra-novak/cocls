import CoclsModel.SignalClock
import CoclsModel.ChainClockProofs
/-!
Race freedom of the signal protocol as a whole on the happens-before machine of `SignalClock.lean` (ownership invariant `Inv`),
that the orders are necessary, and the bridge to the sequentially consistent base system and to `Signal.Pub`; used by `Props/C03b.lean`.

As in `ChainClockProofs.lean`: every primitive only makes clocks and the chain's release-sequence clock grow and touches
at most one node, with the clock of the stepping thread — relation `Mono`, closed under composition and holding for EVERY order
table; `inv_frame` turns a `Mono` step plus a handful of facts about the new base state into the invariant; the
publishing CAS, the exchange and the hand-over contribute one clock inequality each (`casOk_pub`, `xchg_acq`, `hand_le`).  The
clauses of `Inv` about nodes are claimed under sufficient orders only, those about the value for every table.  That a node has
one owner at a time is the counting fact `Cnt` about the base system, carried beside `Inv`: the lemmas `inv_own_push` …
`inv_nonode`, one per way a node changes hands, conclude `Inv ∧ Cnt`.
-/

namespace Cocls.SignalClock
open Cocls.Clock (VC le_acqVc le_rmw le_rmw_msg le_join_right upd_mono le_hop le_hop_recv)
open Cocls.ChainClock (FT norace_of_le norace_of_own)

def NodeLe (s : St) (y : Nat) (v : VC) : Prop := (s.nxt y).le v ∧ (s.hnd y).le v
/-- `_cur_val`, the value and `_value_storage` have been accessed by thread 0 only, within its clock -/
def ColOk (s : St) : Prop := s.cur.own 0 (s.clk 0 0) ∧ s.val.own 0 (s.clk 0 0) ∧ s.stor.own 0 (s.clk 0 0)
def Has (s : St) (t : Nat) (Y : Nat → Prop) : Prop := ∀ x, Y x → NodeLe s x (s.clk t)

theorem NodeLe.mono {s : St} {y : Nat} {v w : VC} (h : NodeLe s y v) (hw : ∀ i, v i ≤ w i) : NodeLe s y w :=
  ⟨ChainClock.FT.le_mono h.1 hw, ChainClock.FT.le_mono h.2 hw⟩

theorem NodeLe.has {s : St} {t y : Nat} (h : NodeLe s y (s.clk t)) : Has s t (· = y) := fun _ e => e ▸ h

theorem NodeLe.congr {s s' : St} {y : Nat} {v : VC} (h : NodeLe s y v) (hn : s'.nxt y = s.nxt y) (hh : s'.hnd y = s.hnd y) :
    NodeLe s' y v := by
  unfold NodeLe; rw [hn, hh]; exact h

/-- What a primitive of thread `t` touching at most the nodes in `Y` does.  `Y` is `(· = y)` for an access to node `y`; the clock
operations and the accesses to the value satisfy it for every `Y`.  No access races provided `t` has the nodes of `Y` in its
clock and the value belongs to thread 0 (`raced`); `racedV` needs the latter only. -/
structure Mono (t : Nat) (Y : Nat → Prop) (s s' : St) : Prop where
  base : s'.base = s.base
  raced : Has s t Y → ColOk s → s'.raced = s.raced
  racedV : ColOk s → s'.racedV = s.racedV
  clk : ∀ u i, s.clk u i ≤ s'.clk u i
  rs : ∀ i, s.chainRs i ≤ s'.chainRs i
  other : ∀ x, ¬ Y x → s'.nxt x = s.nxt x ∧ s'.hnd x = s.hnd x
  node : Has s t Y → Has s' t Y
  col : ColOk s → ColOk s'
  realC : 1 ≤ s.clk 0 0 → 1 ≤ s.cur.wr.2 → 1 ≤ s'.cur.wr.2
  realV : 1 ≤ s.clk 0 0 → 1 ≤ s.val.wr.2 → 1 ≤ s'.val.wr.2

section
variable {t : Nat} {Y : Nat → Prop}

theorem Mono.refl (t : Nat) (Y : Nat → Prop) (s : St) : Mono t Y s s :=
  ⟨rfl, fun _ _ => rfl, fun _ => rfl, fun _ _ => Nat.le_refl _, fun _ => Nat.le_refl _, fun _ _ => ⟨rfl, rfl⟩, id, id,
    fun _ h => h, fun _ h => h⟩

theorem Mono.trans {s s' s'' : St} (a : Mono t Y s s') (b : Mono t Y s' s'') : Mono t Y s s'' :=
  ⟨b.base.trans a.base, fun hn hc => (b.raced (a.node hn) (a.col hc)).trans (a.raced hn hc),
    fun hc => (b.racedV (a.col hc)).trans (a.racedV hc), fun u i => Nat.le_trans (a.clk u i) (b.clk u i),
    fun i => Nat.le_trans (a.rs i) (b.rs i),
    fun x hx => ⟨(b.other x hx).1.trans (a.other x hx).1, (b.other x hx).2.trans (a.other x hx).2⟩,
    fun h => b.node (a.node h), fun h => b.col (a.col h),
    fun hp h => b.realC (Nat.le_trans hp (a.clk 0 0)) (a.realC hp h),
    fun hp h => b.realV (Nat.le_trans hp (a.clk 0 0)) (a.realV hp h)⟩

theorem Mono.keep {s s' : St} (m : Mono t Y s s') {x : Nat} (hx : ¬ Y x) {v v' : VC} (h : NodeLe s x v)
    (hv : ∀ i, v i ≤ v' i) : NodeLe s' x v' :=
  (h.mono hv).congr (m.other x hx).1 (m.other x hx).2

theorem colOk_mono {s s' : St} (h : ColOk s) (hc : s'.cur = s.cur) (hv : s'.val = s.val) (hs : s'.stor = s.stor)
    (hk : s.clk 0 0 ≤ s'.clk 0 0) : ColOk s' := by
  unfold ColOk; rw [hc, hv, hs]
  exact ⟨ChainClock.FT.own_mono h.1 hk, ChainClock.FT.own_mono h.2.1 hk, ChainClock.FT.own_mono h.2.2 hk⟩

theorem mono_of_clk {s s' : St} (hb : s'.base = s.base) (hr : s'.raced = s.raced) (hrv : s'.racedV = s.racedV)
    (hc : s'.cur = s.cur) (hv : s'.val = s.val) (hs : s'.stor = s.stor) (hn : s'.nxt = s.nxt) (hh : s'.hnd = s.hnd)
    (hk : ∀ u i, s.clk u i ≤ s'.clk u i) (hrs : ∀ i, s.chainRs i ≤ s'.chainRs i) : Mono t Y s s' :=
  ⟨hb, fun _ _ => hr, fun _ => hrv, hk, hrs, fun _ _ => by rw [hn, hh]; exact ⟨rfl, rfl⟩,
    fun h x hx => ((h x hx).mono (hk t)).congr (by rw [hn]) (by rw [hh]),
    fun h => colOk_mono h hc hv hs (hk 0 0), by rw [hc]; exact fun _ h => h, by rw [hv]; exact fun _ h => h⟩

theorem mono_casOk (o : SignalOrders) (s : St) (t : Nat) : Mono t Y s (hbCasOk o s t) :=
  mono_of_clk rfl rfl rfl rfl rfl rfl rfl rfl
    (upd_mono _ _ _ (le_rmw _ _ _ _)) (fun i => le_join_right _ _ i)

theorem mono_casFail (o : SignalOrders) (s : St) (t : Nat) : Mono t Y s (hbCasFail o s t) :=
  mono_of_clk rfl rfl rfl rfl rfl rfl rfl rfl (upd_mono _ _ _ (fun i => le_acqVc _ _ _ i)) (fun _ => Nat.le_refl _)

theorem mono_xchg (o : SignalOrders) (s : St) (t : Nat) : Mono t Y s (hbXchg o s t) :=
  mono_of_clk rfl rfl rfl rfl rfl rfl rfl rfl
    (upd_mono _ _ _ (le_rmw _ _ _ _)) (fun i => le_join_right _ _ i)

theorem mono_hand (s : St) (t y : Nat) : Mono t Y s (hbHand s t y) :=
  mono_of_clk rfl rfl rfl rfl rfl rfl rfl rfl (le_hop _ _ _) (fun _ => Nat.le_refl _)

theorem casOk_pub (o : SignalOrders) (ho : o.casSucc.isRel = true) (s : St) (t i : Nat) :
    s.clk t i ≤ (hbCasOk o s t).chainRs i :=
  Clock.rmw_rs_self _ ho _ _ i

theorem xchg_acq (o : SignalOrders) (ho : o.xchg.isAcq = true) (s : St) (t i : Nat) :
    s.chainRs i ≤ (hbXchg o s t).clk t i := by
  simp only [hbXchg, Clock.upd_same]
  exact le_rmw_msg _ ho _ _ _ i

theorem hand_le (s : St) (t y : Nat) (i : Nat) : s.clk t i ≤ (hbHand s t y).clk y i := le_hop_recv ..

/-- an access of thread `t` to `_next` of node `y`: metadata `f'`, race bit `r` -/
theorem mono_nxt (s : St) (t y : Nat) (f' : FT) (r : Bool) (hr : (s.nxt y).le (s.clk t) → r = false)
    (hf : (s.nxt y).le (s.clk t) → f'.le (s.clk t)) :
    Mono t (· = y) s { s with nxt := Clock.upd s.nxt y f', raced := s.raced || r } :=
  ⟨rfl, fun h _ => by simp [hr (h y rfl).1], fun _ => rfl, fun _ _ => Nat.le_refl _, fun _ => Nat.le_refl _,
    fun x hx => ⟨Clock.upd_other _ _ hx, rfl⟩,
    fun h x hx => by subst hx; exact ⟨by simpa using hf (h x rfl).1, (h x rfl).2⟩, id, fun _ h => h, fun _ h => h⟩

/-- … to its handle / resume function -/
theorem mono_hnd (s : St) (t y : Nat) (f' : FT) (r : Bool) (hr : (s.hnd y).le (s.clk t) → r = false)
    (hf : (s.hnd y).le (s.clk t) → f'.le (s.clk t)) :
    Mono t (· = y) s { s with hnd := Clock.upd s.hnd y f', raced := s.raced || r } :=
  ⟨rfl, fun h _ => by simp [hr (h y rfl).2], fun _ => rfl, fun _ _ => Nat.le_refl _, fun _ => Nat.le_refl _,
    fun x hx => ⟨rfl, Clock.upd_other _ _ hx⟩,
    fun h x hx => by subst hx; exact ⟨(h x rfl).1, by simpa using hf (h x rfl).2⟩, id, fun _ h => h, fun _ h => h⟩

theorem mono_nxtRead (s : St) (t y : Nat) : Mono t (· = y) s (hbNxtRead s t y) :=
  mono_nxt s t y _ _ (fun h => (norace_of_le h).2) (ChainClock.FT.le_read t)
theorem mono_nxtWrite (s : St) (t y : Nat) : Mono t (· = y) s (hbNxtWrite s t y) :=
  mono_nxt s t y _ _ (fun h => (norace_of_le h).1) (fun _ => ChainClock.FT.le_write _ _ t)
theorem mono_hndRead (s : St) (t y : Nat) : Mono t (· = y) s (hbHndRead s t y) :=
  mono_hnd s t y _ _ (fun h => (norace_of_le h).2) (ChainClock.FT.le_read t)
theorem mono_hndWrite (s : St) (t y : Nat) : Mono t (· = y) s (hbHndWrite s t y) :=
  mono_hnd s t y _ _ (fun h => (norace_of_le h).1) (fun _ => ChainClock.FT.le_write _ _ t)

/-- for the accesses of the collector's thread to `_cur_val`, the value, `_value_storage` -/
theorem mono_col {s s' : St} (hb : s'.base = s.base) (hk : s'.clk = s.clk) (hrs : s'.chainRs = s.chainRs) (hn : s'.nxt = s.nxt)
    (hh : s'.hnd = s.hnd) (hr : ColOk s → s'.raced = s.raced ∧ s'.racedV = s.racedV) (hc : ColOk s → ColOk s')
    (h1 : 1 ≤ s.clk 0 0 → 1 ≤ s.cur.wr.2 → 1 ≤ s'.cur.wr.2) (h2 : 1 ≤ s.clk 0 0 → 1 ≤ s.val.wr.2 → 1 ≤ s'.val.wr.2) :
    Mono 0 Y s s' :=
  ⟨hb, fun _ h => (hr h).1, fun h => (hr h).2, fun _ _ => by rw [hk]; exact Nat.le_refl _, fun _ => by rw [hrs]; exact Nat.le_refl _,
    fun _ _ => by rw [hn, hh]; exact ⟨rfl, rfl⟩, fun h x hx => hk ▸ (h x hx).congr (by rw [hn]) (by rw [hh]),
    hc, h1, h2⟩

theorem mono_curRead (s : St) : Mono 0 Y s (hbCurRead s 0) :=
  mono_col rfl rfl rfl rfl rfl (fun h => by simp [hbCurRead, (norace_of_own h.1).2])
    (fun h => ⟨ChainClock.FT.own_read h.1, h.2.1, h.2.2⟩) (fun _ h => h) (fun _ h => h)

theorem mono_valRead (s : St) : Mono 0 Y s (hbValRead s 0) :=
  mono_col rfl rfl rfl rfl rfl (fun h => by simp [hbValRead, (norace_of_own h.2.1).2])
    (fun h => ⟨h.1, ChainClock.FT.own_read h.2.1, h.2.2⟩) (fun _ h => h) (fun _ h => h)

theorem mono_curWrite (s : St) : Mono 0 Y s (hbCurWrite s 0) :=
  mono_col rfl rfl rfl rfl rfl (fun h => by simp [hbCurWrite, (norace_of_own h.1).1])
    (fun h => ⟨ChainClock.FT.own_write s.cur 0 (s.clk 0), h.2.1, h.2.2⟩) (fun hp _ => hp) (fun _ h => h)

theorem mono_valWrite (s : St) : Mono 0 Y s (hbValWrite s 0) :=
  mono_col rfl rfl rfl rfl rfl (fun h => by simp [hbValWrite, (norace_of_own h.2.1).1])
    (fun h => ⟨h.1, ChainClock.FT.own_write s.val 0 (s.clk 0), h.2.2⟩) (fun _ h => h) (fun hp _ => hp)

theorem mono_storWrite (s : St) : Mono 0 Y s (hbStorWrite s 0) :=
  mono_col rfl rfl rfl rfl rfl (fun h => by simp [hbStorWrite, (norace_of_own h.2.2).1])
    (fun h => ⟨h.1, h.2.1, ChainClock.FT.own_write s.stor 0 (s.clk 0)⟩) (fun _ h => h) (fun _ h => h)

theorem mono_nodeInit (s : St) (t y : Nat) : Mono t (· = y) s (hbNodeInit s t y) :=
  (mono_nxtWrite s t y).trans (mono_hndWrite _ t y)

theorem mono_walkNode (s : St) (t y : Nat) : Mono t (· = y) s (hbWalkNode s t y) :=
  ((mono_nxtRead s t y).trans (mono_nxtWrite _ t y)).trans (mono_hndRead _ t y)

theorem mono_resume (s : St) : Mono 0 Y s (hbResume s 0) := by
  unfold hbResume
  split
  · exact (mono_curRead s).trans (mono_valRead _)
  · exact Mono.refl 0 Y s

theorem mono_try (o : SignalOrders) (s : St) (t y ch : Nat) : Mono t (· = y) s (hbTry o s t y ch) := by
  unfold hbTry
  split
  · exact (mono_nxtRead s t y).trans (mono_casOk o _ t)
  · exact ((mono_nxtRead s t y).trans (mono_casFail o _ t)).trans (mono_nxtWrite _ t y)

theorem try_pub (o : SignalOrders) (ho : o.casSucc.isRel = true) (s : St) (t y : Nat) (h : NodeLe s y (s.clk t)) :
    NodeLe (hbTry o s t y 0) y (hbTry o s t y 0).chainRs := by
  have h1 : NodeLe (hbCasOk o (hbNxtRead s t y) t) y ((hbNxtRead s t y).clk t) := (mono_nxtRead s t y).node h.has y rfl
  simp only [hbTry, if_pos]
  exact h1.mono (casOk_pub o ho _ t)

/-- the pcs at which an emitter's node is with the emitter's own thread -/
def EPc.isPriv : EPc → Bool
  | EPc.idle | EPc.cas => true
  | _ => false

theorem EPc.isPriv_iff {p : EPc} : p.isPriv = true ↔ p = EPc.idle ∨ p = EPc.cas := by cases p <;> decide

/-- chain and held nodes are duplicate free and disjoint, and a node is there only while its emitter is `sub`: a fact about the base
system alone.  The third owner of a node, its emitter's own thread (`EPc.isPriv`), does not occur on the left: it is encoded by the
right-hand side, which is 0 unless `epc x = sub`. -/
def Cnt (b : Base) : Prop := ∀ x, b.chain.count x + (held b.cpc).count x ≤ if b.epc x = EPc.sub then 1 else 0

/-- Ownership of every plain location.  `_cur_val`, the value and `_value_storage` belong to thread 0 (`col`; a real write once a call is
under way: `real`), whatever the orders are (`nv`).  Under sufficient orders (the guard of the last four clauses) a node is owned by its
emitter's own thread while the emitter is `idle` or `cas` (`EPc.isPriv`; `nodeP`), by the chain while it is in the chain — every epoch below the
release-sequence clock an acquiring exchange obtains (`nodeC`) —, by thread 0 while the walker / the suspend point / a listener running
inside the call holds it (`nodeH`); by `Cnt` the three owners exclude one another (`held_facts`, `not_mem_of_priv`). -/
structure Inv (o : SignalOrders) (s : St) : Prop where
  nv : s.racedV = false
  col : ColOk s
  pos : 1 ≤ s.clk 0 0
  real : s.base.cpc ≠ CPc.idle → 1 ≤ s.cur.wr.2 ∧ (s.base.alive = true → 1 ≤ s.val.wr.2)
  nr : o.sufficient = true → s.raced = false
  nodeC : o.sufficient = true → ∀ x ∈ s.base.chain, NodeLe s x s.chainRs
  nodeH : o.sufficient = true → ∀ x ∈ held s.base.cpc, NodeLe s x (s.clk 0)
  nodeP : o.sufficient = true → ∀ x, (s.base.epc x).isPriv = true → NodeLe s x (s.clk x)

variable {o : SignalOrders}

theorem inv_init : Inv o init := by
  refine ⟨rfl, ?_, ?_, ?_, fun _ => rfl, ?_, ?_, ?_⟩ <;>
    simp [init, Base.init, ColOk, NodeLe, ChainClock.FT.own, ChainClock.FT.le, ChainClock.FT.init, held, Clock.VC.init, Clock.upd_apply]

theorem orders_of_sufficient (hs : o.sufficient = true) : o.casSucc.isRel = true ∧ o.xchg.isAcq = true := by
  simpa [SignalOrders.sufficient] using hs

theorem inv_frame {s s' : St} (h : Inv o s) (m : Mono t Y s s') (b' : Base)
    (hn : o.sufficient = true → Has s t Y)
    (hC : o.sufficient = true → ∀ x ∈ b'.chain, (¬ Y x ∧ x ∈ s.base.chain) ∨ NodeLe s' x s'.chainRs)
    (hH : o.sufficient = true → ∀ x ∈ held b'.cpc, (¬ Y x ∧ x ∈ held s.base.cpc) ∨ NodeLe s' x (s'.clk 0))
    (hP : o.sufficient = true → ∀ x, (b'.epc x).isPriv = true →
      (¬ Y x ∧ (s.base.epc x).isPriv = true) ∨ NodeLe s' x (s'.clk x))
    (hreal : b'.cpc ≠ CPc.idle → (s.base.cpc ≠ CPc.idle ∧ (b'.alive = true → s.base.alive = true)) ∨
      (1 ≤ s'.cur.wr.2 ∧ (b'.alive = true → 1 ≤ s'.val.wr.2))) :
    Inv o (setBase s' b') := by
  refine ⟨(m.racedV h.col).trans h.nv, m.col h.col, Nat.le_trans h.pos (m.clk 0 0), fun hne => ?_,
    fun hs => (m.raced (hn hs) h.col).trans (h.nr hs), fun hs x hx => ?_, fun hs x hx => ?_, fun hs x hx => ?_⟩
  · rcases hreal hne with ⟨h1, h2⟩ | h1
    · exact ⟨m.realC h.pos (h.real h1).1, fun ha => m.realV h.pos ((h.real h1).2 (h2 ha))⟩
    · exact h1
  · rcases hC hs x hx with ⟨h1, h2⟩ | h1
    · exact m.keep h1 (h.nodeC hs x h2) m.rs
    · exact h1
  · rcases hH hs x hx with ⟨h1, h2⟩ | h1
    · exact m.keep h1 (h.nodeH hs x h2) (m.clk 0)
    · exact h1
  · rcases hP hs x hx with ⟨h1, h2⟩ | h1
    · exact m.keep h1 (h.nodeP hs x h2) (m.clk x)
    · exact h1

theorem not_mem_of_priv {b : Base} (hc : Cnt b) {x : Nat} (hp : (b.epc x).isPriv = true) :
    x ∉ b.chain ∧ x ∉ held b.cpc := by
  have hx := hc x
  have hns : ¬ b.epc x = EPc.sub := fun e => by rw [e] at hp; cases hp
  rw [if_neg hns] at hx
  exact ⟨List.count_eq_zero.mp (by omega), List.count_eq_zero.mp (by omega)⟩

theorem held_facts {b : Base} (hc : Cnt b) {y : Nat} (hy : y ∈ held b.cpc) :
    b.epc y = EPc.sub ∧ y ∉ b.chain ∧ (held b.cpc).count y = 1 := by
  have := hc y
  have h2 := List.count_pos_iff.mpr hy
  split at this
  · exact ⟨‹_›, List.count_eq_zero.mp (by omega), by omega⟩
  · omega

theorem held_cons {b : Base} (hc : Cnt b) {y : Nat} {r : List Nat} (hq : held b.cpc = y :: r) :
    y ∈ held b.cpc ∧ y ∉ r ∧ ∀ z ∈ r, z ∈ held b.cpc := by
  have hy : y ∈ held b.cpc := by rw [hq]; simp
  have h1 := (held_facts hc hy).2.2
  rw [hq] at h1 ⊢
  exact ⟨by simp, List.count_eq_zero.mp (by simpa using h1), fun z hz => by simp [hz]⟩

theorem held_ne_idle {b : Base} {y : Nat} (hy : y ∈ held b.cpc) : b.cpc ≠ CPc.idle :=
  fun e => by rw [e] at hy; cases hy

/-- `inv_frame` for a step that touches node `y` only and leaves a call under way: every other node stays with its owner, `hy`
says that `y` is covered by the clock of its new owner -/
theorem inv_move {s s' : St} {y : Nat} (h : Inv o s) (m : Mono t (· = y) s s') (b' : Base)
    (hn : o.sufficient = true → NodeLe s y (s.clk t))
    (hC : ∀ z ∈ b'.chain, z ≠ y → z ∈ s.base.chain)
    (hH : ∀ z ∈ held b'.cpc, z ≠ y → z ∈ held s.base.cpc)
    (hP : ∀ z, (b'.epc z).isPriv = true → z ≠ y → (s.base.epc z).isPriv = true)
    (hy : o.sufficient = true → (y ∈ b'.chain → NodeLe s' y s'.chainRs) ∧ (y ∈ held b'.cpc → NodeLe s' y (s'.clk 0)) ∧
      ((b'.epc y).isPriv = true → NodeLe s' y (s'.clk y)))
    (hne : b'.cpc ≠ CPc.idle → s.base.cpc ≠ CPc.idle) (hal : b'.alive = s.base.alive) : Inv o (setBase s' b') := by
  refine inv_frame h m b' (fun hs => (hn hs).has) (fun hs z hz => ?_) (fun hs z hz => ?_) (fun hs z hz => ?_)
    (fun h1 => Or.inl ⟨hne h1, by rw [hal]; exact id⟩) <;> by_cases hzy : z = y
  · subst hzy; exact Or.inr ((hy hs).1 hz)
  · exact Or.inl ⟨hzy, hC z hz hzy⟩
  · subst hzy; exact Or.inr ((hy hs).2.1 hz)
  · exact Or.inl ⟨hzy, hH z hz hzy⟩
  · subst hzy; exact Or.inr ((hy hs).2.2 hz)
  · exact Or.inl ⟨hzy, hP z hz hzy⟩

/-- an emitter on its own thread publishes its node -/
theorem inv_own_push {s s' : St} {x : Nat} (h : Inv o s) (hc : Cnt s.base) (m : Mono x (· = x) s s') (b' : Base)
    (hpriv : (s.base.epc x).isPriv = true)
    (hchain : b'.chain = x :: s.base.chain) (hepc : b'.epc = Clock.upd s.base.epc x EPc.sub)
    (hcpc : b'.cpc = s.base.cpc) (hal : b'.alive = s.base.alive)
    (hpub : o.sufficient = true → NodeLe s' x s'.chainRs) : Inv o (setBase s' b') ∧ Cnt b' := by
  obtain ⟨hx1, hx2⟩ := not_mem_of_priv hc hpriv
  refine ⟨inv_move h m b' (fun hs => h.nodeP hs x hpriv) (fun z hz hzx => ?_) (fun z hz _ => hcpc ▸ hz) (fun z hz hzx => ?_)
    (fun hs => ⟨fun _ => hpub hs, fun hz => absurd (hcpc ▸ hz) hx2, fun hz => ?_⟩) (hcpc ▸ id) hal,
    fun z => ?_⟩
  · rw [hchain] at hz; simpa [hzx] using hz
  · rw [hepc, Clock.upd_apply] at hz; simpa [hzx] using hz
  · rw [hepc, Clock.upd_same] at hz; cases hz
  · have := hc z
    simp only [hchain, hepc, hcpc, List.count_cons, Clock.upd_apply] at this ⊢
    grind

/-- an emitter on its own thread changes its pc without subscribing (failed try, state gone) -/
theorem inv_own_stay {s s' : St} {x : Nat} (h : Inv o s) (hc : Cnt s.base) (m : Mono x (· = x) s s') (b' : Base) (p : EPc)
    (hpriv : (s.base.epc x).isPriv = true)
    (hchain : b'.chain = s.base.chain) (hepc : b'.epc = Clock.upd s.base.epc x p)
    (hcpc : b'.cpc = s.base.cpc) (hal : b'.alive = s.base.alive) : Inv o (setBase s' b') ∧ Cnt b' := by
  obtain ⟨hx1, hx2⟩ := not_mem_of_priv hc hpriv
  refine ⟨inv_move h m b' (fun hs => h.nodeP hs x hpriv) (fun z hz _ => hchain ▸ hz) (fun z hz _ => hcpc ▸ hz)
    (fun z hz hzx => ?_) (fun hs => ⟨fun hz => absurd (hchain ▸ hz) hx1, fun hz => absurd (hcpc ▸ hz) hx2,
      fun _ => m.node (h.nodeP hs x hpriv).has x rfl⟩) (hcpc ▸ id) hal, fun z => ?_⟩
  · rw [hepc, Clock.upd_apply] at hz; simpa [hzx] using hz
  · have := hc z
    simp only [hchain, hepc, hcpc, Clock.upd_apply] at this ⊢
    grind

/-- a listener running on the collector's thread re-subscribes: `y` goes from the held nodes into the chain; `p'` is the collector's
next pc, which holds what it held but `y` -/
theorem inv_held_push {s s' : St} {y : Nat} (h : Inv o s) (hc : Cnt s.base) (m : Mono 0 (· = y) s s') (b' : Base) (p' : CPc)
    (hq : held s.base.cpc = y :: held p')
    (hchain : b'.chain = y :: s.base.chain) (hepc : b'.epc = Clock.upd s.base.epc y EPc.sub)
    (hcpc : b'.cpc = p') (hal : b'.alive = s.base.alive)
    (hpub : o.sufficient = true → NodeLe s' y s'.chainRs) : Inv o (setBase s' b') ∧ Cnt b' := by
  obtain ⟨hy, hy', hsub⟩ := held_cons hc hq
  refine ⟨inv_move h m b' (fun hs => h.nodeH hs y hy) (fun z hz hzy => ?_) (fun z hz _ => hsub z (hcpc ▸ hz))
    (fun z hz hzy => ?_) (fun hs => ⟨fun _ => hpub hs, fun hz => absurd (hcpc ▸ hz) hy', fun hz => ?_⟩) (fun _ => held_ne_idle hy) hal,
    fun z => ?_⟩
  · rw [hchain] at hz; simpa [hzy] using hz
  · rw [hepc, Clock.upd_apply] at hz; simpa [hzy] using hz
  · rw [hepc, Clock.upd_same] at hz; cases hz
  · have := hc z
    simp only [hchain, hepc, hcpc, hq, List.count_cons, Clock.upd_apply] at this ⊢
    grind

/-- the collector's thread goes on holding `y` (handle moved into the suspend point, failed try) -/
theorem inv_held_keep {s s' : St} {y : Nat} (h : Inv o s) (hc : Cnt s.base) (m : Mono 0 (· = y) s s') (b' : Base) (p' : CPc)
    (hy : y ∈ held s.base.cpc) (hq : ∀ z, (held p').count z = (held s.base.cpc).count z)
    (hchain : b'.chain = s.base.chain) (hepc : b'.epc = s.base.epc)
    (hcpc : b'.cpc = p') (hal : b'.alive = s.base.alive) : Inv o (setBase s' b') ∧ Cnt b' := by
  obtain ⟨hs1, hs2, _⟩ := held_facts hc hy
  have hsub : ∀ z ∈ held p', z ∈ held s.base.cpc := fun z hz => List.count_pos_iff.1 (hq z ▸ List.count_pos_iff.2 hz)
  refine ⟨inv_move h m b' (fun hs => h.nodeH hs y hy) (fun z hz _ => hchain ▸ hz) (fun z hz _ => hsub z (hcpc ▸ hz))
    (fun z hz _ => hepc ▸ hz) (fun hs => ⟨fun hz => absurd (hchain ▸ hz) hs2, fun _ => m.node (h.nodeH hs y hy).has y rfl,
      fun hz => ?_⟩) (fun _ => held_ne_idle hy) hal, fun z => by rw [hchain, hepc, hcpc, hq]; exact hc z⟩
  rw [hepc, hs1] at hz; cases hz

/-- the collector's thread lets go of `y`: the listener ends (`p = done`) or leaves for its own thread (`p = idle`, after a hand-over) -/
theorem inv_held_drop {s s' : St} {y : Nat} (h : Inv o s) (hc : Cnt s.base) (m : Mono 0 (· = y) s s') (b' : Base) (p' : CPc) (p : EPc)
    (hq : held s.base.cpc = y :: held p')
    (hchain : b'.chain = s.base.chain) (hepc : b'.epc = Clock.upd s.base.epc y p)
    (hcpc : b'.cpc = p') (hal : b'.alive = s.base.alive)
    (hown : o.sufficient = true → p.isPriv = true → NodeLe s' y (s'.clk y)) : Inv o (setBase s' b') ∧ Cnt b' := by
  obtain ⟨hy, hy', hsub⟩ := held_cons hc hq
  refine ⟨inv_move h m b' (fun hs => h.nodeH hs y hy) (fun z hz _ => hchain ▸ hz) (fun z hz _ => hsub z (hcpc ▸ hz))
    (fun z hz hzy => ?_) (fun hs => ⟨fun hz => absurd (hchain ▸ hz) (held_facts hc hy).2.1, fun hz => absurd (hcpc ▸ hz) hy',
      fun hz => ?_⟩) (fun _ => held_ne_idle hy) hal, fun z => ?_⟩
  · rw [hepc, Clock.upd_apply] at hz; simpa [hzy] using hz
  · rw [hepc, Clock.upd_same] at hz; exact hown hs hz
  · have := hc z
    simp only [hchain, hepc, hcpc, hq, List.count_cons, Clock.upd_apply] at this ⊢
    grind

/-- a step of the collector's thread that touches no node (the call's prologue and exchange, the end of the call / of `~state`) -/
theorem inv_nonode {s s' : St} (h : Inv o s) (hc : Cnt s.base) (m : Mono 0 (fun _ => False) s s') (b' : Base)
    (hC : ∀ x ∈ b'.chain, x ∈ s.base.chain)
    (hH : o.sufficient = true →
      ∀ x ∈ held b'.cpc, x ∈ held s.base.cpc ∨ (x ∈ s.base.chain ∧ ∀ i, s.chainRs i ≤ s'.clk 0 i))
    (hepc : b'.epc = s.base.epc)
    (hcnt : ∀ z, b'.chain.count z + (held b'.cpc).count z ≤ s.base.chain.count z + (held s.base.cpc).count z)
    (hreal : b'.cpc ≠ CPc.idle → (s.base.cpc ≠ CPc.idle ∧ (b'.alive = true → s.base.alive = true)) ∨
      (1 ≤ s'.cur.wr.2 ∧ (b'.alive = true → 1 ≤ s'.val.wr.2))) :
    Inv o (setBase s' b') ∧ Cnt b' := by
  refine ⟨inv_frame h m b' (fun _ _ e => e.elim) (fun _ z hz => Or.inl ⟨id, hC z hz⟩) (fun hs z hz => ?_)
    (fun _ z hz => Or.inl ⟨id, hepc ▸ hz⟩) hreal, fun z => by rw [hepc]; exact Nat.le_trans (hcnt z) (hc z)⟩
  rcases hH hs z hz with h1 | ⟨h1, h2⟩
  · exact Or.inl ⟨id, h1⟩
  · exact Or.inr (m.keep id (h.nodeC hs z h1) h2)

theorem inv_emitter (o : SignalOrders) {s : St} (h : Inv o s) (hc : Cnt s.base) (x ch : Nat) :
    Inv o (setBase (hEmitter o s x ch) (bEmitter s.base x ch)) ∧ Cnt (bEmitter s.base x ch) := by
  unfold hEmitter bEmitter
  cases hq : s.base.epc x <;> simp only []
  · -- idle
    have hpriv : (s.base.epc x).isPriv = true := hq ▸ rfl
    by_cases hal : s.base.alive = true
    · simp only [hal, if_true]
      have m1 := mono_nodeInit s x x
      have m := m1.trans (mono_try o _ x x ch)
      by_cases hch : ch = 0
      · subst hch
        simp only [if_true]
        exact inv_own_push h hc m _ hpriv rfl rfl rfl rfl
          (fun hs => try_pub o (orders_of_sufficient hs).1 _ x x (m1.node (h.nodeP hs x hpriv).has x rfl))
      · simp only [if_neg hch]
        exact inv_own_stay h hc m _ EPc.cas hpriv rfl rfl rfl rfl
    · simp only [hal]
      exact inv_own_stay h hc (Mono.refl x _ s) _ EPc.done hpriv rfl rfl rfl rfl
  · -- cas
    have hpriv : (s.base.epc x).isPriv = true := hq ▸ rfl
    have m := mono_try o s x x ch
    by_cases hch : ch = 0
    · subst hch
      simp only [if_true]
      exact inv_own_push h hc m _ hpriv rfl rfl rfl rfl (fun hs => try_pub o (orders_of_sufficient hs).1 s x x (h.nodeP hs x hpriv))
    · simp only [if_neg hch]
      have : s.base.epc = Clock.upd s.base.epc x EPc.cas := by
        funext z; rw [Clock.upd_apply]; split
        · subst_vars; exact hq
        · rfl
      exact inv_own_stay h hc m _ EPc.cas hpriv rfl this rfl rfl
  · exact ⟨h, hc⟩
  · exact ⟨h, hc⟩

theorem inv_collector (o : SignalOrders) (c : Cfg) {s : St} (h : Inv o s) (hc : Cnt s.base) (ch : Nat) :
    Inv o (setBase (hCollector o c s ch) (bCollector c s.base ch)) ∧ Cnt (bCollector c s.base ch) := by
  unfold hCollector bCollector
  cases hq : s.base.cpc with
  | idle =>
    simp only []
    -- the exchange hands the detached chain to the collector's thread
    have hH : ∀ (s1 : St), s1.chainRs = s.chainRs → o.sufficient = true → ∀ x ∈ held (CPc.walk s.base.chain []),
        x ∈ held s.base.cpc ∨ (x ∈ s.base.chain ∧ ∀ i, s.chainRs i ≤ (hbXchg o s1 0).clk 0 i) :=
      fun s1 e hs x hx => Or.inr ⟨by simpa [held] using hx, e ▸ xchg_acq o (orders_of_sufficient hs).2 s1 0⟩
    by_cases h0 : ch = 0
    · subst h0
      simp only [if_true, Nat.zero_le]
      exact inv_nonode h hc ((((mono_storWrite s).trans (mono_valWrite _)).trans (mono_curWrite _)).trans (mono_xchg o _ 0)) _
        (fun _ hx => nomatch hx) (hH _ rfl) rfl (fun z => by simp [held, hq]) (fun _ => Or.inr ⟨h.pos, fun _ => h.pos⟩)
    · by_cases h1 : ch = 1
      · subst h1
        simp only [if_true, Nat.le_refl, if_neg h0]
        exact inv_nonode h hc (((mono_valWrite s).trans (mono_curWrite _)).trans (mono_xchg o _ 0)) _
          (fun _ hx => nomatch hx) (hH _ rfl) rfl (fun z => by simp [held, hq]) (fun _ => Or.inr ⟨h.pos, fun _ => h.pos⟩)
      · have h2 : ¬ ch ≤ 1 := by omega
        simp only [if_neg h0, if_neg h1, if_neg h2]
        by_cases hl : s.base.locked = 0
        · simp only [hl, if_true]
          exact inv_nonode h hc ((mono_curWrite s).trans (mono_xchg o _ 0)) _
            (fun _ hx => nomatch hx) (hH _ rfl) rfl (fun z => by simp [held, hq]) (fun _ => Or.inr ⟨h.pos, fun hx => by cases hx⟩)
        · simp only [if_neg hl]; exact ⟨h, hc⟩
  | dead => exact ⟨h, hc⟩
  | cas y l ret =>
    simp only []
    have hq' : held s.base.cpc = y :: held (CPc.walk l ret) := by rw [hq]; rfl
    have hy := (held_cons hc hq').1
    have m := mono_try o s 0 y ch
    by_cases h0 : ch = 0
    · subst h0
      simp only [if_true]
      exact inv_held_push h hc m _ (CPc.walk l ret) hq' rfl rfl rfl rfl
        (fun hs => try_pub o (orders_of_sufficient hs).1 s 0 y (h.nodeH hs y hy))
    · simp only [if_neg h0]
      exact inv_held_keep h hc m _ (CPc.cas y l ret) hy (fun _ => by rw [hq]) rfl rfl hq rfl
  | walk l ret =>
    cases l with
    | cons y l =>
      simp only []
      have hq' : held s.base.cpc = y :: held (CPc.walk l ret) := by rw [hq]; rfl
      have hy := (held_cons hc hq').1
      have m1 := mono_walkNode s 0 y
      by_cases hcb : c.cb y = true
      · simp only [hcb, if_true]
        by_cases hal : s.base.alive = true
        · simp only [hal, if_true]
          have m2 := m1.trans (mono_resume _)
          by_cases h0 : ch = 0
          · subst h0
            simp only [if_true, Nat.zero_le]
            exact inv_held_push h hc (m2.trans (mono_try o _ 0 y 0)) _ (CPc.walk l ret) hq' rfl rfl rfl rfl
              (fun hs => try_pub o (orders_of_sufficient hs).1 _ 0 y (m2.node (h.nodeH hs y hy).has y rfl))
          · by_cases h1 : ch = 1
            · subst h1
              simp only [if_true, Nat.le_refl, if_neg h0]
              exact inv_held_keep h hc (m2.trans (mono_try o _ 0 y 1)) _ (CPc.cas y l ret) hy
                (fun _ => by rw [hq]; rfl) rfl rfl rfl rfl
            · have h2 : ¬ ch ≤ 1 := by omega
              simp only [if_neg h0, if_neg h1, if_neg h2]
              exact inv_held_drop h hc (m2.trans (mono_nodeInit _ 0 y)) _ (CPc.walk l ret) EPc.done hq'
                rfl rfl rfl rfl nofun
        · simp only [hal]
          exact inv_held_drop h hc (m1.trans (mono_nodeInit _ 0 y)) _ (CPc.walk l ret) EPc.done hq'
            rfl rfl rfl rfl nofun
      · simp only [hcb]
        refine inv_held_keep h hc m1 _ (CPc.walk l (ret ++ [y])) hy (fun z => ?_) rfl rfl rfl rfl
        rw [hq]; simp only [held, List.count_append, List.count_cons, List.count_nil]; omega
    | nil =>
      cases ret with
      | nil =>
        simp only []
        have hne : s.base.cpc ≠ CPc.idle := by rw [hq]; simp
        have hH : ∀ (p : CPc) (s' : St), held p = [] → o.sufficient = true → ∀ x ∈ held (setCpc s.base p).cpc,
            x ∈ held s.base.cpc ∨ (x ∈ s.base.chain ∧ ∀ i, s.chainRs i ≤ s'.clk 0 i) := by
          intro p s' hp _ x hx
          simp only [setCpc, hp] at hx; cases hx
        by_cases hal : s.base.alive = true
        · simp only [hal, if_true]
          exact inv_nonode h hc (Mono.refl 0 _ s) _ (fun _ hx => hx) (hH _ _ rfl) rfl (fun z => by simp [setCpc, held])
            (fun _ => Or.inl ⟨hne, fun hx => hx⟩)
        · simp only [hal]
          exact inv_nonode h hc (mono_storWrite s) _ (fun _ hx => hx) (hH _ _ rfl) rfl (fun z => by simp [setCpc, held])
            (fun _ => Or.inl ⟨hne, fun hx => hx⟩)
      | cons y ret =>
        simp only []
        have hq' : held s.base.cpc = y :: held (CPc.walk [] ret) := by rw [hq]; rfl
        have hy := (held_cons hc hq').1
        -- the coroutine that leaves takes the collector's clock with it
        have hgo : ∀ s1 : St, Mono 0 (· = y) s s1 → o.sufficient = true → NodeLe (hbHand s1 0 y) y ((hbHand s1 0 y).clk y) :=
          fun s1 m hs => NodeLe.mono (s := hbHand s1 0 y) (m.node (h.nodeH hs y hy).has y rfl) (hand_le s1 0 y)
        by_cases hal : s.base.alive = true
        · simp only [hal, if_true]
          have m2 : Mono 0 (· = y) s (hbResume s 0) := mono_resume s
          by_cases h0 : ch = 0
          · subst h0
            simp only [if_true, Nat.zero_le]
            have m3 := m2.trans (mono_hndWrite _ 0 y)
            exact inv_held_push h hc (m3.trans (mono_try o _ 0 y 0)) _ (CPc.walk [] ret) hq' rfl rfl rfl rfl
              (fun hs => try_pub o (orders_of_sufficient hs).1 _ 0 y (m3.node (h.nodeH hs y hy).has y rfl))
          · by_cases h1 : ch = 1
            · subst h1
              simp only [if_true, Nat.le_refl, if_neg h0]
              exact inv_held_keep h hc ((m2.trans (mono_hndWrite _ 0 y)).trans (mono_try o _ 0 y 1)) _ (CPc.cas y [] ret) hy
                (fun _ => by rw [hq]; rfl) rfl rfl rfl rfl
            · have h2 : ¬ ch ≤ 1 := by omega
              by_cases h3 : ch = 2
              · subst h3
                simp only [if_neg h0, if_neg h1, if_neg h2, if_true]
                exact inv_held_drop h hc (m2.trans (mono_hand _ 0 y)) _ (CPc.walk [] ret) EPc.idle hq' rfl rfl rfl rfl
                  (fun hs _ => hgo _ m2 hs)
              · simp only [if_neg h0, if_neg h1, if_neg h2, if_neg h3]
                exact inv_held_drop h hc (m2.trans (mono_nodeInit _ 0 y)) _ (CPc.walk [] ret) EPc.done hq'
                  rfl rfl rfl rfl nofun
        · simp only [hal]
          by_cases h3 : ch = 2
          · subst h3
            simp only [if_true]
            exact inv_held_drop h hc (mono_hand s 0 y) _ (CPc.walk [] ret) EPc.idle hq' rfl rfl rfl rfl
              (fun hs _ => hgo _ (Mono.refl 0 _ s) hs)
          · simp only [if_neg h3]
            exact inv_held_drop h hc (mono_nodeInit s 0 y) _ (CPc.walk [] ret) EPc.done hq'
              rfl rfl rfl rfl nofun

theorem inv_step (o : SignalOrders) (c : Cfg) {s : St} (h : Inv o s) (hc : Cnt s.base) (e : Nat × Nat) :
    Inv o (step o c s e) ∧ Cnt (step o c s e).base := by
  unfold step hstep bstep
  split
  · exact inv_collector o c h hc e.2
  · exact inv_emitter o h hc e.1 e.2

theorem inv_run (o : SignalOrders) (c : Cfg) (sched : List (Nat × Nat)) : Inv o (run o c sched) ∧ Cnt (run o c sched).base :=
  List.foldlRecOn (motive := fun s => Inv o s ∧ Cnt s.base) sched (step o c)
    ⟨inv_init, fun x => by simp [init, Base.init, held]⟩ (fun _ h e _ => inv_step o c h.1 h.2 e)

end

/-- With a releasing subscribe CAS and an acquiring `resume_chain` exchange no plain access of the signal protocol races:
`_cur_val`, `_value_storage`, the emitted value, every awaiter node's `_next` and handle / resume function — for every assignment of
flavours (coroutine / callback) to any number of emitters, any number of collector calls of either kind followed (or not) by the
destruction of the state, late subscribers, failed CAS tries, listeners that re-await at once, leave for another thread and come back, or
end, under every schedule. -/
theorem signal_race_free (o : SignalOrders) (hs : o.sufficient = true) :
    ∀ (c : Cfg) (sched : List (Nat × Nat)), (run o c sched).raced = false :=
  fun c sched => (inv_run o c sched).1.nr hs

/-- Whoever reads `_cur_val` / the value is thread 0 and has the collector's write in its clock: while a call is under way (the walk, the
flush, a retried subscribe of a resumed listener) and the state is alive, the last write of `_cur_val` and of the value is a real
epoch (`≥ 1`) of thread 0 within thread 0's clock, and every read epoch recorded since is thread 0's. -/
theorem signal_waiter_sees_value (o : SignalOrders) (c : Cfg) (sched : List (Nat × Nat))
    (hp : (run o c sched).base.cpc ≠ CPc.idle) (hal : (run o c sched).base.alive = true) :
    ((run o c sched).cur.wr.1 = 0 ∧ 1 ≤ (run o c sched).cur.wr.2 ∧ (run o c sched).cur.wr.2 ≤ (run o c sched).clk 0 0)
    ∧ ((run o c sched).val.wr.1 = 0 ∧ 1 ≤ (run o c sched).val.wr.2 ∧ (run o c sched).val.wr.2 ≤ (run o c sched).clk 0 0)
    ∧ (∀ e ∈ (run o c sched).cur.rd ++ (run o c sched).val.rd, e.2 = 0 ∨ (e.1 = 0 ∧ e.2 ≤ (run o c sched).clk 0 0)) := by
  have h := (inv_run o c sched).1
  obtain ⟨r1, r2⟩ := h.real hp
  have r2 := r2 hal
  obtain ⟨⟨c1, c2⟩, ⟨v1, v2⟩, _⟩ := h.col
  refine ⟨?_, ?_, ?_⟩
  · rcases c1 with c1 | c1
    · omega
    · exact ⟨c1.1, r1, c1.2⟩
  · rcases v1 with v1 | v1
    · omega
    · exact ⟨v1.1, r2, v1.2⟩
  · intro e he
    rcases List.mem_append.mp he with he | he
    · exact c2 e he
    · exact v2 e he

theorem signal_value_thread0 (o : SignalOrders) (hs : o.sufficient = true) (c : Cfg) (sched : List (Nat × Nat)) :
    (run o c sched).cur.own 0 ((run o c sched).clk 0 0) ∧ (run o c sched).val.own 0 ((run o c sched).clk 0 0)
      ∧ (run o c sched).stor.own 0 ((run o c sched).clk 0 0) := by
  have _ := hs
  exact (inv_run o c sched).1.col

/-- the walker (and a listener running inside the call) has every earlier access to a node it holds in its clock; a node in the chain
has all of them below the release-sequence clock of the chain head; an emitter that is not subscribed has them in its own clock -/
theorem signal_node_handed_over (o : SignalOrders) (hs : o.sufficient = true) (c : Cfg) (sched : List (Nat × Nat)) :
    (∀ y ∈ held (run o c sched).base.cpc, NodeLe (run o c sched) y ((run o c sched).clk 0))
    ∧ (∀ y ∈ (run o c sched).base.chain, NodeLe (run o c sched) y (run o c sched).chainRs)
    ∧ (∀ x, ((run o c sched).base.epc x = EPc.idle ∨ (run o c sched).base.epc x = EPc.cas) →
        NodeLe (run o c sched) x ((run o c sched).clk x)) :=
  ⟨(inv_run o c sched).1.nodeH hs, (inv_run o c sched).1.nodeC hs, fun x hx => (inv_run o c sched).1.nodeP hs x (EPc.isPriv_iff.2 hx)⟩

/-- `Cnt` along every run: a node is in the chain or held by the collector's thread at most once, and only while its emitter is
subscribed -/
theorem signal_chain_wellformed (o : SignalOrders) (hs : o.sufficient = true) (c : Cfg) (sched : List (Nat × Nat)) (x : Nat) :
    (run o c sched).base.chain.count x + (held (run o c sched).base.cpc).count x
      ≤ if (run o c sched).base.epc x = EPc.sub then 1 else 0 := by
  have _ := hs
  exact (inv_run o c sched).2 x

/-- Erasing the instrumentation (clocks, release-sequence clock, FastTrack metadata, `raced`) from a run gives the run of the
sequentially consistent base system `brun` on the same schedule: the happens-before state never influences the control flow. -/
theorem base_run (o : SignalOrders) (c : Cfg) (sched : List (Nat × Nat)) : (run o c sched).base = brun c sched :=
  (List.foldl_hom St.base (g₁ := step o c) (g₂ := bstep c) (fun _ _ => rfl)).symm

theorem bstep_chain (c : Cfg) (b : Base) (e : Nat × Nat) :
    (bstep c b e).chain = b.chain ∨ (∃ x, (bstep c b e).chain = x :: b.chain) ∨ (bstep c b e).chain = [] := by
  unfold bstep
  split
  case' isTrue => unfold bCollector
  case' isFalse => unfold bEmitter
  all_goals
    repeat' split
  all_goals first | exact Or.inl rfl | exact Or.inr (Or.inl ⟨_, rfl⟩) | exact Or.inr (Or.inr rfl)

/-- the chain component of a run of the base system is the chain of a run of `Signal.Pub` (the publication micro-model of `Signal.lean`)
over `cas` / `release` events only — the repaired code's events, no `post` -/
theorem base_refines_pub (c : Cfg) (sched : List (Nat × Nat)) :
    ∃ ops : List Signal.Pub.Op, (Signal.Pub.run ops).chain = (brun c sched).chain ∧ (∀ l, Signal.Pub.Op.post l ∉ ops) := by
  unfold brun Signal.Pub.run
  suffices ∀ (b : Base) (P : Signal.Pub.State), P.chain = b.chain →
      ∃ ops : List Signal.Pub.Op, (ops.foldl Signal.Pub.step P).chain = (sched.foldl (bstep c) b).chain ∧ (∀ l, Signal.Pub.Op.post l ∉ ops) from
    this Base.init {} rfl
  induction sched with
  | nil => intro b P h; exact ⟨[], h, fun _ => by simp⟩
  | cons e es ih =>
    intro b P h
    rcases bstep_chain c b e with h1 | ⟨x, h1⟩ | h1
    · obtain ⟨ops, h2, h3⟩ := ih (bstep c b e) P (by rw [h1]; exact h)
      exact ⟨ops, h2, h3⟩
    · obtain ⟨ops, h2, h3⟩ := ih (bstep c b e) (Signal.Pub.step P (Signal.Pub.Op.cas x)) (by simp [Signal.Pub.step, h, h1])
      exact ⟨Signal.Pub.Op.cas x :: ops, h2, fun l => by simp [h3 l]⟩
    · obtain ⟨ops, h2, h3⟩ := ih (bstep c b e) (Signal.Pub.step P Signal.Pub.Op.release) (by simp [Signal.Pub.step, h1])
      exact ⟨Signal.Pub.Op.release :: ops, h2, fun l => by simp [h3 l]⟩

/-- the orders of `awaiter::subscribe` / `awaiter::resume_chain` in `awaiter.h`, copied by hand for the witnesses below.  The obligation
on the source is `c03_signal_orders_current` (`Props/C03b.lean`) over the extracted table, which does not mention this constant. -/
def srcOrders : SignalOrders := { casSucc := Order.release, casFail := Order.relaxed, xchg := Order.acquire }

theorem srcOrders_sufficient : srcOrders.sufficient = true := by decide

def cfgMix : Cfg := ⟨fun x => x = 2 || x = 4⟩

/-- emitter 1 subscribes on its own thread; the collector emits and walks node 1 -/
def schedOne : List (Nat × Nat) := [(1, 0), (0, 0), (0, 0)]

/-- release → relaxed on the subscribe CAS: the walker's read of `_next` races with the emitter's initialisation of its node -/
theorem signal_needs_release_cas : (run { srcOrders with casSucc := Order.relaxed } cfgMix schedOne).raced = true := by decide
/-- acquire → relaxed on the `resume_chain` exchange: same race -/
theorem signal_needs_acquire_xchg : (run { srcOrders with xchg := Order.relaxed } cfgMix schedOne).raced = true := by decide
/-- … and under the source's orders the same schedule does not race; the CAS failure order is free -/
theorem signal_one_ok : (run srcOrders cfgMix schedOne).raced = false
    ∧ (run { srcOrders with casFail := Order.acquire } cfgMix schedOne).raced = false := by decide

theorem signal_orders_necessary (o : SignalOrders) (h : o.sufficient = false) :
    ∃ (c : Cfg) (sched : List (Nat × Nat)), (run o c sched).raced = true := by
  refine ⟨cfgMix, schedOne, ?_⟩
  obtain ⟨a, b, x⟩ := o
  -- no CAS try fails on `schedOne`: the run does not look at `b`
  cases a <;> cases x <;> first | (simp [SignalOrders.sufficient, Order.isRel, Order.isAcq] at h; done) | rfl

theorem signal_race_free_iff (o : SignalOrders) :
    (∀ (c : Cfg) (sched : List (Nat × Nat)), (run o c sched).raced = false) ↔ o.sufficient = true := by
  constructor
  · intro h
    cases hs : o.sufficient with
    | true => rfl
    | false => obtain ⟨c, sched, hx⟩ := signal_orders_necessary o hs; rw [h c sched] at hx; cases hx
  · exact signal_race_free o

/-- emitters 1, 3 (coroutines) and 2, 4 (callbacks) through two calls and `~state` -/
def schedMany : List (Nat × Nat) :=
  [(1, 0), (2, 1), (3, 0), (2, 0),            -- chain = [2, 3, 1]
   (0, 0),                                    -- call 1 by value: writes, exchange
   (0, 0),                                    -- walk 2 (callback): reads, re-subscribes
   (4, 0),                                    -- late subscriber
   (0, 0), (0, 0),                            -- walk 3, 1: handles into the suspend point
   (0, 1), (0, 0),                            -- flush 3: reads, CAS fails, retry succeeds
   (0, 2),                                    -- flush 1: reads, leaves the collector's thread
   (0, 0),                                    -- call returns
   (1, 0),                                    -- 1 subscribes again from its own thread
   (0, 1),                                    -- call 2 with an lvalue
   (0, 0), (0, 0), (0, 0), (0, 2),            -- walk 1, 3, 4 (reads, stays), 2 (reads, answers false)
   (0, 0), (0, 3),                            -- flush 1 (re-awaits), 3 (ends)
   (0, 0),                                    -- call returns
   (0, 2),                                    -- ~state
   (0, 0), (0, 0), (0, 0), (0, 0)]            -- walk 1, 4; flush 1; members destroyed

example : (run srcOrders cfgMix schedMany).raced = false
    ∧ (run srcOrders cfgMix schedMany).base.cpc = CPc.dead
    ∧ (run srcOrders cfgMix schedMany).base.emitted = 2
    ∧ (run srcOrders cfgMix schedMany).base.reads = [(3, 2), (1, 2), (2, 2), (4, 2), (1, 1), (3, 1), (2, 1)]
    ∧ [1, 2, 3, 4].map (run srcOrders cfgMix schedMany).base.epc = [EPc.done, EPc.done, EPc.done, EPc.done]
    ∧ (run srcOrders cfgMix schedMany).val.rd.length = 4 ∧ (run srcOrders cfgMix schedMany).val.wr.1 = 0
    ∧ ((run srcOrders cfgMix schedMany).nxt 1).wr.1 = 0 := by decide

/-- the same run with the subscribe CAS relaxed, and with the exchange relaxed, races -/
example : (run { srcOrders with casSucc := Order.relaxed } cfgMix schedMany).raced = true
    ∧ (run { srcOrders with xchg := Order.relaxed } cfgMix schedMany).raced = true := by decide

/-- `_cur_val`, `_value_storage` and the emitted value never race, whatever the order table (NO hypothesis on `o`; all three sites
relaxed included): these locations are accessed by the collector's thread alone (`Inv.col`), so program order is all there is to it.
The chain's orders are needed for the nodes only. -/
theorem signal_value_needs_no_order (o : SignalOrders) (c : Cfg) (sched : List (Nat × Nat)) : (run o c sched).racedV = false :=
  (inv_run o c sched).1.nv

/-- … in particular in the racing witnesses above the race is on a node, not on the value -/
example : (run { srcOrders with casSucc := Order.relaxed, xchg := Order.relaxed } cfgMix schedMany).raced = true
    ∧ (run { srcOrders with casSucc := Order.relaxed, xchg := Order.relaxed } cfgMix schedMany).racedV = false := by decide

end Cocls.SignalClock
