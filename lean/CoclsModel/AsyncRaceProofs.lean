import CoclsModel.AsyncRace
/-!
Invariant of the micro-step model of threads racing `start(promise)` / `p(...)` / `~promise` on one promise
(`AsyncRace.lean`), preserved under every schedule.  A step is a move of the thread's `pc` (`inv_setPc`) followed by at most
one change of the data; only `claim()` changes both at once.
-/
namespace Cocls.AsyncRace
open Cocls.Async (Outcome upd)

theorem upd_apply {α} (m : Nat → α) (i j : Nat) (v : α) : upd m i v j = if j = i then v else m j := rfl

def Pc.isWon : Pc → Bool
  | Pc.won | Pc.gate1 | Pc.gate2 | Pc.tail true => true
  | _ => false

structure Inv (c : Cfg) (s : State) : Prop where
  owner_free : s.owner = true → (∀ a, s.claimed a ≠ some true) ∧ s.fut = none
  unique : ∀ a b, s.claimed a = some true → s.claimed b = some true → a = b
  won_claimed : ∀ a, (s.pc a).isWon = true → s.claimed a = some true
  won_pending : ∀ a, s.pc a = Pc.won → s.fut = none
  loser_idle : ∀ a, s.claimed a ≠ some true → s.bodyStarts a = 0 ∧ s.argDtors a = 0 ∧ s.suspended a = false
  body_le : ∀ a, s.bodyStarts a ≤ 1 ∧ s.argDtors a ≤ 1
  body_zero : ∀ a, s.pc a = Pc.init ∨ s.pc a = Pc.won → s.bodyStarts a = 0
  argd_zero : ∀ a, s.pc a ≠ Pc.fin → s.argDtors a = 0
  resolves_eq : s.resolves = if s.fut = none then 0 else 1
  fut_winner : ∀ x, s.fut = some x → ∀ a, s.claimed a = some true → x = (c.kind a).payload
  init_unclaimed : ∀ a, s.pc a = Pc.init → s.claimed a = none
  dtor_kind : ∀ a b, s.pc a = Pc.dloaded b ∨ s.pc a = Pc.blocked → c.kind a = Kind.dtor
  dtor_loaded : ∀ d, s.pc d = Pc.dloaded true →
      s.owner = true ∧ ∀ i, i < c.n → c.kind i ≠ Kind.dtor → s.pc i = Pc.fin

theorem inv_init (c : Cfg) : Inv c {} := by
  constructor <;> simp [Pc.isWon]

theorem othersDone_spec (c : Cfg) (s : State) (h : othersDone c s = true) :
    ∀ i, i < c.n → c.kind i ≠ Kind.dtor → s.pc i = Pc.fin := by
  intro i hi hk
  simp only [othersDone, List.all_eq_true, List.mem_range] at h
  simpa [hk] using h i hi

/-- `hi`: `p` is not a state that only `claim()` leads to -/
theorem inv_setPc (c : Cfg) (s : State) (a : Nat) (p : Pc) (h : Inv c s)
    (hi : p ≠ Pc.init ∧ p ≠ Pc.won)
    (hw : p.isWon = true → s.claimed a = some true)
    (hk : ∀ b, p = Pc.dloaded b ∨ p = Pc.blocked → c.kind a = Kind.dtor)
    (hl : p = Pc.dloaded true → s.owner = true ∧ ∀ i, i < c.n → c.kind i ≠ Kind.dtor → s.pc i = Pc.fin)
    (hnf : s.pc a ≠ Pc.fin) : Inv c (setPc s a p) :=
  { h with
    won_claimed := fun b => by
      simp only [setPc, upd_apply]; split
      · next e => exact e ▸ hw
      · exact h.won_claimed b
    won_pending := fun b => by
      simp only [setPc, upd_apply]; split
      · exact fun e => absurd e hi.2
      · exact h.won_pending b
    body_zero := fun b => by
      simp only [setPc, upd_apply]; split
      · exact fun e => (e.elim hi.1 hi.2).elim
      · exact h.body_zero b
    argd_zero := fun b => by
      simp only [setPc, upd_apply]; split
      · next e => exact fun _ => e ▸ h.argd_zero a hnf
      · exact h.argd_zero b
    init_unclaimed := fun b => by
      simp only [setPc, upd_apply]; split
      · exact fun e => absurd e hi.1
      · exact h.init_unclaimed b
    dtor_kind := fun b x => by
      simp only [setPc, upd_apply]; split
      · next e => exact e ▸ hk x
      · exact h.dtor_kind b x
    dtor_loaded := fun d => by
      have key : (∀ i, i < c.n → c.kind i ≠ Kind.dtor → s.pc i = Pc.fin) →
          ∀ i, i < c.n → c.kind i ≠ Kind.dtor → upd s.pc a p i = Pc.fin := by
        intro hall i hi hki; simp only [upd_apply]; split
        · next e => exact absurd (e ▸ hall i hi hki) hnf
        · exact hall i hi hki
      simp only [setPc, upd_apply]; split
      · exact fun e => ⟨(hl e).1, key (hl e).2⟩
      · exact fun e => ⟨(h.dtor_loaded d e).1, key (h.dtor_loaded d e).2⟩ }

theorem inv_body (c : Cfg) (s : State) (a : Nat) (h : Inv c s) (hc : s.claimed a = some true)
    (hp : s.pc a ≠ Pc.init ∧ s.pc a ≠ Pc.won) (hz : s.bodyStarts a = 0) :
    Inv c { s with bodyStarts := upd s.bodyStarts a (s.bodyStarts a + 1) } :=
  { h with
    loser_idle := fun b hb => by
      have hba : b ≠ a := fun e => hb (e ▸ hc)
      simpa [upd_apply, hba] using h.loser_idle b hb
    body_le := fun b => by
      simp only [upd_apply]; split
      · next e => exact ⟨by omega, e ▸ (h.body_le a).2⟩
      · exact h.body_le b
    body_zero := fun b hb => by
      simp only [upd_apply]; split
      · next e => exact (hb.elim (e ▸ hp.1) (e ▸ hp.2)).elim
      · exact h.body_zero b hb }

theorem inv_park (c : Cfg) (s : State) (a : Nat) (h : Inv c s) (hc : s.claimed a = some true) :
    Inv c { s with suspended := upd s.suspended a true } :=
  { h with
    loser_idle := fun b hb => by
      have hba : b ≠ a := fun e => hb (e ▸ hc)
      simpa [upd_apply, hba] using h.loser_idle b hb }

theorem inv_argd (c : Cfg) (s : State) (a : Nat) (h : Inv c s) (hc : s.claimed a = some true)
    (hp : s.pc a = Pc.fin) (hz : s.argDtors a = 0) :
    Inv c { s with argDtors := upd s.argDtors a (s.argDtors a + 1) } :=
  { h with
    loser_idle := fun b hb => by
      have hba : b ≠ a := fun e => hb (e ▸ hc)
      simpa [upd_apply, hba] using h.loser_idle b hb
    body_le := fun b => by
      simp only [upd_apply]; split
      · next e => exact ⟨e ▸ (h.body_le a).1, by omega⟩
      · exact h.body_le b
    argd_zero := fun b hb => by
      simp only [upd_apply]; split
      · next e => exact absurd (e ▸ hp) hb
      · exact h.argd_zero b hb }

/-- `own` is a parameter (with `hown`) so that both resolutions are instances: by the winner, where `owner` stays `s.owner`,
already false; by the destructor of a promise that is still armed — nobody has claimed it —, where `owner := false` models that
the promise object is gone -/
theorem inv_resolved (c : Cfg) (s : State) (x : Option Outcome) (own : Bool) (h : Inv c s) (hown : own = false)
    (hf : s.fut = none) (hnw : ∀ b, s.pc b ≠ Pc.won) (hnl : ∀ d, s.pc d ≠ Pc.dloaded true)
    (hx : ∀ b, s.claimed b = some true → x = (c.kind b).payload) :
    Inv c { s with fut := some x, resolves := s.resolves + 1, owner := own } :=
  { h with
    owner_free := fun e => by simp [hown] at e
    won_pending := fun b e => absurd e (hnw b)
    resolves_eq := by have := h.resolves_eq; simp [hf] at this ⊢; exact this
    fut_winner := fun y e b hb => by cases e; exact hx b hb
    dtor_loaded := fun d e => absurd e (hnl d) }

theorem inv_claim (c : Cfg) (s : State) (a : Nat) (h : Inv c s) (hp : s.pc a = Pc.init) (hk : c.kind a ≠ Kind.dtor)
    (hlt : a < c.n) : Inv c (claim s a).1 := by
  have hnl : ∀ d, s.pc d ≠ Pc.dloaded true := fun d e => by
    have := (h.dtor_loaded d e).2 a hlt hk; rw [hp] at this; cases this
  have hca : s.claimed a = none := h.init_unclaimed a hp
  cases ho : s.owner
  · -- recording the refusal changes no clause: they ask for `some true` only
    have h1 := inv_setPc c s a (Pc.tail false) h (by simp) (by simp [Pc.isWon]) (by simp) (by simp) (by simp [hp])
    have key : ∀ b, upd s.claimed a (some false) b = some true ↔ s.claimed b = some true := by
      intro b; simp only [upd_apply]; split
      · next e => simp [e, hca]
      · rfl
    simp only [claim, ho, Bool.false_eq_true, ↓reduceIte]
    exact { h1 with
      owner_free := fun e => by cases e
      unique := fun x y => by simp only [key]; exact h.unique x y
      won_claimed := fun b => by simp only [key]; exact h1.won_claimed b
      loser_idle := fun b => by simp only [ne_eq, key]; exact h.loser_idle b
      fut_winner := fun x e b => by simp only [key]; exact h.fut_winner x e b
      init_unclaimed := fun b => by
        simp only [upd_apply]; split
        · exact fun e => by cases e
        · exact h.init_unclaimed b
      dtor_loaded := fun d e => by cases ho.symm.trans (h1.dtor_loaded d e).1 }
  · obtain ⟨hno, hfn⟩ := h.owner_free ho
    have key : ∀ b, upd s.claimed a (some true) b = some true ↔ b = a := by
      intro b; simp only [upd_apply]; split
      · next e => simp [e]
      · next e => simp [e, hno b]
    simp only [claim, ho, ↓reduceIte]
    exact { h with
      owner_free := fun e => by cases e
      unique := fun x y => by simp only [key]; exact fun e1 e2 => e1.trans e2.symm
      won_claimed := fun b => by
        simp only [upd_apply]; split
        · exact fun _ => rfl
        · exact fun e => absurd (h.won_claimed b e) (hno b)
      won_pending := fun _ _ => hfn
      loser_idle := fun b => by
        simp only [ne_eq, key]; exact fun _ => h.loser_idle b (hno b)
      body_zero := fun b => by
        simp only [upd_apply]; split
        · next e => exact fun _ => h.body_zero b (Or.inl (e ▸ hp))
        · exact h.body_zero b
      argd_zero := fun b => by
        simp only [upd_apply]; split
        · next e => exact fun _ => e ▸ h.argd_zero a (by simp [hp])
        · exact h.argd_zero b
      fut_winner := fun x e => by rw [hfn] at e; cases e
      init_unclaimed := fun b => by
        simp only [upd_apply]; split
        · exact fun e => by cases e
        · next e => simpa [e] using h.init_unclaimed b
      dtor_kind := fun b x => by
        simp only [upd_apply]; split
        · exact fun e => by cases e <;> rename_i e <;> cases e
        · exact h.dtor_kind b x
      dtor_loaded := fun d => by
        simp only [upd_apply]; split
        · exact fun e => by cases e
        · exact fun e => absurd e (hnl d) }

theorem inv_fin (c : Cfg) (s : State) (a : Nat) (h : Inv c s) (hnf : s.pc a ≠ Pc.fin) : Inv c (setPc s a Pc.fin) :=
  inv_setPc c s a Pc.fin h (by simp) (by simp [Pc.isWon]) (by simp) (by simp) hnf

theorem inv_dtorLoad (c : Cfg) (s : State) (a : Nat) (h : Inv c s) (hnf : s.pc a ≠ Pc.fin)
    (hk : c.kind a = Kind.dtor) (ho : othersDone c s = true) : Inv c (dtorLoad s a).1 :=
  inv_setPc c s a (Pc.dloaded s.owner) h (by simp) (by simp [Pc.isWon]) (fun _ _ => hk)
    (fun e => ⟨Pc.dloaded.inj e, othersDone_spec c s ho⟩) hnf

theorem inv_resolveWith (c : Cfg) (s : State) (a : Nat) (h : Inv c s) (hp : s.pc a = Pc.won) :
    Inv c (resolveWith s a (c.kind a).payload) := by
  have hc := h.won_claimed a (by simp [hp, Pc.isWon])
  have how : s.owner = false := by
    cases ho : s.owner
    · rfl
    · exact absurd hc ((h.owner_free ho).1 a)
  have h1 := inv_setPc c s a (Pc.tail true) h (by simp) (fun _ => hc) (by simp) (by simp) (by simp [hp])
  refine inv_resolved c _ _ s.owner h1 how (h.won_pending a hp) (fun b => ?_) (fun d e => ?_)
    fun b hb => by rw [h.unique b a hb hc]
  · simp only [setPc, upd_apply]; split
    · simp
    · next e => exact fun e' => e (h.unique b a (h.won_claimed b (by simp [e', Pc.isWon])) hc)
  · cases how.symm.trans (h1.dtor_loaded d e).1

theorem inv_step (c : Cfg) (s : State) (a : Nat) (hd : ∀ x y, c.kind x = Kind.dtor → c.kind y = Kind.dtor → x = y)
    (h : Inv c s) : Inv c (step c s a).1 := by
  unfold step
  split
  · exact h
  · next hen =>
    obtain ⟨⟨hlt, hnf⟩, hbl⟩ : (a < c.n ∧ s.pc a ≠ Pc.fin) ∧ (s.pc a = Pc.blocked → othersDone c s = true) := by
      simpa [enabled] using hen
    split
    · next hk hp =>
      split
      · next ho => exact inv_dtorLoad c s a h hnf hk ho
      · exact inv_setPc c s a Pc.blocked h (by simp) (by simp [Pc.isWon]) (fun _ _ => hk) (by simp) hnf
    · next hk hp => exact inv_dtorLoad c s a h hnf hk (hbl hp)
    · next hk hp =>
      -- the promise is armed: nobody has claimed, nobody is at `won`
      obtain ⟨how, -⟩ := h.dtor_loaded a hp
      obtain ⟨hno, hfn⟩ := h.owner_free how
      have h1 := inv_setPc c s a (Pc.dloaded false) h (by simp) (by simp [Pc.isWon]) (fun _ _ => hk) (by simp) hnf
      refine inv_resolved c _ none false h1 rfl hfn (fun b => ?_) (fun d => ?_) fun b hb => absurd hb (hno b)
      · simp only [setPc, upd_apply]; split
        · simp
        · exact fun e => hno b (h.won_claimed b (by simp [e, Pc.isWon]))
      · simp only [setPc, upd_apply]; split
        · simp
        · next e => exact fun e' => e (hd d a (h.dtor_kind d true (Or.inl e')) hk)
    · exact inv_fin c s a h hnf
    · next hp hk => exact inv_claim c s a h hp hk hlt
    · next hp =>
      have hc := h.won_claimed a (by simp [hp, Pc.isWon])
      have h1 := inv_setPc c s a Pc.gate1 h (by simp) (fun _ => hc) (by simp) (by simp) hnf
      exact inv_body c _ a h1 hc (by simp [setPc, upd_apply]) (h.body_zero a (Or.inr hp))
    · next hp =>
      exact inv_setPc c s a Pc.gate2 h (by simp) (fun _ => h.won_claimed a (by simp [hp, Pc.isWon])) (by simp) (by simp) hnf
    · next hp =>
      exact inv_park c _ a (inv_fin c s a h hnf) (h.won_claimed a (by simp [hp, Pc.isWon]))
    · next hp _ _ =>
      have h1 := inv_resolveWith c s a h hp
      split
      · exact inv_body c _ a h1 (h.won_claimed a (by simp [hp, Pc.isWon])) (by simp [resolveWith, upd_apply])
          (h.body_zero a (Or.inr hp))
      · exact h1
    · next k pcv r hp hnk =>
      split
      · next hr =>
        obtain rfl : r = true := by simp at hr; exact hr.2
        exact inv_argd c _ a (inv_fin c s a h hnf) (h.won_claimed a (by simp [hp, Pc.isWon])) (by simp [setPc, upd_apply])
          (h.argd_zero a hnf)
      · exact inv_fin c s a h hnf
    · exact inv_fin c s a h hnf

theorem inv_run (c : Cfg) (s : State) (sched : List Nat)
    (hd : ∀ x y, c.kind x = Kind.dtor → c.kind y = Kind.dtor → x = y) (h : Inv c s) : Inv c (run c s sched) := by
  induction sched generalizing s with
  | nil => exact h
  | cons a rest ih => exact ih _ (inv_step c s a hd h)

end Cocls.AsyncRace
