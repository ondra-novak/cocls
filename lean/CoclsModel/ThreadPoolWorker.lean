import CoclsModel.ThreadPoolFrames
/-! Preservation of the thread-pool invariant: the worker loop, the end of a job's body, the end of a thread, the worker of pool B. -/
namespace Cocls.Pool
variable {c : Cfg} {s : State}

theorem inv_wRelock {t : Nat} (h : Inv c s) (hpc : s.pc t = Pc.wRelock)
    (hmx : s.mx = none) : Inv c (stepWRelock s t).1 := by
  have hl := h.thAt hpc
  exact { h with
    th := th_upd { hl with m_own := ⟨fun _ => rfl, fun _ => rfl⟩ }
      fun x hx => { h.th x with
        m_own := ⟨fun e => absurd (Option.some.inj e).symm hx, fun e => by
          have := (h.th x).m_own.2 e; rw [hmx] at this; cases this⟩ } }

theorem inv_wLoop {t : Nat} (h : Inv c s) (hpc : s.pc t = Pc.wLoop) :
    Inv c (stepWLoop c s t).1 := by
  have hl := h.thAt hpc
  have hmx : s.mx = some t := hl.m_own.2 rfl
  have hwk : s.woken t = false := Bool.eq_false_iff.2 fun e => by cases hl.s_woken e
  have htouch : (s.touchedAfterDetach || s.detached t) = false := by
    rw [h.z_touch, Bool.false_or]; exact Bool.eq_false_iff.2 fun e => by cases (hl.z_det e).2
  -- nobody else had the mutex
  have hmo : ∀ x, x ≠ t → ((s.pc x).hasMx = true → False) := fun x hx e => by
    have := (h.th x).m_own.2 e; rw [hmx] at this; exact hx (Option.some.inj this).symm
  have hat : s.exit = false → (t ∈ s.awake.erase t ↔ (s.woken t = true ∨ false = true)) := fun e =>
    ⟨fun m => absurd m (h.a_nd e).not_mem_erase, fun o => o.elim (fun w => by rw [hwk] at w; cases w) nofun⟩
  have hao : ∀ x, x ≠ t → s.exit = false → (x ∈ s.awake.erase t ↔ (s.woken x = true ∨ (s.pc x).atHead = true)) :=
    fun x hx e => (List.mem_erase_of_ne hx).trans ((h.th x).a_mem e)
  unfold stepWLoop
  split
  · rename_i hx
    exact { h with
      th := th_upd { hl with here := hx, a_mem := hat, m_own := ⟨nofun, nofun⟩ }
        fun x hx' => { h.th x with a_mem := hao x hx', m_own := ⟨nofun, fun e => (hmo x hx' e).elim⟩ }
      a_nd := fun e => absurd hx (by rw [e]; nofun)
      a_len := fun e => absurd hx (by rw [e]; nofun)
      z_touch := htouch }
  · rename_i hx
    have hx : s.exit = false := Bool.eq_false_iff.2 hx
    have hta : t ∈ s.awake := (hl.a_mem hx).2 (Or.inr rfl)
    have hand : (s.awake.erase t).Nodup := (h.a_nd hx).erase t
    split
    · rename_i j rest hq
      have hnd : (j :: rest).Nodup := hq ▸ h.l_qnd
      have hloc : s.loc j = Loc.queued := (h.l_q j).1 (by rw [hq]; exact List.mem_cons_self)
      exact { h with
        th := th_upd
          { hl with
            l_held := own_acquire hl.l_held
            l_rej := fun j' => iff_loc_upd (hl.l_rej j') hloc nofun nofun
            a_mem := fun _ => hat hx
            m_own := ⟨nofun, nofun⟩ }
          fun x hx' => { h.th x with
            here := (h.th x).here.frame id id (fun e => (hmo x hx' e).elim) rfl rfl
            l_held := fun j' => iff_loc_upd ((h.th x).l_held j') hloc nofun fun e => hx' (Loc.held.inj e).symm
            l_rej := fun j' => iff_loc_upd ((h.th x).l_rej j') hloc nofun nofun
            a_mem := hao x hx'
            m_own := ⟨nofun, fun e => (hmo x hx' e).elim⟩ }
        jb := forall_at j (by simp only [upd_same]; exact (h.jb j).move hloc nofun nofun nofun nofun)
          fun j' e => by simp only [upd_other _ _ _ _ e]; exact h.jb j'
        l_q := fun j' => by
          have := h.l_q j'
          have := List.nodup_cons.1 hnd
          simp only [upd_apply]
          grind
        l_qnd := (List.nodup_cons.1 hnd).2
        l_swap := fun u j' => iff_loc_upd (h.l_swap u j') hloc nofun nofun
        x_exit_q := fun e => by rw [hx] at e; cases e
        a_nd := fun _ => hand
        a_len := fun e hw => by
          have := h.a_len e hw
          have := List.length_erase_of_mem hta
          rw [hq, List.length_cons] at *
          dsimp only
          omega
        z_touch := htouch }
    · rename_i hq
      exact { h with
        th := th_upd { hl with here := ⟨hq, hx⟩, a_mem := hat }
          fun x hx' => { h.th x with a_mem := hao x hx' }
        a_nd := fun _ => hand
        a_len := fun _ _ => by rw [hq]; exact Nat.zero_le _
        z_touch := htouch }

theorem inv_wCvEnter {t : Nat} (h : Inv c s) (hpc : s.pc t = Pc.wCvEnter) :
    Inv c (stepWCvEnter s t).1 := by
  have hl := h.thAt hpc
  obtain ⟨hq, hx⟩ : s.q = [] ∧ s.exit = false := hl.here
  have hmx : s.mx = some t := hl.m_own.2 rfl
  have hwk : s.woken t = false := Bool.eq_false_iff.2 fun e => by cases hl.s_woken e
  have hnw : t ∉ s.waitq := fun m => by cases (hl.s_wq_pc m).1
  unfold stepWCvEnter
  dsimp only
  exact { h with
    th := th_upd
      { hl with
        here := trivial
        s_wq_pc := fun _ => ⟨rfl, hwk⟩
        s_woken := fun _ => rfl
        s_cv := fun _ => Or.inr (List.mem_append_right _ List.mem_cons_self)
        m_own := ⟨nofun, nofun⟩ }
      fun x hx' => { h.th x with
        s_wq_pc := fun m => (h.th x).s_wq_pc ((List.mem_append.1 m).resolve_right fun m' =>
          hx' (List.mem_singleton.1 m'))
        s_cv := fun e => ((h.th x).s_cv e).imp_right (List.mem_append_left _)
        m_own := ⟨nofun, fun e => by
          have := (h.th x).m_own.2 e; rw [hmx] at this; exact absurd (Option.some.inj this).symm hx'⟩ }
    s_exit_wq := fun e => by dsimp only at e; rw [hx] at e; cases e
    s_wqnd := nodup_snoc h.s_wqnd hnw
    a_len := fun _ _ => by dsimp only; rw [hq]; exact Nat.zero_le _ }

theorem inv_wake {t : Nat} (h : Inv c s) (hpc : s.pc t = Pc.wCvCheck ∨ s.pc t = Pc.wCvBlocked)
    (hw : s.woken t = true) : Inv c { s with woken := upd s.woken t false, pc := upd s.pc t Pc.wRelock } := by
  have hnw : t ∉ s.waitq := fun m => by have := ((h.th t).s_wq_pc m).2; rw [hw] at this; cases this
  have hl : Local c { s with woken := upd s.woken t false } t Pc.wRelock := by
    rcases hpc with hpc | hpc <;> exact
      { h.thAt hpc with
        s_wq_pc := fun m => absurd m hnw
        s_woken := fun e => by dsimp only at e; rw [upd_same] at e; cases e
        s_cv := nofun
        a_mem := fun _ => ⟨fun _ => Or.inr rfl, fun _ => ((h.thAt hpc).a_mem ‹_›).2 (Or.inl hw)⟩ }
  exact { h with
    th := th_upd { hl with }
      fun x hx => { h.th x with
        s_wq_pc := fun m => by dsimp only; rw [upd_other _ _ _ _ hx]; exact (h.th x).s_wq_pc m
        s_woken := fun e => by dsimp only at e; rw [upd_other _ _ _ _ hx] at e; exact (h.th x).s_woken e
        s_cv := fun e => by dsimp only; rw [upd_other _ _ _ _ hx]; exact (h.th x).s_cv e
        a_mem := fun e => by dsimp only; rw [upd_other _ _ _ _ hx]; exact (h.th x).a_mem e } }

theorem inv_wCvCheck {t : Nat} (h : Inv c s) (hpc : s.pc t = Pc.wCvCheck) :
    Inv c (stepWCvCheck s t).1 := by
  unfold stepWCvCheck
  split
  · rename_i hw; exact inv_wake h (Or.inl hpc) hw
  · exact h.move { h.thAt hpc with }

theorem inv_wCvBlocked {t : Nat} (h : Inv c s) (hpc : s.pc t = Pc.wCvBlocked)
    (hw : s.woken t = true) : Inv c (stepWCvBlocked s t).1 :=
  inv_wake h (Or.inr hpc) hw

/-- a worker that is not inside the body of a job starts another activity -/
theorem inv_setRet {t : Nat} {r : Ret} (h : Inv c s) (htw : t < c.nw) (hb : (s.pc t).inBody = false)
    (hs : r ≠ Ret.script) (hB : r ≠ Ret.dtorB) (hd : s.defer t ≠ [] → r = Ret.body) :
    Inv c { s with ret := upd s.ret t r } :=
  { h with
    th := forall_at t
      { h.th t with
        t_ret := fun _ => htw
        t_script := fun e => by dsimp only at e; rw [upd_same] at e; exact absurd e hs
        t_noB := fun e => by dsimp only at e; rw [upd_same] at e; exact absurd e hB
        r_body := fun j e k d => nomatch hb.symm.trans ((h.th t).r_body j e k d).2
        b_defpc := fun e => ⟨by dsimp only; rw [upd_same]; exact hd e, ((h.th t).b_defpc e).2⟩ }
      fun x hx => { h.th x with
        t_ret := fun e => (h.th x).t_ret (by dsimp only at e; rwa [upd_other _ _ _ _ hx] at e)
        t_script := fun e => (h.th x).t_script (by dsimp only at e; rwa [upd_other _ _ _ _ hx] at e)
        t_noB := fun e => (h.th x).t_noB (by dsimp only at e; rwa [upd_other _ _ _ _ hx] at e)
        r_body := by dsimp only; rw [upd_other _ _ _ _ hx]; exact (h.th x).r_body
        b_defpc := fun e => by dsimp only; rw [upd_other _ _ _ _ hx]; exact (h.th x).b_defpc e } }

theorem inv_wRun {t j : Nat} (h : Inv c s) (hpc : s.pc t = Pc.wRun j) :
    Inv c (stepWRun s t j).1 := by
  have htw : t < c.nw := (h.thAt hpc).t_worker rfl
  have hnb : (s.pc t).inBody = false := by rw [hpc]; rfl
  have h1 := inv_setRet (r := Ret.body) h htw hnb nofun nofun fun _ => rfl
  have hl := h1.thAt (t := t) hpc
  have hloc : s.loc j = Loc.held t := (hl.l_held j).1 rfl
  have hran : ∀ {x j'}, s.job x = some j' → 0 < upd s.ran j (s.ran j + 1) j' := fun {x j'} e => by
    have := (h.th x).r_job j' e
    rw [upd_apply]; split
    · exact Nat.succ_pos _
    · exact this
  unfold stepWRun
  dsimp only
  exact { h1 with
    th := th_upd
      { hl with
        t_worker := nofun
        l_held := own_release hl.l_held nofun
        l_rej := fun j' => iff_loc_upd (hl.l_rej j') hloc nofun nofun
        r_job := fun j' e => by
          dsimp only at e ⊢; rw [upd_same] at e; cases e; rw [upd_same]; exact Nat.succ_pos _
        r_body := fun _ _ _ _ => ⟨upd_same _ _ _, rfl⟩
        b_defpc := fun _ => ⟨upd_same _ _ _, rfl⟩
        z_det := fun e => ⟨(hl.z_det e).1, rfl⟩ }
      fun x hx => { h1.th x with
        l_held := fun j' => iff_loc_upd ((h1.th x).l_held j')
          hloc (fun e => hx (Loc.held.inj e).symm) nofun
        l_rej := fun j' => iff_loc_upd ((h1.th x).l_rej j') hloc nofun nofun
        r_job := fun j' e => hran (by dsimp only at e; rwa [upd_other _ _ _ _ hx] at e)
        r_body := by dsimp only; rw [upd_other _ _ _ _ hx]; exact (h1.th x).r_body }
    jb := forall_at j
      (by
        simp only [upd_same]
        have hj := h.jb j
        have h0 := hj.c_once
        rw [hloc, if_neg nofun] at h0
        exact { hj with
          l_fresh := ⟨nofun, fun e => by have := hj.l_fresh.2 e; rw [hloc] at this; cases this⟩
          c_once := by rw [if_pos rfl]; omega
          r_on := fun _ => ⟨t, htw, rfl⟩
          f_value := fun _ _ => Nat.succ_pos _ })
      fun j' e => by simp only [upd_other _ _ _ _ e]; exact h.jb j'
    l_q := fun j' => iff_loc_upd (h.l_q j') hloc nofun nofun
    l_swap := fun u j' => iff_loc_upd (h.l_swap u j') hloc nofun nofun
    f_pending := fun j' a b d => by
      dsimp only at b ⊢
      by_cases e : j' = j
      · subst e; exact ⟨t, upd_same _ _ _⟩
      · rw [upd_other _ _ _ _ e] at b
        obtain ⟨u, hu⟩ := h.f_pending j' a b d
        exact ⟨u, by rwa [upd_other _ _ _ _ fun eu => by subst eu; cases hnb.symm.trans ((h.th u).r_body j' hu a d).2]⟩ }

/-- a watcher sees the value at once -/
theorem inv_resolve {j : Nat} (h : Inv c s) (hp : s.fut j = Fut.pending) (hr : 0 < s.ran j)
    (v : Nat) (hv : v = if s.armed j = true then s.valued j + 1 else s.valued j) :
    Inv c { s with fut := upd s.fut j Fut.value, valued := upd s.valued j v } :=
  have hd : ∀ j', upd s.fut j Fut.value j' = Fut.pending → s.fut j' = Fut.pending := fun j' d => by
    rw [upd_apply] at d; split at d
    · cases d
    · exact d
  { h with
    th := fun x => { h.th x with r_body := fun j' e k d => (h.th x).r_body j' e k (hd j' d) }
    jb := forall_at j (by simp only [upd_same]; have := h.jb j; rw [hp] at this; exact this.resolve hr hv)
      fun j' e => by simp only [upd_other _ _ _ _ e]; exact h.jb j'
    f_pending := fun j' a b d => h.f_pending j' a b (hd j' d) }

/-- the body has left no future pending: the thread is not needed as a witness any more -/
theorem inv_toFlush {t : Nat} (h : Inv c s) (hpc : s.pc t = Pc.idle) (hret : s.ret t = Ret.body)
    (hnp : ∀ j, s.job t = some j → hasFut (s.kind j) = true → s.fut j ≠ Fut.pending) : Inv c (setPc s t Pc.wFlush) :=
  have hl := h.thAt hpc
  { h with
    th := th_upd { hl with
        t_worker := fun _ => hl.t_ret (by rw [hret]; nofun)
        r_body := fun j e k d => absurd d (hnp j e k) }
      fun x _ => { h.th x with } }

theorem inv_bodyEnd {t : Nat} (h : Inv c s) (hpc : s.pc t = Pc.idle)
    (hret : s.ret t = Ret.body) : Inv c (stepBodyEnd s t).1 := by
  unfold stepBodyEnd
  split
  · rename_i hj
    exact inv_toFlush h hpc hret fun j e => by rw [hj] at e; cases e
  · rename_i j hj
    split
    · rename_i hc
      simp only [Bool.and_eq_true, beq_iff_eq] at hc
      have hres := inv_resolve h hc.2 ((h.th t).r_job j hj)
      have hnp : ∀ j', s.job t = some j' → hasFut (s.kind j') = true → upd s.fut j Fut.value j' ≠ Fut.pending :=
        fun j' e _ => by rw [hj] at e; cases e; rw [upd_same]; nofun
      split
      · rename_i ha
        exact inv_toFlush (hres _ (by rw [if_pos ha])) hpc hret hnp
      · rename_i ha
        have := hres _ (if_neg ha).symm
        rw [upd_self] at this
        exact inv_toFlush this hpc hret hnp
    · rename_i hc
      simp only [Bool.and_eq_true, beq_iff_eq, not_and] at hc
      exact inv_toFlush h hpc hret fun j' e hf => by rw [hj] at e; cases e; exact hc hf

theorem inv_wFlush {t : Nat} (h : Inv c s) (hpc : s.pc t = Pc.wFlush) :
    Inv c (stepWFlush c s t).1 := by
  have hl := h.thAt hpc
  have htw : t < c.nw := hl.t_worker rfl
  unfold stepWFlush
  split
  · rename_i j rest hd
    have hdo : s.deferOn j = some t := (h.b_defer t j).1 (by rw [hd]; exact List.mem_cons_self)
    have hnd : (j :: rest).Nodup := hd ▸ hl.b_defnd
    have hrow := h.jb j
    rw [hdo] at hrow
    exact { h with
      th := th_at hpc
        { hl with
          b_defnd := by dsimp only; rw [upd_same]; exact (List.nodup_cons.1 hnd).2
          b_defpc := fun _ => hl.b_defpc (by rw [hd]; nofun) }
        fun x hx => { h.th x with
          b_defnd := by dsimp only; rw [upd_other _ _ _ _ hx]; exact (h.th x).b_defnd
          b_defpc := by dsimp only; rw [upd_other _ _ _ _ hx]; exact (h.th x).b_defpc }
      jb := forall_at j
        (by
          simp only [upd_same]
          exact { hrow with
            z_fresh := fun e => by cases (hrow.z_fresh e).2.2.2.2.1
            b_kind := by
              have hb := hrow.b_kind
              generalize dropKind c (s.kind j) = a at hb ⊢
              cases a <;> dsimp only at hb ⊢
              case resume => rw [if_neg nofun] at hb; rw [if_pos rfl]; exact ⟨by omega, hb.2⟩
              all_goals cases hb.2.2 })
        fun j' e => by simp only [upd_other _ _ _ _ e]; exact h.jb j'
      b_defer := fun u j' => by
        have := h.b_defer u j'
        have := h.b_defer u j
        have := List.nodup_cons.1 hnd
        simp only [upd_apply]
        grind }
  · rename_i hd
    have hnb : (s.pc t).inBody = false := by rw [hpc]; rfl
    have h1 := inv_setRet (r := Ret.dtorA) h htw hnb nofun nofun fun e => absurd hd e
    have hl1 := h1.thAt (t := t) hpc
    simp only [h.wf.out, if_true]
    split
    · exact (h1.unread (todo := upd s.todo t [Act.destroy])).move
        { hl1 with t_worker := nofun, r_body := fun j e k d => nomatch (hl1.r_body j e k d).2 }
    · exact h1.move { hl1 with b_defpc := fun e => absurd hd e }

theorem inv_toAfterJob {t : Nat} (h : Inv c s) (hpc : s.pc t = Pc.idle)
    (hret : s.ret t = Ret.dtorA) : Inv c (setPc s t Pc.wAfterJob) := by
  have hl := h.thAt hpc
  exact h.move { hl with
    t_worker := fun _ => hl.t_ret (by rw [hret]; nofun)
    r_body := fun j e k d => by have := (hl.r_body j e k d).1; rw [hret] at this; cases this
    b_defpc := fun e => by have := (hl.b_defpc e).1; rw [hret] at this; cases this }

theorem inv_wAfterJob {t : Nat} (h : Inv c s) (hpc : s.pc t = Pc.wAfterJob)
    (hcur : s.cur t = true) : Inv c (stepWAfterJob c s t).1 := by
  have hl := h.thAt hpc
  have hta : t ∉ s.awake ∨ s.exit = true := by
    cases hx : s.exit
    · exact Or.inl fun m => ((hl.a_mem hx).1 m).elim (fun w => by cases hl.s_woken w) nofun
    · exact Or.inr rfl
  unfold stepWAfterJob
  simp only [hcur, h.wf.out, if_true, Bool.not_true, Bool.false_and, Bool.false_eq_true, if_false]
  exact { h with
    th := th_upd
      { hl with
        r_job := fun j e => by dsimp only at e; rw [upd_same] at e; cases e
        r_body := fun j e => by dsimp only at e; rw [upd_same] at e; cases e
        a_mem := fun _ => ⟨fun _ => Or.inr rfl, fun _ => List.mem_cons_self⟩
        z_det := fun e => by have := (hl.z_det e).1; rw [hcur] at this; cases this }
      fun x hx => { h.th x with
        r_job := fun j e => (h.th x).r_job j (by dsimp only at e; rwa [upd_other _ _ _ _ hx] at e)
        r_body := by dsimp only; rw [upd_other _ _ _ _ hx]; exact (h.th x).r_body
        a_mem := fun e => (List.mem_cons.trans (or_iff_right hx)).trans ((h.th x).a_mem e) }
    a_nd := fun e => List.nodup_cons.2 ⟨hta.resolve_right (by rw [e]; nofun), h.a_nd e⟩
    a_len := fun e w => Nat.le_succ_of_le (h.a_len e w)
    f_pending := fun j a b d => (h.f_pending j a b d).imp fun u hu => by
      dsimp only; rwa [upd_other _ _ _ _ fun eu => by subst eu; cases ((h.thAt hpc).r_body j hu a d).2] }

/-- a thread ends: a worker of A leaves its loop through `break` or, having detached itself, through the `return` after its
job; a client reaches the end of its script; the worker of B leaves its loop -/
theorem inv_fin {t : Nat} (h : Inv c s)
    (hpc : s.pc t = Pc.wExit ∨ (s.pc t = Pc.idle ∧ s.ret t = Ret.script) ∨
           (s.pc t = Pc.wAfterJob ∧ s.cur t = false) ∨ s.pc t = Pc.bExitPc) :
    Inv c (stepFin s t).1 := by
  have hlt := h.th t
  have hex : s.exit = false → ¬ t < c.nw := fun e htw => by
    rcases hpc with hpc | ⟨_, hr⟩ | ⟨_, hc⟩ | hpc
    · have : s.exit = true := (h.thAt hpc).here; rw [e] at this; cases this
    · exact absurd htw (Nat.not_lt.2 (hlt.t_script hr))
    · have := (hlt.n_noexit e).2; rw [hlt.z_cur htw hc] at this; cases this
    · have := ((h.thAt hpc).bb_pc rfl).2; omega
  have hdf : s.defer t = [] := Classical.byContradiction fun e => by
    rcases hpc with hpc | ⟨hpc, hr⟩ | ⟨hpc, _⟩ | hpc
    · cases ((h.thAt hpc).b_defpc e).2
    · have := (hlt.b_defpc e).1; rw [hr] at this; cases this
    · cases ((h.thAt hpc).b_defpc e).2
    · cases ((h.thAt hpc).b_defpc e).2
  have hnp : ∀ j, s.job t = some j → hasFut (s.kind j) = true → s.fut j ≠ Fut.pending := fun j e k d => by
    have := hlt.r_body j e k d
    rcases hpc with hpc | ⟨_, hr⟩ | ⟨hpc, _⟩ | hpc <;> first | (rw [hpc] at this; cases this.2) | (rw [hr] at this; cases this.1)
  have hl : Local c s t Pc.done := by
    rcases hpc with hpc | ⟨hpc, _⟩ | ⟨hpc, _⟩ | hpc <;> exact
      { h.thAt hpc with
        here := trivial
        r_body := fun j e k d => absurd d (hnp j e k)
        t_out := fun _ => rfl
        t_worker := nofun
        b_defpc := fun e => absurd hdf e
        n_noexit := fun e => ⟨fun w => absurd w (hex e), (hlt.n_noexit e).2⟩
        j_all := fun _ _ => Or.inl rfl
        bb_pc := nofun
        bb_w := fun _ _ => Or.inr rfl
        z_det := fun e => ⟨(hlt.z_det e).1, rfl⟩ }
  exact h.move hl

theorem inv_bWorker {t : Nat} {p : Pc} (h : Inv c s)
    (hpc : s.pc t = Pc.bLoop ∨ s.pc t = Pc.bCvCheck ∨ s.pc t = Pc.bCvBlocked)
    (hp : p = Pc.bExitPc ∨ p = Pc.bCvCheck ∨ p = Pc.bCvBlocked) : Inv c (setPc s t p) := by
  have hl : Local c s t p := by
    rcases hpc with e | e | e <;> rcases hp with rfl | rfl | rfl <;> exact { h.thAt e with }
  exact h.move hl

end Cocls.Pool
