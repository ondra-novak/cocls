/-
Micro-step model of the hand-over at a `co_yield` between two threads (generator.h:143-157 and 193-232):

* thread **B** executes `yield_suspend::await_suspend` on behalf of the body it has just run (it completed the operation the body
  awaited): as the code is, `_arg = nullptr`, `caller = exchange(_caller, nullptr)`, then `caller->resume()` — the notification
  (`_block.store(true)`, the promise resolution, the consumer's callback) comes **last**;
* thread **A**, the consumer, may run as soon as it has been notified: its next access does `set_arg` (`_arg = &a`), the
  "Generator is busy" assert (`_caller == nullptr`), `_caller = &_internal`, `h.resume()` — the body then reads `*_arg`, and at its
  next `co_yield` it dereferences `_caller`.

Every interleaving of the two threads is a path of `succs` (`Reach`); one interleaving can be given as a schedule (`play`).
With the as-is order the next access always finds an idle generator, its argument reaches the body and its caller slot survives
(`c13_yield_notifies_last`, Props/C13.lean); the `late` order has interleavings where the assert fires or the new argument is
wiped (`c13_late_clear_breaks`).
A re-entrant access issued from inside the notification is covered too: A's steps then run *inside* B's `notify`.
Core Lean only; everything is finite and decided by the kernel.
-/
namespace Cocls.Gen.Handover

/-- what `_arg` points at: nothing, the argument of the access that is being served, the argument of the next access -/
inductive ArgSt | null | old | new
  deriving DecidableEq, Repr

/-- micro-steps of `yield_suspend::await_suspend` -/
inductive BOp | clearArg | clearCaller | notify
  deriving DecidableEq, Repr

/-- generator.h as it is: clear both, notify last -/
def asIs : List BOp := [.clearArg, .clearCaller, .notify]
/-- the opposite order, for comparison: notify first, clear afterwards -/
def late : List BOp := [.notify, .clearCaller, .clearArg]

structure HS where
  pcB : Nat                 -- next micro-step of the yielding thread
  pcA : Nat                 -- next micro-step of the consumer's next access (4 = done)
  caller : Bool             -- `_caller != nullptr`
  arg : ArgSt               -- `_arg`
  notified : Bool           -- the consumer has been notified
  assertOk : Bool           -- the "Generator is busy" assert of the next access held
  got : Option ArgSt        -- what the body, resumed by the next access, read through `_arg`
  callerAtResume : Option Bool   -- whether `_caller` was still set when that body ran on (it is dereferenced at the next co_yield)
  deriving DecidableEq, Repr

def init : HS :=
  { pcB := 0, pcA := 0, caller := true, arg := .old, notified := false, assertOk := true, got := none, callerAtResume := none }

def stepB (prog : List BOp) (s : HS) : HS :=
  match prog[s.pcB]? with
  | some .clearArg => { s with pcB := s.pcB + 1, arg := .null }
  | some .clearCaller => { s with pcB := s.pcB + 1, caller := false }
  | some .notify => { s with pcB := s.pcB + 1, notified := true }
  | none => s

def stepA (s : HS) : HS :=
  match s.pcA with
  | 0 => { s with pcA := 1, arg := .new }                                         -- set_arg
  | 1 => { s with pcA := 2, assertOk := !s.caller }                               -- assert(_caller == nullptr)
  | 2 => { s with pcA := 3, caller := true }                                      -- _caller = &_internal
  | 3 => { s with pcA := 4, got := some s.arg, callerAtResume := some s.caller }  -- h.resume(): the body reads *_arg
  | _ => s

/-- one step of either thread; the consumer runs only once it has been notified -/
def succs (prog : List BOp) (s : HS) : List HS :=
  (if s.pcB < prog.length then [stepB prog s] else []) ++ (if s.notified && s.pcA < 4 then [stepA s] else [])

inductive Reach (prog : List BOp) : HS → Prop
  | init : Reach prog init
  | step {s t : HS} : Reach prog s → t ∈ succs prog s → Reach prog t

/-- `true`: the yielding thread B moves, `false`: the consumer A -/
def move (prog : List BOp) (b : Bool) (s : HS) : HS := if b then stepB prog s else stepA s

def play (prog : List BOp) : List Bool → HS → Option HS
  | [], s => some s
  | b :: l, s => if move prog b s ∈ succs prog s then play prog l (move prog b s) else none

theorem reach_play {prog : List BOp} : ∀ (l : List Bool) {s t : HS}, Reach prog s → play prog l s = some t → Reach prog t
  | [], _, _, h, e => Option.some.inj e ▸ h
  | b :: l, s, t, h, e => by
      unfold play at e
      split at e
      · exact reach_play l (h.step ‹_›) e
      · cases e

theorem Reach.of_play {prog : List BOp} {p : HS → Prop} (l : List Bool) (h : ∃ t ∈ play prog l Handover.init, p t) :
    ∃ s, Reach prog s ∧ p s :=
  let ⟨t, ht, hp⟩ := h
  ⟨t, reach_play l .init ht, hp⟩

/-- the as-is order admits exactly one interleaving: B's three steps, then A's four -/
def chain : List HS :=
  let b1 := stepB asIs init
  let b2 := stepB asIs b1
  let b3 := stepB asIs b2
  let a1 := stepA b3
  let a2 := stepA a1
  let a3 := stepA a2
  let a4 := stepA a3
  [init, b1, b2, b3, a1, a2, a3, a4]

theorem chain_closed : ∀ s ∈ chain, ∀ t ∈ succs asIs s, t ∈ chain := by decide

theorem reach_chain {s : HS} (h : Reach asIs s) : s ∈ chain := by
  induction h with
  | init => decide
  | step _ ht ih => exact chain_closed _ ih _ ht

theorem chain_ok : ∀ s ∈ chain, s.pcA = 4 → s.assertOk = true ∧ s.got = some .new ∧ s.callerAtResume = some true := by
  decide

end Cocls.Gen.Handover
