/-
Model of `cocls::generator_aggregator` (generator_aggregator.h) over `n` scripted source generators.

* A source is a script `Nat → Option Act` (finite: ends at the first `none`; infinite: never `none`).  Every act
  ends in a suspension of the source coroutine: `yield v` (suspends at `co_yield`, resumes its caller = the
  `GenCallback`, which pushes itself into the completion queue), `await` (suspends on an asynchronous operation
  that completes later, from any thread: `Op.resolve k`), `throw e` / end of script (suspends at the final
  suspend point, again resuming the `GenCallback`).
* The aggregator coroutine is a small-step machine (`Ag`), one `Op.agg` step per queue lock region, so that the
  completions of asynchronous sources (`Op.resolve`) interleave with it at the granularity of the real code:
  the start-up loop charging source after source, the re-charge of the source whose value was returned last
  (with the argument of the access), `co_await queue.pop()` (parks when the queue is empty, is woken by the next
  push), the `done()` / `value()` examination of the popped source, `co_yield`, the final rethrow of the stored
  exception, and the controller destructor draining the outstanding sources before the frames are destroyed.
* Arguments (`generator<T,Arg>`): a generator carries its argument BY REFERENCE (`promise_type::_arg` is a pointer to the
  caller's object) and hands it out whenever the body asks (`co_yield v` on resumption, `co_yield nullptr` at any time).
  `cell k` is the storage source `k`'s pointer refers to — the `GenCallback`'s own copy `_arg` (since /repo 2ec61ae);
  `aggArg` is the aggregator's block-local `arg` (alive from the resumption of the aggregator to the end of the block
  that charges with it), which is what the pointer referred to before that commit (`lateReadAsIs`).  A source script
  can fetch its argument again after an asynchronous wait (`Act.awaitRead`); what it reads is logged in `late`.
* The controller destructor waits for the outstanding sources with `force_sync()` (since /repo 2010fed), which blocks
  in every context; the destroying context (plain code / a running coroutine, `dcoro`) is recorded only for the as-is
  variant `aggStepAsIs`, where the blocking `wait()` ran into the library's "blocking wait in a coroutine" assertion.
* Ghost fields (`started`, `out`, `calls`, `got`, `late`, `thrown`, `dcur`, `dcoro`, `drained`, `badDestroy`) are never read
  by the control flow; `cell` and `aggArg` are data only (read by `lateRead`, into the ghost log).
-/
namespace Cocls.Agg

inductive Act where
  | yield (v : Nat)
  | await
  | throw (e : Nat)
  | awaitRead          -- like `await`; once the wait is over the body fetches its argument again (`co_yield nullptr`)
  deriving DecidableEq, Repr, Inhabited

/-- what a source left behind when it last resumed its `GenCallback` -/
inductive SRes where
  | none
  | val (v : Nat)      -- suspended at `co_yield v`
  | done               -- returned (`_done = true`)
  | exc (e : Nat)      -- threw (`_exp` set, `_done` false: `value()` rethrows)
  deriving DecidableEq, Repr, Inhabited

/-- where a source is from the aggregator's point of view -/
inductive SSt where
  | fresh      -- not charged yet
  | inflight   -- charged, suspended on an asynchronous operation: will push later
  | queued     -- pushed its callback into the completion queue
  | cur        -- popped; its value is the one the consumer holds; not re-charged yet
  | fin        -- popped, found ended or throwing: counted down, never charged again
  | dropped    -- popped by the controller destructor
  deriving DecidableEq, Repr, Inhabited

inductive Ag where
  | init                          -- at initial_suspend
  | charging (i : Nat) (a : Nat)  -- start-up loop, about to charge source `i` (argument of the first access)
  | recharge (k : Nat) (a : Nat)  -- resumed from `co_yield`, about to charge `k` with the access's argument
  | loop                          -- at `while (cnt)`
  | parkedPop                     -- suspended in `co_await queue.pop()`
  | woken                         -- resumed by a push, the item is at the head of the queue
  | parkedYield (k : Nat)         -- suspended at `co_yield` with the value of source `k`
  | done                          -- at final_suspend, no exception
  | failed (e : Nat)              -- at final_suspend after `rethrow_exception(exp)`
  | draining                      -- frame being destroyed: head of the controller destructor loop
  | drainWait                     -- blocked in `_queue.pop().force_sync()`
  | destroyed
  | aborted                       -- the process died in a library assertion (only reachable with `aggStepAsIs`)
  deriving DecidableEq, Repr, Inhabited

structure Cfg where
  n : Nat
  script : Nat → Nat → Option Act

structure State where
  pc : Nat → Nat := fun _ => 0             -- acts executed by each source
  st : Nat → SSt := fun _ => SSt.fresh
  res : Nat → SRes := fun _ => SRes.none
  q : List Nat := []                       -- completion queue (source indices), oldest first
  ag : Ag := Ag.init
  count : Nat := 0                         -- `cnt._count` (0 before the controller is constructed)
  exp : Option Nat := none                 -- `exp`
  cell : Nat → Option Nat := fun _ => none  -- `GenCallback::_arg` of each source: the object the source's argument pointer refers to
  aggArg : Option Nat := none              -- the aggregator's local `arg`; `none` = not alive (before / after its block)
  -- ghost
  started : Bool := false                  -- the coroutine body has been entered (first access made)
  out : List (Nat × Nat) := []             -- (source, value) handed to the consumer, in order
  calls : List Nat := []                   -- arguments of the accesses that resumed the aggregator, in order
  got : Nat → List Nat := fun _ => []      -- arguments received by each source, in order
  late : Nat → List (Nat × Option Nat) := fun _ => []
                                           -- per source: every fetch of the argument after an await, as (number of arguments
                                           -- received so far, what the reference gave: `none` = a destroyed object)
  thrown : List (Nat × Nat) := []          -- (source, code) caught by the aggregator, in order
  dcur : Option Nat := none                -- the source whose value the consumer held when it destroyed the aggregate
  dcoro : Bool := false                    -- the aggregate was destroyed by a running coroutine (active coroutine queue)
  drained : Nat := 0                       -- pops performed by the controller destructor
  badDestroy : List Nat := []              -- sources whose frame was destroyed while in flight

inductive Op where
  | next (a : Nat)     -- the consumer accesses the aggregate (any style) with argument `a`
  | agg                -- one atomic step of the running aggregator / its destructor
  | resolve (k : Nat)  -- the asynchronous operation source `k` awaits completes
  | destroy (coro : Bool)  -- the consumer destroys the aggregate; `coro`: from inside a running coroutine
  deriving DecidableEq, Repr

def upd {α : Type} (f : Nat → α) (k : Nat) (x : α) : Nat → α := fun j => if j = k then x else f j

@[simp] theorem upd_same {α : Type} (f : Nat → α) (k : Nat) (x : α) : upd f k x k = x := by simp [upd]
@[simp] theorem upd_other {α : Type} (f : Nat → α) (k j : Nat) (x : α) (h : j ≠ k) : upd f k x j = f j := by
  simp [upd, h]

def init : State := {}

/-- the aggregator is running or parked on behalf of an access the consumer is waiting for -/
def waiting (s : State) : Bool :=
  match s.ag with
  | Ag.charging _ _ | Ag.recharge _ _ | Ag.loop | Ag.parkedPop | Ag.woken => true
  | _ => false

/-- the `GenCallback` of source `k` pushes itself (queue lock region); a parked popper is woken -/
def push (s : State) (k : Nat) : State :=
  { s with st := upd s.st k SSt.queued, q := s.q ++ [k],
           ag := match s.ag with
                 | Ag.parkedPop => Ag.woken
                 | Ag.drainWait => Ag.draining
                 | a => a }

/-- source `k` is resumed and runs one act, up to its next suspension -/
def srcRun (c : Cfg) (s : State) (k : Nat) : State :=
  match c.script k (s.pc k) with
  | some (Act.yield v) => push { s with pc := upd s.pc k (s.pc k + 1), res := upd s.res k (SRes.val v) } k
  | some Act.await => { s with pc := upd s.pc k (s.pc k + 1), st := upd s.st k SSt.inflight }
  | some Act.awaitRead => { s with pc := upd s.pc k (s.pc k + 1), st := upd s.st k SSt.inflight }
  | some (Act.throw e) => push { s with pc := upd s.pc k (s.pc k + 1), res := upd s.res k (SRes.exc e) } k
  | none => push { s with res := upd s.res k SRes.done } k

/-- `gcb->charge(arg)`: the source receives the argument and is resumed.  The source runs *synchronously inside
this step*, up to its next suspension: `generator::next_awt::subscribe` resumes the source's handle `next_async(awt)` on
the spot (`resume_in_queue`: `h.resume()`, under the thread's active `coro_queue` or one installed for the call) — the
handle is not appended to the `coro_queue` — so this is what the code does both when the consumer is plain code and
when the aggregate is accessed from inside a running coroutine.
The `GenCallback` first stores its own copy of the argument (`_arg.emplace(arg)`, replacing the copy of the previous
charge — the source is parked in `co_yield` then and holds no reference) and gives the source a reference to that
copy; the source reads it on resumption (`got`) and may read it again until its next `co_yield` (`lateRead`). -/
def charge (c : Cfg) (s : State) (k a : Nat) : State :=
  srcRun c { s with got := upd s.got k (s.got k ++ [a]), cell := upd s.cell k (some a) } k

/-- leaving the `while (cnt)` loop: rethrow the stored exception or return -/
def finish (s : State) : State :=
  match s.exp with
  | none => { s with ag := Ag.done }
  | some e => { s with ag := Ag.failed e }

/-- the popped callback is examined: `g.done()`, else `co_yield g.value()` (which rethrows a source's exception) -/
def popHandle (s : State) : State :=
  match s.q with
  | [] => s
  | k :: r =>
    match s.res k with
    | SRes.done => { s with q := r, st := upd s.st k SSt.fin, count := s.count - 1, ag := Ag.loop }
    | SRes.exc e => { s with q := r, st := upd s.st k SSt.fin, count := s.count - 1, exp := some e,
                             thrown := s.thrown ++ [(k, e)], ag := Ag.loop }
    | SRes.val v => { s with q := r, st := upd s.st k SSt.cur, out := s.out ++ [(k, v)], ag := Ag.parkedYield k }
    | SRes.none => s   -- unreachable: a queued source has left a result (`Inv2.queued_res`)

def inflightList (s : State) : Nat → List Nat
  | 0 => []
  | n + 1 => inflightList s n ++ (if s.st n = SSt.inflight then [n] else [])

/-- one atomic step of the aggregator coroutine or of its destruction -/
def aggStep (c : Cfg) (s : State) : State :=
  match s.ag with
  | Ag.charging i a =>
      if i < c.n then { charge c s i a with ag := Ag.charging (i + 1) a } else { s with ag := Ag.loop, aggArg := none }
  | Ag.recharge k a => { charge c s k a with ag := Ag.loop, aggArg := none }
  | Ag.loop =>
      if s.count = 0 then finish s
      else match s.q with
        | [] => { s with ag := Ag.parkedPop }
        | _ :: _ => popHandle s
  | Ag.woken => popHandle s
  | Ag.draining =>
      if 1 < s.count then
        match s.q with
        | [] => { s with ag := Ag.drainWait }
        | k :: r => { s with q := r, st := upd s.st k SSt.dropped, count := s.count - 1, drained := s.drained + 1 }
      else { s with ag := Ag.destroyed, badDestroy := inflightList s c.n }
  | _ => s

def stepNext (c : Cfg) (s : State) (a : Nat) : State :=
  match s.ag with
  | Ag.init => { s with ag := Ag.charging 0 a, count := c.n, started := true, calls := [a], aggArg := some a }
  | Ag.parkedYield k => { s with ag := Ag.recharge k a, calls := s.calls ++ [a], aggArg := some a }
  | _ => s

/-- did the act source `k` is suspended in ask for the argument to be fetched again after the wait -/
def rereads (c : Cfg) (s : State) (k : Nat) : Bool :=
  match c.script k (s.pc k - 1) with
  | some Act.awaitRead => true
  | _ => false

/-- the wait of source `k` is over; if its script says so the body fetches its argument again (`co_yield nullptr`
gives `*_arg`): it reads the object its argument pointer refers to, the `GenCallback`'s copy -/
def lateRead (c : Cfg) (s : State) (k : Nat) : State :=
  if rereads c s k then { s with late := upd s.late k (s.late k ++ [((s.got k).length, s.cell k)]) } else s

def stepResolve (c : Cfg) (s : State) (k : Nat) : State :=
  if s.st k = SSt.inflight then srcRun c (lateRead c s k) k else s

def stepDestroy (s : State) (coro : Bool) : State :=
  match s.ag with
  | Ag.parkedYield k => { s with ag := Ag.draining, dcur := some k, dcoro := coro }
  | Ag.init | Ag.done | Ag.failed _ => { s with ag := Ag.draining, dcoro := coro }
  | _ => s

def step (c : Cfg) (s : State) (op : Op) : State :=
  match op with
  | Op.next a => stepNext c s a
  | Op.agg => aggStep c s
  | Op.resolve k => stepResolve c s k
  | Op.destroy coro => stepDestroy s coro

def run (c : Cfg) (s : State) (ops : List Op) : State := ops.foldl (step c) s

/-! ## the code as it was before the repairs (kept for the witness theorems in `Props/C14.lean`) -/

/-- AS-IS before /repo commit 2ec61ae ("generator_aggregator handed its sources a reference to its own short-lived copy
of the argument"): `gcb->charge(arg)` passed the aggregator's block-local `arg` on by reference, so a source fetching
its argument after a wait read THAT object: destroyed at the end of the charging block (`none`), or already holding
the argument of a later access that belongs to another source. -/
def lateReadAsIs (c : Cfg) (s : State) (k : Nat) : State :=
  if rereads c s k then { s with late := upd s.late k (s.late k ++ [((s.got k).length, s.aggArg)]) } else s

def stepResolveAsIs (c : Cfg) (s : State) (k : Nat) : State :=
  if s.st k = SSt.inflight then srcRun c (lateReadAsIs c s k) k else s

/-- AS-IS before /repo commit 2010fed ("destroying a parked generator_aggregator from a coroutine aborted instead of
waiting for in-flight sources"): the controller destructor drained with `_queue.pop().wait()`; when the pop has to
block (empty queue) and the destroying thread runs a coroutine, `wait()` fails its assertion
`!coro_queue::is_active()` and the process aborts instead of waiting. -/
def aggStepAsIs (c : Cfg) (s : State) : State :=
  match s.ag with
  | Ag.draining =>
      if 1 < s.count ∧ s.q = [] ∧ s.dcoro = true then { s with ag := Ag.aborted } else aggStep c s
  | _ => aggStep c s

def stepAsIs (c : Cfg) (s : State) (op : Op) : State :=
  match op with
  | Op.agg => aggStepAsIs c s
  | Op.resolve k => stepResolveAsIs c s k
  | op => step c s op

def runAsIs (c : Cfg) (s : State) (ops : List Op) : State := ops.foldl (stepAsIs c) s

/-- is the aggregator able to take an `agg` step -/
def running (s : State) : Bool :=
  match s.ag with
  | Ag.charging _ _ | Ag.recharge _ _ | Ag.loop | Ag.woken | Ag.draining => true
  | _ => false

/-- run the aggregator until it parks (used by the driver; `fuel` bounds the number of steps) -/
def settle (c : Cfg) (s : State) : Nat → State
  | 0 => s
  | fuel + 1 => if running s then settle c (aggStep c s) fuel else s

end Cocls.Agg
