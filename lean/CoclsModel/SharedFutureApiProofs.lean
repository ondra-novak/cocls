import CoclsModel.SharedFutureApi
/-!
Invariant of the API-level shared_future model (`SharedFutureApi.lean`): what a state holds is determined by its phase and by
what the resolver stored.  Every call changes the list of states only by applying one of a few functions (`Eff`) at some
positions or by appending a new state (`Evolves`, `step_evolves`); what the calls preserve is read off that.
-/
namespace Cocls.SharedFutureApi

structure Good (ss : SState) : Prop where
  unresolved : ss.phase ≠ Phase.ready → ss.res = Res.none ∧ ss.resolvedBy = none ∧ ss.taken = false
  resolved : ss.phase = Phase.ready → ∃ rk, ss.resolvedBy = some rk ∧ (ss.taken = false → ss.res = rk.res)
  promised : ss.promised = true → ss.phase = Phase.pending

def Inv (s : St) : Prop := ∀ ss ∈ s.states, Good ss

theorem getElem?_modAt {α} (f : α → α) : ∀ (l : List α) (k j : Nat),
    (modAt l k f)[j]? = if j = k then (l[j]?).map f else l[j]?
  | [], _, _ => by simp [modAt]
  | a :: l, 0, 0 => by simp [modAt]
  | a :: l, 0, j + 1 => by simp [modAt]
  | a :: l, k + 1, 0 => by simp [modAt]
  | a :: l, k + 1, j + 1 => by simp [modAt, getElem?_modAt f l k j]

theorem mem_modAt {α} (f : α → α) (l : List α) (k : Nat) (x : α) (h : x ∈ modAt l k f) : x ∈ l ∨ ∃ y ∈ l, x = f y := by
  obtain ⟨j, hj⟩ := List.mem_iff_getElem?.1 h
  rw [getElem?_modAt] at hj
  split at hj
  · obtain ⟨y, hy, rfl⟩ := Option.map_eq_some_iff.1 hj
    exact Or.inr ⟨y, List.mem_of_getElem? hy, rfl⟩
  · exact Or.inl (List.mem_of_getElem? hj)

theorem good_promiseS (x : SState) (h : Good x) : Good (promiseS x) := by
  unfold promiseS
  split
  · rename_i hp
    have hu := h.unresolved (by rw [hp]; decide)
    exact ⟨fun _ => hu, fun hr => by simp at hr, fun _ => rfl⟩
  · exact h

theorem good_resolveS (rk : RK) (x : SState) (h : Good x) : Good (resolveS rk x) := by
  unfold resolveS
  split
  · rename_i hp
    exact ⟨fun hr => by simp at hr, fun _ => ⟨rk, rfl, fun _ => rfl⟩, fun hr => by simp at hr⟩
  · exact h

theorem good_takeS (x : SState) (h : Good x) : Good (takeS x) := by
  unfold takeS
  split
  · rename_i v hv
    refine ⟨fun hr => ?_, fun hr => ?_, h.promised⟩
    · have := (h.unresolved hr).1; rw [hv] at this; cases this
    · obtain ⟨rk, h1, _⟩ := h.resolved hr
      exact ⟨rk, h1, fun ht => by simp at ht⟩
  · exact h

theorem good_fresh : Good freshState := ⟨fun _ => ⟨rfl, rfl, rfl⟩, fun h => by simp [freshState] at h, fun h => by simp [freshState] at h⟩

theorem good_mkState (m : Mk) : Good (mkState m) := by
  cases m
  · exact ⟨fun _ => ⟨rfl, rfl, rfl⟩, fun h => by simp [mkState] at h, fun _ => rfl⟩
  · exact ⟨fun _ => ⟨rfl, rfl, rfl⟩, fun h => by simp [mkState] at h, fun _ => rfl⟩
  · exact ⟨fun h => by simp [mkState] at h, fun _ => ⟨_, rfl, fun _ => rfl⟩, fun h => by simp [mkState] at h⟩
  · exact ⟨fun h => by simp [mkState] at h, fun _ => ⟨_, rfl, fun _ => rfl⟩, fun h => by simp [mkState] at h⟩

theorem Good.of_val {x : SState} {v : Nat} {b : Bool} (h : Good x) (hv : x.res = Res.val v b) :
    x.phase = Phase.ready ∧ x.promised = false := by
  have hph : x.phase = Phase.ready := Classical.byContradiction fun hn => by
    have := (h.unresolved hn).1
    rw [hv] at this; cases this
  refine ⟨hph, ?_⟩
  cases hp : x.promised
  · rfl
  · have := h.promised hp; rw [hph] at this; cases this

theorem Good.look_resolved {ss : SState} {rk : RK} (hg : Good ss) (hr : ss.resolvedBy = some rk) (ht : ss.taken = false) :
    ss.phase = Phase.ready ∧ look ss = rk.obs := by
  have hph : ss.phase = Phase.ready := Classical.byContradiction fun hn => by
    have := (hg.unresolved hn).2.1
    rw [hr] at this; cases this
  obtain ⟨rk', h1, h2⟩ := hg.resolved hph
  rw [hr] at h1; cases h1
  refine ⟨hph, ?_⟩
  unfold look; rw [h2 ht, hph]; cases rk <;> rfl

theorem Good.look_unresolved {ss : SState} (hg : Good ss) (hr : ss.resolvedBy = none) :
    ss.phase ≠ Phase.ready ∧ (look ss = Obs.notready ∨ look ss = Obs.canceled) := by
  have hph : ss.phase ≠ Phase.ready := fun hp => by
    obtain ⟨rk, h1, _⟩ := hg.resolved hp
    rw [hr] at h1; cases h1
  refine ⟨hph, ?_⟩
  unfold look; rw [(hg.unresolved hph).1]
  by_cases hp : ss.phase = Phase.pending <;> simp [hp]

/-- the reference count and the waiters change under any call, the rest only under the call meant to change it -/
inductive Eff : Op → SState → SState → Prop
  | inc (op x) : Eff op x (incRef x)
  | dec (op x) : Eff op x (decRef x)
  | await (op w k x) : Eff op x (addWaiter w k x)
  | getp (i x) : Eff (Op.getp i) x (promiseS x)
  | lshift (i x) : Eff (Op.lshift i) x (promiseS x)
  | resolve (k rk x) : Eff (Op.resolve k rk) x (resolveS rk x)
  | take (i x) : Eff (Op.take i) x (takeS x)

inductive Evolves (op : Op) : List SState → List SState → Prop
  | refl (l) : Evolves op l l
  | mod {l l'} (k f) : (∀ x, Eff op x (f x)) → Evolves op l l' → Evolves op l (modAt l' k f)
  | snoc (l) {x} : Good x → Evolves op l (l ++ [x])

theorem step_evolves (s : St) (op : Op) : Evolves op s.states (step s op).1.states := by
  have one {f : SState → SState} (k : Nat) (hf : ∀ x, Eff op x (f x)) : Evolves op s.states (modAt s.states k f) :=
    .mod k f hf (.refl _)
  cases op with
  | new => exact .refl _
  | mk m => exact .snoc _ (good_mkState m)
  | copy i =>
      simp only [step]; repeat' split
      all_goals first | exact .refl _ | exact one _ (.inc _)
  | assign i j =>
      simp only [step, opAssign]; repeat' split
      all_goals first | exact .refl _ | exact one _ (.inc _) | exact one _ (.dec _) | exact .mod _ _ (.dec _) (one _ (.inc _))
  | drop i =>
      simp only [step]; repeat' split
      all_goals first | exact .refl _ | exact one _ (.dec _)
  | init i =>
      simp only [step]; repeat' split
      all_goals first | exact .refl _ | exact .snoc _ good_fresh
  | getp i =>
      simp only [step, opGetp]; repeat' split
      all_goals first | exact .refl _ | exact one _ (.getp i) | exact .snoc _ (good_promiseS _ good_fresh)
  | lshift i =>
      simp only [step, opLshift]; repeat' split
      all_goals first | exact .refl _ | exact one _ (.lshift i)
  | resolve k rk =>
      simp only [step, opResolve]; repeat' split
      all_goals first | exact .refl _ | exact one _ (.resolve k rk)
  | see sp i =>
      simp only [step, opSee]; repeat' split
      all_goals first | exact .refl _ | exact one _ (.await _ _ _)
  | take i =>
      simp only [step, opTake]; repeat' split
      all_goals first | exact .refl _ | exact one _ (.take i)

theorem Eff.good {op : Op} {x y : SState} (e : Eff op x y) (h : Good x) : Good y := by
  cases e with
  | inc | dec | await => exact ⟨h.1, h.2, h.3⟩
  | getp | lshift => exact good_promiseS _ h
  | resolve => exact good_resolveS _ _ h
  | take => exact good_takeS _ h

theorem Evolves.good {op : Op} {l l' : List SState} (e : Evolves op l l') (h : ∀ ss ∈ l, Good ss) : ∀ ss ∈ l', Good ss := by
  induction e with
  | refl => exact h
  | mod k f he _ ih =>
      intro y hy
      rcases mem_modAt f _ k y hy with h1 | ⟨x, hx, rfl⟩
      · exact ih y h1
      · exact (he x).good (ih x hx)
  | snoc hx =>
      intro y hy
      rcases List.mem_append.1 hy with h1 | h1
      · exact h y h1
      · exact List.mem_singleton.1 h1 ▸ hx

theorem Evolves.getElem? {op : Op} {l l' : List SState} {P : SState → Prop} (e : Evolves op l l')
    (hP : ∀ x y, Eff op x y → P x → P y) {j : Nat} {ss : SState} (h : l[j]? = some ss) (hp : P ss) :
    ∃ ss', l'[j]? = some ss' ∧ P ss' := by
  induction e with
  | refl => exact ⟨ss, h, hp⟩
  | mod k f he _ ih =>
      obtain ⟨y, hy, py⟩ := ih
      rw [getElem?_modAt]
      split
      · exact ⟨f y, by simp [hy], hP _ _ (he y) py⟩
      · exact ⟨y, hy, py⟩
  | snoc _ =>
      have hj : j < l.length := Classical.byContradiction fun hn => by
        rw [List.getElem?_eq_none (Nat.le_of_not_lt hn)] at h; cases h
      exact ⟨ss, by rw [List.getElem?_append_left hj]; exact h, hp⟩

theorem inv_init : Inv init := by intro ss h; simp [init] at h

theorem inv_step (s : St) (op : Op) (h : Inv s) : Inv (step s op).1 := (step_evolves s op).good h

theorem inv_run (s : St) (ops : List Op) (h : Inv s) : Inv (run s ops) :=
  List.foldlRecOn ops _ h fun s hs o _ => inv_step s o hs

theorem step_keeps_val {s : St} (hs : Inv s) (op : Op) (hop : ∀ i, op ≠ Op.take i) {k v : Nat} {ss : SState}
    (h : s.states[k]? = some ss) (hv : ss.res = Res.val v true) :
    ∃ ss', (step s op).1.states[k]? = some ss' ∧ ss'.res = Res.val v true := by
  -- a state that holds a value is resolved: attaching a promise or using one does nothing to it
  have keep (x y : SState) (e : Eff op x y) (hx : Good x ∧ x.res = Res.val v true) : Good y ∧ y.res = Res.val v true := by
    obtain ⟨hph, hnp⟩ := hx.1.of_val hx.2
    refine ⟨e.good hx.1, ?_⟩
    cases e with
    | inc | dec | await => exact hx.2
    | getp | lshift => simpa [promiseS, hph] using hx.2
    | resolve => simpa [resolveS, hnp] using hx.2
    | take i => exact absurd rfl (hop i)
  obtain ⟨ss', h1, _, h2⟩ := (step_evolves s op).getElem? keep h ⟨hs ss (List.mem_of_getElem? h), hv⟩
  exact ⟨ss', h1, h2⟩

theorem good_of_run (ops : List Op) {k : Nat} {ss : SState} (h : (run init ops).states[k]? = some ss) : Good ss :=
  inv_run init ops inv_init ss (List.mem_of_getElem? h)

/-- what every later access depends on -/
def view (ss : SState) : Phase × Res × Option RK × Bool := (ss.phase, ss.res, ss.resolvedBy, ss.taken)

/-- the calls meant to change what a state holds -/
def Op.mutates : Op → Bool
  | Op.resolve _ _ => true
  | Op.take _ => true
  | Op.getp _ => true
  | Op.lshift _ => true
  | _ => false

theorem Eff.view {op : Op} {x y : SState} (e : Eff op x y) (hq : op.mutates = false) : view y = view x := by
  cases e with
  | inc | dec | await => rfl
  | _ => cases hq

end Cocls.SharedFutureApi
