import CoclsModel.Generator
/-!
Invariant `Inv` of the generator model (`CoclsModel/Generator.lean`), preserved by every body statement and every consumer
operation; `Next` pairs it with what no operation changes (`Stable`), `next_run` is the induction over the operation list; `Ran`
says where the body stands after it has run.  The property theorems are in `Props/C13.lean`.

What an operation writes: `value`, `active`, `futWait`, `futGet`, `itDeref`, `itIsEnd` nothing; `futAwait` / `futHas` only `reader`
and the log `evs` (`reader` is no ghost field: `wakeReader` branches on it); `syncEnd`, `keep`, `itDrop`, `ctx`, `destroy` do not
resume the body; `complete k` resumes it if it is parked on `k`; the others are accesses, which arm `_caller` and resume it unless
it has finished (`inv_arm`; `ktest` only reads once `kstate` is set).
-/
namespace Cocls.Gen

def midAccess (s : State) : Bool :=
  match s.bst with
  | .run => true
  | .await _ => true
  | _ => false

/-- the item handed over to a synchronous access that has not yet returned to the consumer (`_block` is set, the consumer
thread has not left `_block.wait` yet) -/
def pend (s : State) : List Item := if inSync s && s.block then [cur s] else []

structure Inv (s : State) : Prop where
  noub : s.ub = false
  /-- delivered ++ handed over ++ still to come = the whole sequence -/
  seq_run : s.bst ≠ .final → s.obs ++ pend s ++ expectedFrom s.acc s.script = expected s.script0
  seq_fin : s.bst = .final → s.obs ++ pend s = expected s.script0
  flags_run : s.bst ≠ .final → s.done = false ∧ s.exp = false
  flags_fin : s.bst = .final → s.done = !s.exp
  ret_yield : s.bst = .yield → s.ret ≠ none ∧ (s.obs ++ pend s).getLast? = s.ret.map Item.val
  ret_fin : s.bst = .final → s.ret = none
  /-- `_caller` is set exactly while the body is inside an access — or after `next_async` threw -/
  busy_iff : s.caller ≠ .none ↔ (midAccess s = true ∨ s.stuck = true)
  stuck_fin : s.stuck = true → s.bst = .final ∧ s.caller = .awt ∧ s.post ≠ []
  /-- whoever `_caller` designates is really waiting -/
  c_awt : s.caller = .awt → s.stuck = false → s.cons = .parked ∧ s.fut ≠ .pending
  c_int : s.caller = .internal →
      (s.ifn = .sync ∧ inSync s = true ∧ s.block = false ∧ s.fut ≠ .pending) ∨
      (s.ifn = .future ∧ s.awaiting = true ∧ s.fut = .pending ∧ s.cons = .idle)
  c_none : midAccess s = false → s.cons ≠ .parked ∧ s.fut ≠ .pending ∧ (inSync s = true → s.block = true)
  reader_pending : s.reader ≠ none → s.fut = .pending
  arg_ok : s.mode = true → midAccess s = true → s.arg = some s.lastArg
  guards : ∀ g, s.dtors.count g + s.live.count g = if g < s.made then 1 else 0
  live_fin : s.bst = .final → s.live = []
  live_dead : s.alive = false → s.live = [] ∧ midAccess s = false
  got_ok : ∀ p ∈ s.gotLog, p.1 = p.2
  post_end : ∀ e ∈ s.post, e = .fin ∨ e = .nomore
  post_fin : s.post ≠ [] → s.bst = .final
  post_exc : s.exp = true → ∀ e ∈ s.post, e = .nomore
  await_unres : ∀ k, s.bst = .await k → k ∉ s.resolved
  seen_eq : s.seen = s.obs ++ s.post
  sync_post : inSync s = true → s.post = []
  arg_last : s.mode = true → s.arg = none ∨ s.arg = some s.lastArg
  acc_ret : s.bst = .yield → s.atAcc = true → s.ret = some s.acc
  acc_ok : ∀ p ∈ s.accLog, p.1 = p.2

/-! the derived notions as functions of the fields they read, so that `simp` sees through record updates -/

def curOf (done exp : Bool) (ret : Option Nat) : Item :=
  if done then .fin else if exp then .exc else match ret with
    | some v => .val v
    | none => .notready
def inSyncC : Cons → Bool
  | .inSync _ => true
  | _ => false
def midB : BSt → Bool
  | .run => true
  | .await _ => true
  | _ => false
def pendOf (c : Cons) (block done exp : Bool) (ret : Option Nat) : List Item :=
  if inSyncC c && block then [curOf done exp ret] else []

theorem cur_eq (s : State) : cur s = curOf s.done s.exp s.ret := by
  unfold cur readVal curOf; cases s.ret <;> rfl
theorem inSync_eq (s : State) : inSync s = inSyncC s.cons := by
  unfold inSync inSyncC; cases s.cons <;> rfl
theorem midAccess_eq (s : State) : midAccess s = midB s.bst := by
  unfold midAccess midB; cases s.bst <;> rfl
theorem pend_eq (s : State) : pend s = pendOf s.cons s.block s.done s.exp s.ret := by
  simp only [pend, pendOf, cur_eq, inSync_eq]
theorem inflight_eq (s : State) : inflight s = (s.cons == .parked || s.fut == .pending) := rfl

@[simp] theorem midB_run : midB .run = true := rfl
@[simp] theorem midB_await (k : Nat) : midB (.await k) = true := rfl
@[simp] theorem midB_init : midB .init = false := rfl
@[simp] theorem midB_yield : midB .yield = false := rfl
@[simp] theorem midB_final : midB .final = false := rfl
@[simp] theorem inSyncC_idle : inSyncC .idle = false := rfl
@[simp] theorem inSyncC_parked : inSyncC .parked = false := rfl
@[simp] theorem inSyncC_inSync (k : SyncKind) : inSyncC (.inSync k) = true := rfl
theorem inSyncC_true {c : Cons} : inSyncC c = true ↔ ∃ k, c = .inSync k := by
  cases c <;> simp [inSyncC]
@[simp] theorem pendOf_idle (b d e : Bool) (r : Option Nat) : pendOf .idle b d e r = [] := rfl
@[simp] theorem pendOf_parked (b d e : Bool) (r : Option Nat) : pendOf .parked b d e r = [] := rfl
@[simp] theorem pendOf_noblock (c : Cons) (d e : Bool) (r : Option Nat) : pendOf c false d e r = [] := by
  simp [pendOf]
@[simp] theorem pendOf_sync (k : SyncKind) (d e : Bool) (r : Option Nat) :
    pendOf (.inSync k) true d e r = [curOf d e r] := rfl
@[simp] theorem curOf_val (v : Nat) : curOf false false (some v) = .val v := rfl
@[simp] theorem curOf_fin (e : Bool) (r : Option Nat) : curOf true e r = .fin := rfl
@[simp] theorem curOf_exc (r : Option Nat) : curOf false true r = .exc := rfl

theorem mid_run {s : State} (hr : s.bst = .run) : midAccess s = true := by rw [midAccess_eq, hr]; rfl
theorem mid_await {s : State} {k : Nat} (hk : s.bst = .await k) : midAccess s = true := by rw [midAccess_eq, hk]; rfl

@[simp] theorem expectedFrom_awaitReady (acc : Nat) (r : List Act) : expectedFrom acc (.awaitReady :: r) = expectedFrom acc r := rfl
@[simp] theorem expectedFrom_pause (acc : Nat) (r : List Act) : expectedFrom acc (.pause :: r) = expectedFrom acc r := rfl
@[simp] theorem expectedFrom_yieldNull (acc : Nat) (r : List Act) : expectedFrom acc (.yieldNull :: r) = expectedFrom acc r := rfl
@[simp] theorem expectedFrom_guard (acc : Nat) (r : List Act) : expectedFrom acc (.guard :: r) = expectedFrom acc r := rfl
@[simp] theorem expectedFrom_await (acc k : Nat) (r : List Act) : expectedFrom acc (.await k :: r) = expectedFrom acc r := rfl
@[simp] theorem expectedFrom_yield (acc v : Nat) (r : List Act) :
    expectedFrom acc (.yield v :: r) = .val v :: expectedFrom acc r := rfl
@[simp] theorem expectedFrom_yieldAcc (acc c : Nat) (r : List Act) :
    expectedFrom acc (.yieldAcc c :: r) = .val (acc * 10 + c) :: expectedFrom (acc * 10 + c) r := rfl
@[simp] theorem expectedFrom_throw (acc : Nat) (r : List Act) : expectedFrom acc (.throw :: r) = [.exc] := rfl
@[simp] theorem expectedFrom_ret (acc : Nat) (r : List Act) : expectedFrom acc (.ret :: r) = [.fin] := rfl
@[simp] theorem expectedFrom_nil (acc : Nat) : expectedFrom acc [] = [.fin] := rfl

theorem expectedFrom_insert {x : Act} (hx : ∀ acc r, expectedFrom acc (x :: r) = expectedFrom acc r) (a b : List Act) :
    ∀ acc, expectedFrom acc (a ++ x :: b) = expectedFrom acc (a ++ b) := by
  induction a with
  | nil => exact fun acc => hx acc b
  | cons y a ih => intro acc; cases y <;> simp [ih]

theorem recvArg_eq (s : State) :
    recvArg s = { s with ub := (recvArg s).ub, evs := (recvArg s).evs, gotLog := (recvArg s).gotLog } := by
  unfold recvArg; split
  · split <;> rfl
  · rfl

theorem seeAcc_eq (s : State) :
    seeAcc s = { s with atAcc := (seeAcc s).atAcc, evs := (seeAcc s).evs, accLog := (seeAcc s).accLog } := by
  unfold seeAcc; split <;> rfl

theorem wakeReader_eq (s : State) (i : Item) :
    wakeReader s i = { s with reader := none, evs := (wakeReader s i).evs } := by
  unfold wakeReader; split
  next h => rw [← h]
  all_goals rfl

theorem deliver_eq (t : State) :
    deliver t = { t with caller := (deliver t).caller, arg := (deliver t).arg, cons := (deliver t).cons,
                         block := (deliver t).block, awaiting := (deliver t).awaiting, fut := (deliver t).fut,
                         reader := (deliver t).reader, seen := (deliver t).seen, obs := (deliver t).obs,
                         kstate := (deliver t).kstate, evs := (deliver t).evs, ub := (deliver t).ub } := by
  unfold deliver unblockFuture unblockSync resumeAwt
  repeat' split
  all_goals first | rfl | rw [wakeReader_eq]

def pos (s : State) : BSt × List Act := (s.bst, s.script)

@[simp] theorem pos_recvArg (s : State) : pos (recvArg s) = pos s := by rw [recvArg_eq]; rfl
@[simp] theorem pos_seeAcc (s : State) : pos (seeAcc s) = pos s := by rw [seeAcc_eq]; rfl

theorem resumeInQueue_eq (s : State) :
    resumeInQueue s = resumeBody { s with qinst := if s.coro then s.qinst else s.qinst + 1 } := by
  unfold resumeInQueue; split <;> rfl

theorem setArg_eq (s : State) (a : Nat) : setArg s a = { s with arg := if s.mode then some a else s.arg, lastArg := a } := by
  unfold setArg; split <;> simp [*]

@[simp] theorem setArg_done (s : State) (a : Nat) : (setArg s a).done = s.done := by rw [setArg_eq]

theorem Inv.not_stuck {s : State} (h : Inv s) (hf : s.bst ≠ .final) : s.stuck = false :=
  Bool.eq_false_iff.mpr fun hs => hf (h.stuck_fin hs).1

theorem Inv.post_nil {s : State} (h : Inv s) (hf : s.bst ≠ .final) : s.post = [] :=
  Decidable.byContradiction fun hp => hf (h.post_fin hp)

theorem Inv.idle {s : State} (h : Inv s) (hc : s.caller = .none) : midAccess s = false ∧ s.stuck = false :=
  ⟨Bool.eq_false_iff.mpr fun hm => h.busy_iff.mpr (.inl hm) hc, Bool.eq_false_iff.mpr fun hs => h.busy_iff.mpr (.inr hs) hc⟩

theorem Inv.done_fin {s : State} (h : Inv s) (hd : s.done = true) : s.bst = .final ∧ s.exp = false := by
  have hf : s.bst = .final := Decidable.byContradiction fun hf => by have := (h.flags_run hf).1; rw [hd] at this; cases this
  have := h.flags_fin hf
  exact ⟨hf, by cases he : s.exp <;> simp_all⟩

/-- exactly one consumer access waits for the body, and `_caller` (`c`, with the function `i` in `_internal`) designates it:
a parked consumer coroutine or callback, a blocked synchronous access, or a pending future -/
def Waits (c : Caller) (i : IFn) (cn : Cons) (bl aw : Bool) (f : FutSt) : Prop :=
  c = .awt ∧ cn = .parked ∧ f ≠ .pending ∨
  c = .internal ∧ i = .sync ∧ inSyncC cn = true ∧ bl = false ∧ f ≠ .pending ∨
  c = .internal ∧ i = .future ∧ aw = true ∧ f = .pending ∧ cn = .idle

theorem Inv.waits {s : State} (h : Inv s) (hm : midAccess s = true) :
    Waits s.caller s.ifn s.cons s.block s.awaiting s.fut := by
  have hst := h.not_stuck fun hf => by rw [midAccess_eq, hf] at hm; cases hm
  cases hc : s.caller with
  | none => exact absurd hc (h.busy_iff.mpr (.inl hm))
  | awt => exact .inl ⟨rfl, h.c_awt hc hst⟩
  | internal => exact .inr ((inSync_eq s ▸ h.c_int hc).imp (⟨rfl, ·⟩) (⟨rfl, ·⟩))

theorem Inv.alive {s : State} (h : Inv s) (hm : midAccess s = true) : s.alive = true := by
  cases ha : s.alive
  · rw [(h.live_dead ha).2] at hm; cases hm
  · rfl

theorem Waits.pend {c i cn bl aw f} (hw : Waits c i cn bl aw f) (d e : Bool) (r : Option Nat) : pendOf cn bl d e r = [] := by
  rcases hw with ⟨_, hc, _⟩ | ⟨_, _, _, hb, _⟩ | ⟨_, _, _, _, hc⟩ <;> simp [*]

theorem Waits.busy {c i cn bl aw f} (hw : Waits c i cn bl aw f) : c ≠ .none := by
  rcases hw with hw | hw | hw <;> rw [hw.1] <;> nofun

theorem inv_init (mode : Bool) (sc : List Act) : Inv (init mode sc) := by
  constructor <;> simp [init, pend, inSync, midAccess, expected]

theorem inv_it {s : State} (h : Inv s) (x : Option Bool) : Inv { s with it := x } := { h with }
theorem inv_kfields {s : State} (h : Inv s) (k : Option Nat) (b : Bool) : Inv { s with kept := k, kstate := b } :=
  { h with }

theorem forall_mem_concat {α} {p : α → Prop} {l : List α} (hl : ∀ x ∈ l, p x) {a : α} (ha : p a) :
    ∀ x ∈ l ++ [a], p x :=
  List.forall_mem_append.mpr ⟨hl, List.forall_mem_singleton.mpr ha⟩

theorem inv_skip {s : State} (h : Inv s) (rest : List Act)
    (he : expectedFrom s.acc s.script = expectedFrom s.acc rest) : Inv { s with script := rest } :=
  { h with seq_run := fun hf => he ▸ h.seq_run hf }

theorem inv_recvArg {s : State} (h : Inv s) (hr : s.bst = .run) : Inv (recvArg s) := by
  unfold recvArg
  split
  · have ha := h.arg_ok ‹_› (mid_run hr)
    split
    next a heq => exact { h with got_ok := forall_mem_concat h.got_ok (Option.some.inj (heq.symm.trans ha)) }
    next heq => exact absurd (heq.symm.trans ha) nofun
  · exact h

theorem inv_seeAcc {s : State} (h : Inv s) (hr : s.bst = .run) (hacc : s.atAcc = true → s.ret = some s.acc) :
    Inv (seeAcc s) := by
  unfold seeAcc
  split
  · exact { h with acc_ret := fun hy => absurd (hr.symm.trans hy) nofun
                   acc_ok := forall_mem_concat h.acc_ok (by simp [hacc ‹_›]) }
  · exact h

theorem inv_guard {s : State} (h : Inv s) (hr : s.bst = .run) :
    Inv { s with live := s.live ++ [s.made], made := s.made + 1 } :=
  { h with
    guards := fun g => by
      have := h.guards g
      have := h.guards s.made
      simp only [List.count_append, List.count_singleton, beq_iff_eq] at *
      grind
    live_fin := fun hf => absurd (hr.symm.trans hf) nofun
    live_dead := fun hal => absurd (h.live_dead hal).2 (by simp [mid_run hr]) }

theorem inv_unwind {s : State} (h : Inv s) (e : List Ev) :
    Inv { s with dtors := s.dtors ++ s.live, live := [], evs := e } :=
  { h with
    guards := fun g => by simpa [List.count_append] using h.guards g
    live_fin := fun _ => rfl
    live_dead := fun hal => ⟨rfl, (h.live_dead hal).2⟩ }

/-- The running body `s` stops at a `co_yield` or ends: the position `b`, the rest `sc` of its script, the hand-over record
(`r`, `e`, `d`) and the variable (`a`, `aa`) it leaves fit together, and `curOf d e r` is the next item of the sequence. -/
structure Stops (s : State) (b : BSt) (sc : List Act) (r : Option Nat) (a : Nat) (aa e d : Bool) : Prop where
  pos : b = .yield ∨ b = .final
  flags_run : b ≠ .final → d = false ∧ e = false
  flags_fin : b = .final → d = !e
  ret_yield : b = .yield → r ≠ none
  ret_fin : b = .final → r = none
  live_fin : b = .final → s.live = []
  acc_ret : b = .yield → aa = true → r = some a
  seq_run : b ≠ .final → expectedFrom s.acc s.script = curOf d e r :: expectedFrom a sc
  seq_fin : b = .final → expectedFrom s.acc s.script = [curOf d e r]

/-- at a `co_yield` of `v`, which leaves `a` in the body's variable (the variable itself was yielded: `aa`) -/
theorem Stops.atYield {s : State} (hfl : s.done = false ∧ s.exp = false) {v a : Nat} {aa : Bool} {sc : List Act}
    (he : expectedFrom s.acc s.script = .val v :: expectedFrom a sc) (hacc : aa = true → v = a) :
    Stops s .yield sc (some v) a aa s.exp s.done :=
  { pos := .inl rfl, flags_run := fun _ => hfl, flags_fin := nofun, ret_yield := fun _ => nofun, ret_fin := nofun,
    live_fin := nofun, acc_ret := fun _ h => congrArg some (hacc h), seq_run := fun _ => by simpa [hfl] using he,
    seq_fin := nofun }

section
variable {s : State} (h : Inv s) (hr : s.bst = .run) {b : BSt} {sc : List Act} {r : Option Nat} {a : Nat} {aa e d : Bool}
  (hs : Stops s b sc r a aa e d)
include h hr hs

/-- … and the item has been handed to whoever asked: nobody waits any more (`cn`, `bl`, `f`), and what was handed over
(`ob`, with what a synchronous access has not picked up yet) has grown by exactly that item -/
theorem inv_served {cn : Cons} {bl : Bool} {f : FutSt} {ob : List Item} (i : IFn) (aw ks : Bool) (ev : List Ev)
    (hcn : cn ≠ .parked) (hf : f ≠ .pending) (hbl : inSyncC cn = true → bl = true)
    (hob : ob ++ pendOf cn bl d e r = s.obs ++ [curOf d e r]) :
    Inv { s with bst := b, script := sc, ret := r, acc := a, atAcc := aa, exp := e, done := d, caller := .none, ifn := i,
                 arg := none, cons := cn, block := bl, awaiting := aw, fut := f, reader := none, seen := ob, obs := ob,
                 kstate := ks, evs := ev } :=
  have hm := mid_run hr
  have hb : midB b = false := by rcases hs.pos with rfl | rfl <;> rfl
  have hnf : s.bst ≠ .final := by simp [hr]
  have hp := h.post_nil hnf
  have hst := h.not_stuck hnf
  have hseq : s.obs ++ expectedFrom s.acc s.script = expected s.script0 := by
    simpa [pend_eq, (h.waits hm).pend] using h.seq_run hnf
  { h with
    seq_run := fun hf => by rw [pend_eq]; show ob ++ pendOf cn bl d e r ++ _ = _; rw [hob, ← hseq, hs.seq_run hf]; simp
    seq_fin := fun hf => by rw [pend_eq]; show ob ++ pendOf cn bl d e r = _; rw [hob, ← hseq, hs.seq_fin hf]
    flags_run := hs.flags_run
    flags_fin := hs.flags_fin
    ret_yield := fun (hy : b = .yield) => ⟨hs.ret_yield hy, by
      obtain ⟨hd, he⟩ := hs.flags_run (by simp [hy])
      have := hs.ret_yield hy
      rw [pend_eq]; show (ob ++ pendOf cn bl d e r).getLast? = _
      rw [hob]; cases r <;> simp_all⟩
    ret_fin := hs.ret_fin
    busy_iff := ⟨fun hc => absurd rfl hc, fun hc => by simp [midAccess_eq, hb, hst] at hc⟩
    stuck_fin := fun hs => by simp [hst] at hs
    c_awt := nofun
    c_int := nofun
    c_none := fun _ => ⟨hcn, hf, by rw [inSync_eq]; exact hbl⟩
    reader_pending := fun hn => absurd rfl hn
    arg_ok := fun _ hm => by simp [midAccess_eq, hb] at hm
    live_fin := hs.live_fin
    live_dead := fun ha => absurd ((h.live_dead ha).2) (by simp [hm])
    post_fin := fun hn => absurd hp hn
    post_exc := fun _ => by simp [hp]
    await_unres := fun k (hk : b = .await k) => by simp [hk] at hb
    seen_eq := by simp [hp]
    sync_post := fun _ => hp
    arg_last := fun _ => .inl rfl
    acc_ret := hs.acc_ret }

theorem inv_deliver (ev : List Ev) :
    Inv (deliver { s with bst := b, script := sc, ret := r, acc := a, atAcc := aa, exp := e, done := d, evs := ev }) := by
  have hso : s.seen = s.obs := by simpa [h.post_nil (by simp [hr])] using h.seen_eq
  have hrn (hf : s.fut ≠ .pending) : s.reader = none := Decidable.byContradiction fun hn => hf (h.reader_pending hn)
  rcases h.waits (mid_run hr) with ⟨hc, hcn, hf⟩ | ⟨hc, hi, hsy, hbl, hf⟩ | ⟨hc, hi, ha, hf, hcn⟩
  · simp only [deliver, hc, resumeAwt]
    rw [hrn hf, hso]
    exact inv_served h hr hs _ _ _ _ nofun hf nofun (by simp [cur_eq])
  · obtain ⟨k, hk⟩ := inSyncC_true.mp hsy
    simp only [deliver, hc, hi, unblockSync]
    rw [hrn hf, hso]
    refine inv_served h hr hs _ _ _ _ ?_ hf ?_ ?_ <;> simp [hk]
  · -- `unblock_future` finds a value, an exception or the end to resolve the future with
    have : (!d && !e && r.isNone) = false := by
      rcases hs.pos with hb | hb
      · cases r <;> simp [hs.flags_run (by simp [hb])] ; exact hs.ret_yield hb rfl
      · simp [hs.flags_fin hb]
    simp only [deliver, hc, hi, unblockFuture, ha, this, ↓reduceIte, Bool.false_eq_true]
    rw [wakeReader_eq, hso]
    refine inv_served h hr hs _ _ _ _ ?_ ?_ ?_ ?_ <;> simp [hcn, cur_eq]
end

theorem inv_finish {s : State} (h : Inv s) (hr : s.bst = .run) (threw : Bool)
    (he : expectedFrom s.acc s.script = [if threw then Item.exc else Item.fin]) : Inv (finish s threw) :=
  have hfl := h.flags_run (by simp [hr])
  inv_deliver (inv_unwind h (s.evs ++ s.live.map .dtor)) hr (b := .final) (r := none)
    { pos := .inr rfl, flags_run := (absurd rfl), flags_fin := fun _ => by simp [hfl], ret_yield := nofun,
      ret_fin := fun _ => rfl, live_fin := fun _ => rfl, acc_ret := nofun, seq_run := (absurd rfl),
      seq_fin := fun _ => by cases threw <;> simpa [hfl] using he } _

/-- while the body is inside an access, the invariant does not distinguish running from parked on an unresolved operation -/
theorem inv_mid {s : State} (h : Inv s) (hs : midAccess s = true) {b : BSt} (hb : midB b = true)
    (ha : ∀ k, b = .await k → k ∉ s.resolved) : Inv { s with bst := b } :=
  have hsb : midB s.bst = true := midAccess_eq s ▸ hs
  have hsf : s.bst ≠ .final := fun hf => by simp [hf] at hsb
  have hbf : b ≠ .final := fun hf => by simp [hf] at hb
  have hby : b ≠ .yield := fun hy => by simp [hy] at hb
  { h with
    seq_run := fun _ => h.seq_run hsf
    seq_fin := fun hf => absurd hf hbf
    flags_run := fun _ => h.flags_run hsf
    flags_fin := fun hf => absurd hf hbf
    ret_yield := fun hy => absurd hy hby
    ret_fin := fun hf => absurd hf hbf
    busy_iff := h.busy_iff.trans (by simp [midAccess_eq, hb, hsb])
    stuck_fin := fun hst => absurd (h.stuck_fin hst).1 hsf
    c_none := fun hm => by simp [midAccess_eq, hb] at hm
    arg_ok := fun hmode _ => h.arg_ok hmode hs
    live_fin := fun hf => absurd hf hbf
    live_dead := fun hal => absurd (h.live_dead hal).2 (by simp [hs])
    post_fin := fun hp => absurd (h.post_fin hp) hsf
    await_unres := ha
    acc_ret := fun hy => absurd hy hby }

theorem inv_exec : ∀ (sc : List Act) (s : State), Inv s → s.bst = .run → s.script = sc → Inv (exec sc s)
  | [], s, h, hr, hs | .ret :: _, s, h, hr, hs => by
      unfold exec; exact inv_finish h hr false (by simp [hs])
  | .throw :: _, s, h, hr, hs => by
      unfold exec; exact inv_finish h hr true (by simp [hs])
  | .yield v :: rest, s, h, hr, hs => by
      unfold exec; exact inv_deliver h hr (.atYield (aa := false) (a := s.acc) (sc := rest) (h.flags_run (by simp [hr])) (by simp [hs]) nofun) _
  | .yieldAcc c :: rest, s, h, hr, hs => by
      unfold exec; exact inv_deliver h hr (.atYield (aa := true) (sc := rest) (h.flags_run (by simp [hr])) (by simp [hs]) fun _ => rfl) _
  | .yieldNull :: rest, s, h, hr, hs => by
      unfold exec
      exact inv_exec rest _ (inv_recvArg (inv_skip h rest (by simp [hs])) hr) (by rw [recvArg_eq]; exact hr) (by rw [recvArg_eq])
  | .awaitReady :: rest, s, h, hr, hs | .pause :: rest, s, h, hr, hs => by
      unfold exec
      exact inv_exec rest _ (inv_skip h rest (by simp [hs])) hr rfl
  | .await k :: rest, s, h, hr, hs => by
      unfold exec
      have h1 := inv_skip h rest (by simp [hs])
      split
      · exact inv_exec rest _ h1 hr rfl
      · exact inv_mid h1 (mid_run hr) rfl (fun _ hk => by cases hk; assumption)
  | .guard :: rest, s, h, hr, hs => by
      unfold exec
      exact inv_exec rest _ (inv_guard (inv_skip h rest (by simp [hs])) hr) hr rfl

theorem inv_resumeBody {t : State} (hrun : Inv { t with bst := .run })
    (hb : t.bst = .init ∨ t.bst = .yield ∨ ∃ k, t.bst = .await k)
    (hacc : t.bst = .yield → t.atAcc = true → t.ret = some t.acc) : Inv (resumeBody t) := by
  unfold resumeBody
  rcases hb with hb | hb | ⟨k, hb⟩ <;> simp only [hb]
  · exact inv_exec _ _ hrun rfl rfl
  · exact inv_exec _ _ (inv_seeAcc (inv_recvArg hrun rfl) (by rw [recvArg_eq]) (by rw [recvArg_eq]; exact hacc hb))
      (by rw [seeAcc_eq, recvArg_eq]) (by rw [seeAcc_eq, recvArg_eq])
  · exact inv_exec _ _ hrun rfl rfl

/-- the body, run from `s` with `n` statements left, stopped in `t` -/
def Ran (n : Nat) (s t : State) : Prop :=
  t.script0 = s.script0 ∧ (t.bst = .final ∨ t.script.length < n) ∧
    (t.bst = .final ∨ t.bst = .yield ∨ ∃ k, t.bst = .await k)

theorem Ran.after {n : Nat} {s u t : State} (h : Ran n u t) (h0 : u.script0 = s.script0) :
    Ran (n + 1) s t :=
  ⟨h.1.trans h0, h.2.1.imp_right fun h => Nat.lt_succ_of_lt h, h.2.2⟩

theorem exec_ran : ∀ (sc : List Act) (s : State), Ran sc.length s (exec sc s)
  | [], s | .throw :: _, s | .ret :: _, s => by
      unfold exec finish; rw [deliver_eq]; exact ⟨rfl, .inl rfl, .inl rfl⟩
  | .yield v :: rest, s => by
      unfold exec yieldAt; rw [deliver_eq]; exact ⟨rfl, .inr (Nat.lt_succ_self _), .inr (.inl rfl)⟩
  | .yieldAcc c :: rest, s => by
      unfold exec yieldAccAt; rw [deliver_eq]; exact ⟨rfl, .inr (Nat.lt_succ_self _), .inr (.inl rfl)⟩
  | .yieldNull :: rest, s => by
      unfold exec; exact (exec_ran rest _).after (by rw [recvArg_eq])
  | .awaitReady :: rest, s | .pause :: rest, s | .guard :: rest, s => by
      unfold exec; exact (exec_ran rest _).after rfl
  | .await k :: rest, s => by
      unfold exec; split
      · exact (exec_ran rest _).after rfl
      · exact ⟨rfl, .inr (Nat.lt_succ_self _), .inr (.inr ⟨k, rfl⟩)⟩

/-- the whole script is never written, and `run` is only an intermediate position inside one operation -/
def Stable (s t : State) : Prop := t.script0 = s.script0 ∧ (s.bst ≠ .run → t.bst ≠ .run)

theorem Stable.trans {s t u : State} (h1 : Stable s t) (h2 : Stable t u) : Stable s u :=
  ⟨h2.1.trans h1.1, fun h => h2.2 (h1.2 h)⟩

theorem Stable.resume {s t : State} (h : Stable s t) : Stable s (resumeBody t) := by
  refine h.trans ?_
  unfold resumeBody; split
  iterate 3  -- `init`, `yield`, `await _`: the body runs
    obtain ⟨h0, _, hp⟩ := exec_ran t.script _
    refine ⟨h0.trans ?_, fun _ => by rcases hp with hp | hp | ⟨k, hp⟩ <;> rw [hp] <;> nofun⟩
    first | rfl | rw [seeAcc_eq, recvArg_eq]
  exact ⟨rfl, id⟩

/-- what is known of `t` once an operation, or a part of one, has taken `s` there -/
structure Next (s t : State) : Prop where
  inv : Inv t
  stable : Stable s t

theorem Next.same {s t : State} (inv : Inv t) (h0 : t.script0 = s.script0 := by rfl)
    (hb : t.bst = s.bst := by rfl) : Next s t :=
  ⟨inv, h0, fun h => hb ▸ h⟩

theorem Next.trans {s t u : State} (h1 : Next s t) (h2 : Next t u) : Next s u := ⟨h2.inv, h1.stable.trans h2.stable⟩

theorem Next.resume {s t : State} (h : Inv (resumeBody t)) (hs : Stable s t := by exact ⟨rfl, id⟩) :
    Next s (resumeBody t) :=
  ⟨h, .resume hs⟩

theorem next_endSync {s t : State} (h : Next s t) (kind : SyncKind) (b : Bool) : Next s (endSync t kind b).1 := by
  unfold endSync
  cases kind <;> first | exact h | exact ⟨{ h.inv with }, h.stable⟩

structure Ready (s : State) : Prop where
  inv : Inv s
  alive : s.alive = true
  idle : s.caller = .none
  nosync : inSync s = false
  arg : s.mode = true → s.arg = some s.lastArg

theorem Ready.cons {s : State} (h : Ready s) : s.cons = .idle := by
  have h1 := (h.inv.c_none (h.inv.idle h.idle).1).1
  have h2 := inSync_eq s ▸ h.nosync
  cases hc : s.cons <;> simp [hc] at h1 h2 ⊢

theorem Ready.fut {s : State} (h : Ready s) : s.fut ≠ .pending := (h.inv.c_none (h.inv.idle h.idle).1).2.1

theorem ready_kept {s : State} (h : Inv s) (hal : s.alive = true) (hns : inSync s = false) (hc : s.caller = .none)
    {a : Nat} (hk : keptArgOk s a = true) : Ready s :=
  ⟨h, hal, hc, hns, fun hm => (h.arg_last hm).resolve_left fun hn => by simp [keptArgOk, hm, hn] at hk⟩

theorem inv_arm {t : State} (ht : Ready t) (hf : ¬(t.bst == .final) = true) {c : Caller} {i : IFn} {cn : Cons} {bl aw : Bool} {f : FutSt}
    (hw : Waits c i cn bl aw f) (hrd : f = .pending ∨ f = t.fut) (m : AwtKind) (q : Nat) :
    Inv (resumeBody { t with caller := c, ifn := i, cons := cn, block := bl, awaiting := aw, fut := f, awtKind := m,
                             qinst := q }) := by
  have h := ht.inv
  have hf : t.bst ≠ .final := by simpa using hf
  obtain ⟨hm, hst⟩ := h.idle ht.idle
  have hp := h.post_nil hf
  have hseq := h.seq_run hf
  rw [pend_eq, ht.cons, pendOf_idle, List.append_nil] at hseq
  refine inv_resumeBody ?_ ?_ h.acc_ret
  · exact { h with
      seq_run := fun _ => by rw [pend_eq]; show _ ++ pendOf cn bl _ _ _ ++ _ = _; rw [hw.pend, List.append_nil]; exact hseq
      seq_fin := nofun
      flags_run := fun _ => h.flags_run hf
      flags_fin := nofun
      ret_yield := nofun
      ret_fin := nofun
      busy_iff := ⟨fun _ => .inl rfl, fun _ => hw.busy⟩
      stuck_fin := fun hs => by simp [hst] at hs
      c_awt := fun (hc : c = .awt) _ => by rcases hw with hw | hw | hw <;> first | exact hw.2 | cases hc ▸ hw.1
      c_int := fun (hc : c = .internal) => by
        rw [inSync_eq]; rcases hw with hw | hw | hw <;> first | exact .inl hw.2 | exact .inr hw.2 | cases hc ▸ hw.1
      c_none := nofun
      reader_pending := fun hn => hrd.elim id fun hrd => hrd ▸ h.reader_pending hn
      arg_ok := fun hmode _ => ht.arg hmode
      live_fin := nofun
      live_dead := fun ha => by simp [ht.alive] at ha
      post_fin := fun hn => absurd hp hn
      await_unres := nofun
      sync_post := fun _ => hp
      arg_last := fun hmode => .inr (ht.arg hmode)
      acc_ret := nofun }
  · show t.bst = .init ∨ t.bst = .yield ∨ _
    rw [midAccess_eq] at hm
    cases hbt : t.bst <;> simp [hbt] at hm hf ⊢

/-- an access to a finished generator is answered without resuming the body: by throwing `no_more_values_exception`, or —
`await_ready` / `operator bool` look at `done()` first — with the end marker if the body returned -/
theorem inv_post {s : State} (h : Inv s) (hns : inSync s = false) {i : Item}
    (hi : i = .nomore ∧ (s.bst == .final) = true ∨ i = .fin ∧ s.done = true) (e : List Ev) :
    Inv { s with seen := s.seen ++ [i], post := s.post ++ [i], evs := e } :=
  have hf : s.bst = .final := hi.elim (eq_of_beq ·.2) fun hi => (h.done_fin hi.2).1
  { h with
    stuck_fin := fun hs => ⟨hf, (h.stuck_fin hs).2.1, by simp⟩
    post_end := forall_mem_concat h.post_end (hi.elim (.inr ·.1) (.inl ·.1))
    post_fin := fun _ => hf
    post_exc := fun he => forall_mem_concat (h.post_exc he) (hi.elim (·.1) fun hi => by simp [(h.done_fin hi.2).2] at he)
    seen_eq := by rw [h.seen_eq, List.append_assoc]
    sync_post := fun (hs : inSync s = true) => by rw [hns] at hs; cases hs }

/-- `next_async` on a finished generator stores `_caller` before it throws `no_more_values_exception` -/
theorem inv_thrown {t : State} (ht : Ready t) (hf : (t.bst == .final) = true) (e : List Ev) :
    Inv { t with caller := .awt, stuck := true, seen := t.seen ++ [.nomore], post := t.post ++ [.nomore], evs := e } :=
  { inv_post ht.inv ht.nosync (.inl ⟨rfl, hf⟩) e with
    busy_iff := ⟨fun _ => .inr rfl, fun _ => nofun⟩
    stuck_fin := fun _ => ⟨eq_of_beq hf, rfl, by simp⟩
    c_awt := nofun
    c_int := nofun }

/-- `_block.wait` returns -/
theorem inv_returned {s : State} (h : Inv s) {kind : SyncKind} (hk : s.cons = .inSync kind) (hb : s.block = true) :
    Inv { s with cons := .idle, seen := s.seen ++ [cur s], obs := s.obs ++ [cur s] } :=
  have hs : inSync s = true := by rw [inSync_eq, hk]; rfl
  have hp := h.sync_post hs
  have hpend : pend s = [cur s] := by rw [pend_eq, hk, hb, cur_eq]; rfl
  have hm : midAccess s = false := Bool.eq_false_iff.mpr fun hm => by
    rcases h.waits hm with hw | hw | hw <;> simp [hk, hb] at hw
  have hcn : s.caller = .none := Decidable.byContradiction fun hc =>
    (h.busy_iff.mp hc).elim (by simp [hm]) fun hst => (h.stuck_fin hst).2.2 hp
  { h with
    seq_run := fun hf => by simpa [hpend, pend_eq] using h.seq_run hf
    seq_fin := fun hf => by simpa [hpend, pend_eq] using h.seq_fin hf
    ret_yield := fun hy => by simpa [hpend, pend_eq] using h.ret_yield hy
    c_awt := fun hc => by rw [hcn] at hc; cases hc
    c_int := fun hc => by rw [hcn] at hc; cases hc
    c_none := fun _ => ⟨nofun, (h.c_none hm).2.1, nofun⟩
    seen_eq := by simp [h.seen_eq, hp]
    sync_post := nofun }

theorem next_syncGo {t : State} (ht : Ready t) (kind : SyncKind) : Next t (syncGo t kind).1 := by
  unfold syncGo
  split
  next hd => exact next_endSync (.same (inv_post ht.inv ht.nosync (.inr ⟨rfl, hd⟩) _)) kind false
  split
  next hf => exact .same (inv_post ht.inv ht.nosync (.inl ⟨rfl, hf⟩) _)
  next hf =>
    rw [resumeInQueue_eq]
    exact .resume (inv_arm ht hf (.inr (.inl ⟨rfl, rfl, rfl, rfl, ht.fut⟩)) (.inr rfl) _ _)

theorem next_anextGo {t : State} (ht : Ready t) : Next t (anextGo t).1 := by
  unfold anextGo
  split
  next hd => exact .same (inv_post ht.inv ht.nosync (.inr ⟨rfl, hd⟩) _)
  split
  next hf => exact .same (inv_thrown ht hf _)
  next hf => exact .resume (inv_arm ht hf (.inl ⟨rfl, rfl, ht.fut⟩) (.inr rfl) _ _)

theorem next_subGo {t : State} (ht : Ready t) : Next t (subGo t).1 := by
  unfold subGo
  split
  next hf => exact .same (inv_thrown ht hf _)
  next hf =>
    rw [resumeInQueue_eq]
    exact .resume (inv_arm ht hf (.inl ⟨rfl, rfl, ht.fut⟩) (.inr rfl) _ _)

theorem next_kawaitGo {t : State} (ht : Ready t) : Next t (kawaitGo t).1 := by
  unfold kawaitGo
  split
  next hd => exact .same (inv_kfields (inv_post ht.inv ht.nosync (.inr ⟨rfl, hd⟩) _) _ _)
  split
  next hf => exact .same (inv_thrown ht hf _)
  next hf => exact .resume (inv_arm ht hf (.inl ⟨rfl, rfl, ht.fut⟩) (.inr rfl) _ _)

theorem next_callGo {t : State} (ht : Ready t) : Next t (callGo t).1 := by
  unfold callGo
  split
  next hf => exact .same (inv_post ht.inv ht.nosync (.inl ⟨rfl, hf⟩) _)
  next hf =>
    rw [resumeInQueue_eq]
    exact .resume (inv_arm ht hf (.inr (.inr ⟨rfl, rfl, rfl, rfl, ht.cons⟩)) (.inl rfl) _ _)

theorem next_guarded {s : State} (h : Inv s) {r : State × Res}
    (hr : s.alive = true → inSync s = false → s.caller = .none → Next s r.1) :
    Next s (if !s.alive then (s, Res.gone) else if inSync s then (s, .blocked) else if s.caller != .none then (s, .busy)
      else r).1 := by
  split; exact .same h; split; exact .same h; split; exact .same h
  next h1 h2 h3 => exact hr (by simpa using h1) (by simpa using h2) (by simpa using h3)

/-- an access begins with `set_arg`; what follows (`go`) finds the generator ready -/
theorem next_access {s : State} (h : Inv s) (a : Nat) {go : State → State × Res} (hgo : ∀ {t}, Ready t → Next t (go t).1)
    (hal : s.alive = true) (hns : inSync s = false) (hc : s.caller = .none) : Next s (go (setArg s a)).1 := by
  rw [setArg_eq]
  have harg (hm : s.mode = true) : (if s.mode then some a else s.arg) = some a := by simp [hm]
  have hn := hgo (t := { s with arg := if s.mode then some a else s.arg, lastArg := a })
    ⟨{ h with arg_ok := fun _ (hm : midAccess s = true) => by rw [(h.idle hc).1] at hm; cases hm
              arg_last := fun hm => .inr (harg hm) }, hal, hc, hns, harg⟩
  exact ⟨hn.inv, hn.stable⟩

theorem next_stepSyncEnd {s : State} (h : Inv s) : Next s (stepSyncEnd s).1 := by
  unfold stepSyncEnd
  split
  next kind hk =>
    split
    next hb => exact next_endSync (.same (inv_returned h hk hb)) _ _
    exact .same h
  exact .same h

theorem next_stepKtest {s : State} (h : Inv s) : Next s (stepKtest s).1 := by
  unfold stepKtest
  split; exact .same h; split; exact .same h; split; exact .same h; split; exact .same h; split; exact .same h
  split; exact .same h
  next hal hns _ a _ _ hc hk =>
    exact next_syncGo (ready_kept h (by simpa using hal) (by simpa using hns) (by simpa using hc) (by simpa using hk)) _

theorem next_stepKawait {s : State} (h : Inv s) : Next s (stepKawait s).1 := by
  unfold stepKawait
  split; exact .same h; split; exact .same h; split; exact .same h; split; exact .same h; split; exact .same h
  next hal hns _ a _ hc hk =>
    exact next_kawaitGo (ready_kept h (by simpa using hal) (by simpa using hns) (by simpa using hc) (by simpa using hk))

theorem next_stepFutRead {s : State} (h : Inv s) (r : Reader) : Next s (stepFutRead s r).1 := by
  unfold stepFutRead
  split; exact .same h; split; exact .same h
  next hp => split; exact .same h; exact .same { h with reader_pending := fun _ => hp }
  exact .same { h with }

theorem inv_resolved {s : State} (h : Inv s) (r : List Nat) (hr : ∀ k, s.bst = .await k → k ∉ r) :
    Inv { s with resolved := r } :=
  { h with await_unres := hr }

theorem next_stepComplete {s : State} (h : Inv s) (k : Nat) : Next s (stepComplete s k).1 := by
  unfold stepComplete
  split; exact .same h
  next hk =>
    split
    next hb =>
      have hb : s.alive = true ∧ s.bst = .await k := by simpa using hb
      exact .resume (inv_resumeBody (inv_resolved (inv_mid h (mid_await hb.2) (b := .run) rfl nofun) _ nofun) (.inr (.inr ⟨k, hb.2⟩))
        (fun hy => by rw [hb.2] at hy; cases hy))
    next hb =>
      refine .same (inv_resolved h _ fun k' hk' hmem => ?_)
      have hal := h.alive (mid_await hk')
      rcases List.mem_cons.mp hmem with rfl | hmem
      · simp [hal, hk'] at hb
      · exact h.await_unres k' hk' hmem

theorem inv_dead {s : State} (h : Inv s) (hm : midAccess s = false) (hl : s.live = []) : Inv { s with alive := false } :=
  { h with live_dead := fun _ => ⟨hl, hm⟩ }

theorem next_stepDestroy {s : State} (h : Inv s) : Next s (stepDestroy s).1 := by
  unfold stepDestroy
  split; exact .same h; split; exact .same h; split; exact .same h
  split
  · exact .same h
  · exact .same h
  next hna hnr =>
    refine .same (inv_it (inv_dead (inv_unwind h _) ?_ rfl) none)
    show midAccess s = false
    rw [midAccess_eq]
    cases hb : s.bst <;> first | rfl | exact absurd hb (hna _) | exact absurd hb hnr

theorem next_step {s : State} (h : Inv s) (op : Op) : Next s (step s op).1 := by
  cases op with
  | syncBegin a => exact next_guarded h (next_access h a (next_syncGo · _))
  | syncEnd => exact next_stepSyncEnd h
  | anext a => exact next_guarded h (next_access h a next_anextGo)
  | sub a => exact next_guarded h (next_access h a next_subGo)
  | call a => exact next_guarded h (next_access h a next_callGo)
  | keep a => exact next_guarded h (next_access h a (go := fun t => ({ t with kept := some a, kstate := false }, .unit))
      fun ht => .same (inv_kfields ht.inv _ _))
  | ktest => exact next_stepKtest h
  | kawait => exact next_stepKawait h
  | futAwait => exact next_stepFutRead h _
  | futHas => exact next_stepFutRead h _
  | itBegin =>
      exact next_guarded h fun hal hns hc => by
        split; exact .same h; exact next_access h 0 (next_syncGo · _) hal hns hc
  | itInc =>
      exact next_guarded h fun hal hns hc => by
        split; exact .same h; split; exact .same h; exact next_access h 0 (next_syncGo · _) hal hns hc
  | itPostInc =>
      exact next_guarded h fun hal hns hc => by
        split; exact .same h; split; exact .same h; split; exact next_access h 0 (next_syncGo · _) hal hns hc
        exact .same h
  | itDrop => exact .same { h with }
  | ctx b => exact .same { h with }
  | complete k => exact next_stepComplete h k
  | destroy => exact next_stepDestroy h
  | value | active | futWait | futGet | itDeref | itIsEnd =>
      simp only [step, stepValue, stepActive, stepFutWait, stepFutGet, stepItDeref, stepItIsEnd]
      repeat (first | exact .same h | split)

theorem next_run {s : State} (h : Inv s) (ops : List Op) : Next s (run s ops) := by
  induction ops generalizing s with
  | nil => exact .same h
  | cons op rest ih => exact (next_step h op).trans (ih (next_step h op).inv)

theorem run_replicate {s : State} {op : Op} (h : (step s op).1 = s) (n : Nat) : run s (List.replicate n op) = s := by
  induction n with
  | zero => rfl
  | succ k ih => rw [List.replicate_succ]; simp only [run, List.foldl_cons, h]; exact ih

theorem stepActive_res {s : State} {b : Bool} (h : (stepActive s).2 = .active b) : b = !s.done := by
  unfold stepActive at h
  repeat' split at h
  all_goals cases h
  rfl

theorem destroyed_dead (s : State) (hd : (stepDestroy s).2 = .destroyed) : (stepDestroy s).1.alive = false := by
  revert hd
  unfold stepDestroy
  repeat' split
  all_goals first | exact fun _ => rfl | nofun

end Cocls.Gen
