import CoclsModel.Scheduler
/-!
Invariant of the scheduler model and its preservation by every step, for every heap implementation `H` that meets
the standard's contract (`HeapSpec`); for `Props/C12.lean`.  What a lock region does to the vector is stated as
`Took h h' rs` (`popLoop_spec`, `removeLk_spec`, `getExpiredLk_spec`), and every region that only takes entries out keeps
the invariant by `inv_took`.  At the end: the invariant of the stop handshake (`Stop.Inv`).
-/
namespace Cocls.Sched

/-- `std::is_heap` w.r.t. `compare_item` on the time points: every element is ≥ its parent -/
def HeapT (ts : List Nat) : Prop := ∀ j, 0 < j → j < ts.length → ts.getD ((j - 1) / 2) 0 ≤ ts.getD j 0

def IsHeap (l : List Entry) : Prop := HeapT (l.map (·.tp))

/-- the contract of the std heap algorithms ([alg.heap.operations]) -/
structure HeapSpec (H : Heap) : Prop where
  push_perm : ∀ l e, IsHeap l → (H.push (l ++ [e])).Perm (l ++ [e])
  push_heap : ∀ l e, IsHeap l → IsHeap (H.push (l ++ [e]))
  pop_perm : ∀ x l, IsHeap (x :: l) → (H.popItem (x :: l)).Perm l
  pop_heap : ∀ x l, IsHeap (x :: l) → IsHeap (H.popItem (x :: l))

theorem isHeap_nil : IsHeap [] := by
  intro j _ h; simp at h

theorem heapT_top_le {ts : List Nat} (h : HeapT ts) : ∀ j, j < ts.length → ts.getD 0 0 ≤ ts.getD j 0 := by
  intro j
  induction j using Nat.strongRecOn with
  | _ j ih =>
    intro hj
    by_cases h0 : j = 0
    · subst h0; exact Nat.le_refl _
    · have hp : (j - 1) / 2 < j := by omega
      have := ih _ hp (by omega)
      have := h j (by omega) hj
      omega

theorem top_min {x : Entry} {l : List Entry} (h : IsHeap (x :: l)) : ∀ y ∈ x :: l, x.tp ≤ y.tp := by
  intro y hy
  obtain ⟨i, hi, rfl⟩ := List.mem_iff_getElem.mp hy
  simpa [List.getD_eq_getElem?_getD, ← List.map_cons, List.getElem?_eq_getElem hi] using heapT_top_le h i (by simpa using hi)

theorem isHeap_congr {l l' : List Entry} (e : l'.map (·.tp) = l.map (·.tp)) (h : IsHeap l) : IsHeap l' := by
  unfold IsHeap; rw [e]; exact h

/-- serial numbers of the sleeps still pending in the vector -/
def aliveSerials (h : List Entry) : List Nat := (h.filter (·.alive)).map (·.serial)

@[simp] theorem aliveSerials_nil : aliveSerials [] = [] := rfl
theorem aliveSerials_cons (x : Entry) (xs : List Entry) :
    aliveSerials (x :: xs) = if x.alive then x.serial :: aliveSerials xs else aliveSerials xs := by
  unfold aliveSerials
  by_cases h : x.alive <;> simp [h]

theorem aliveSerials_append (a b : List Entry) : aliveSerials (a ++ b) = aliveSerials a ++ aliveSerials b := by
  simp [aliveSerials]

theorem aliveSerials_perm {a b : List Entry} (h : a.Perm b) : (aliveSerials a).Perm (aliveSerials b) :=
  (h.filter _).map _

/-- what one lock region may do to the vector: `h'` is a heap again and its live entries are those of `h`, but for the
entries `rs` it took out; no time point appears -/
structure Took (h h' rs : List Entry) : Prop where
  heap : IsHeap h'
  live : (h.filter (·.alive)).Perm (rs ++ h'.filter (·.alive))
  tps : ∀ y ∈ h', ∃ y0 ∈ h, y0.tp = y.tp

namespace Took
variable {h h' rs : List Entry} (t : Took h h' rs)
include t

theorem sub : ∀ y ∈ h', y.alive = true → y ∈ h := fun _ hy ha =>
  (List.mem_filter.mp (t.live.mem_iff.mpr (List.mem_append_right _ (List.mem_filter.mpr ⟨hy, ha⟩)))).1

theorem sup : ∀ y ∈ h, y.alive = true → y ∈ h' ∨ y ∈ rs := fun _ hy ha =>
  (List.mem_append.mp (t.live.mem_iff.mp (List.mem_filter.mpr ⟨hy, ha⟩))).symm.imp_left fun h1 => (List.mem_filter.mp h1).1

theorem mem : ∀ e ∈ rs, e ∈ h ∧ e.alive = true := fun e he => by
  simpa using t.live.mem_iff.mpr (List.mem_append_left _ he)

theorem serials : (aliveSerials h).Perm (rs.map (·.serial) ++ aliveSerials h') := by
  simpa [aliveSerials] using t.live.map (·.serial)

theorem cnt (i : Nat) : (aliveSerials h').count i + (rs.map (·.serial)).count i = (aliveSerials h).count i := by
  have := t.serials.count_eq i
  rw [List.count_append] at this
  omega

end Took

theorem Took.refl {h : List Entry} (hh : IsHeap h) : Took h h [] := ⟨hh, .refl _, fun y hy => ⟨y, hy, rfl⟩⟩

theorem Took.trans {h h1 h2 rs : List Entry} (a : Took h h1 []) (b : Took h1 h2 rs) : Took h h2 rs := by
  refine ⟨b.heap, a.live.trans b.live, fun y hy => ?_⟩
  obtain ⟨y1, hy1, e1⟩ := b.tps y hy
  obtain ⟨y0, hy0, e0⟩ := a.tps y1 hy1
  exact ⟨y0, hy0, e0.trans e1⟩

theorem took_pop {H : Heap} (hH : HeapSpec H) {x : Entry} {xs : List Entry} (hh : IsHeap (x :: xs)) :
    Took (x :: xs) (H.popItem (x :: xs)) (if x.alive then [x] else []) := by
  have hp := hH.pop_perm x xs hh
  refine ⟨hH.pop_heap x xs hh, ?_, fun y hy => ⟨y, List.mem_cons_of_mem _ (hp.mem_iff.mp hy), rfl⟩⟩
  cases ha : x.alive <;> simpa [ha] using (hp.filter _).symm

/-- for any `H`, any vector: no `HeapSpec` -/
theorem popLoop_some (H : Heap) (c : Entry → Bool) :
    ∀ n h e, (popLoop H c n h).2 = some e → c e = true ∧ e.alive = true := by
  intro n
  induction n with
  | zero => intro h e he; cases he
  | succ n ih =>
    intro h e he
    cases h with
    | nil => cases he
    | cons x xs =>
      unfold popLoop at he
      split at he
      next hc =>
        split at he
        next ha => cases he; exact ⟨hc, ha⟩
        next => exact ih _ e he
      next => cases he

theorem popLoop_spec {H : Heap} (hH : HeapSpec H) (c : Entry → Bool) :
    ∀ (n : Nat) (h : List Entry), h.length ≤ n → IsHeap h →
      Took h (popLoop H c n h).1 (popLoop H c n h).2.toList ∧
      (∀ e, (popLoop H c n h).2 = some e → c e = true ∧ ∀ y ∈ (popLoop H c n h).1, e.tp ≤ y.tp) ∧
      ((popLoop H c n h).2 = none → ∀ x ∈ (popLoop H c n h).1.head?, c x = false) := by
  intro n
  induction n with
  | zero =>
    intro h hn hh
    have : h = [] := List.length_eq_zero_iff.mp (by omega)
    subst this
    simp [popLoop, Took.refl hh]
  | succ n ih =>
    intro h hn hh
    cases h with
    | nil => simp [popLoop, Took.refl hh]
    | cons x xs =>
      have hp := hH.pop_perm x xs hh
      have tk := took_pop hH hh
      by_cases hc : c x = true
      · by_cases ha : x.alive = true
        · simp only [popLoop, hc, ha, if_true] at tk ⊢
          refine ⟨tk, ?_, by simp⟩
          intro e he
          simp at he; subst he
          exact ⟨hc, fun y hy => top_min hh y (List.mem_cons_of_mem _ (hp.mem_iff.mp hy))⟩
        · simp only [popLoop, hc, ha, if_true] at tk ⊢
          have hlen : (H.popItem (x :: xs)).length ≤ n := by
            rw [hp.length_eq]; simp at hn; omega
          obtain ⟨t1, t2, t3⟩ := ih _ hlen tk.heap
          simp only [Bool.false_eq_true, if_false] at tk ⊢
          exact ⟨tk.trans t1, t2, t3⟩
      · simp only [popLoop, hc]
        refine ⟨Took.refl hh, by simp, ?_⟩
        intro _ y hy
        simp at hy; subst hy; simpa using hc

theorem takeFirst_cases (id : Nat) (l : List Entry) :
    (takeFirst id l = (l, none) ∧ ∀ y ∈ l, y.alive = true → y.id ≠ id) ∨
    ∃ a x b, l = a ++ x :: b ∧ x.id = id ∧ x.alive = true ∧
      takeFirst id l = (a ++ { x with alive := false } :: b, some x) := by
  induction l with
  | nil => exact Or.inl ⟨rfl, nofun⟩
  | cons x xs ih =>
    unfold takeFirst
    split
    next hc => exact Or.inr ⟨[], x, xs, rfl, hc.1, hc.2, rfl⟩
    next hc =>
      rcases ih with ⟨e, hno⟩ | ⟨a, y, b, rfl, h1, h2, e⟩
      · refine Or.inl ⟨by rw [e], fun y hy ha hid => ?_⟩
        rcases List.mem_cons.mp hy with rfl | hy
        · exact hc ⟨hid, ha⟩
        · exact hno y hy ha hid
      · exact Or.inr ⟨x :: a, y, b, rfl, h1, h2, by rw [e]; rfl⟩

theorem took_takeFirst (id : Nat) {l : List Entry} (hh : IsHeap l) :
    Took l (takeFirst id l).1 (takeFirst id l).2.toList := by
  rcases takeFirst_cases id l with ⟨e, _⟩ | ⟨a, x, b, rfl, _, hx, e⟩ <;> rw [e]
  · exact Took.refl hh
  · refine ⟨isHeap_congr (by simp) hh, by simp [hx], fun y hy => ?_⟩
    simp only [List.mem_append, List.mem_cons] at hy
    rcases hy with hy | rfl | hy
    · exact ⟨y, by simp [hy], rfl⟩
    · exact ⟨x, by simp, rfl⟩
    · exact ⟨y, by simp [hy], rfl⟩

theorem removeLk_spec {H : Heap} (hH : HeapSpec H) (id : Nat) {h : List Entry} (hh : IsHeap h) :
    Took h (removeLk H h id).1 (removeLk H h id).2.toList ∧
    (∀ e, (removeLk H h id).2 = some e → e.id = id) ∧
    ((removeLk H h id).2 = none → ∀ y ∈ h, y.alive = true → y.id ≠ id) := by
  obtain ⟨t1, t2, _⟩ := popLoop_spec hH (hasId id) h.length h (Nat.le_refl _) hh
  unfold removeLk
  generalize popLoop H (hasId id) h.length h = g at t1 t2 ⊢
  obtain ⟨h1, _ | e⟩ := g <;> dsimp only at t1 ⊢
  · refine ⟨t1.trans (took_takeFirst id t1.heap), ?_⟩
    rcases takeFirst_cases id h1 with ⟨eq, hno⟩ | ⟨a, x, b, _, hx, _, eq⟩ <;> rw [eq]
    · exact ⟨nofun, fun _ y hy ha => hno y ((t1.sup y hy ha).resolve_right nofun) ha⟩
    · exact ⟨fun e he => Option.some.inj he ▸ hx, nofun⟩
  · exact ⟨t1, fun e' he' => Option.some.inj he' ▸ by simpa [hasId] using (t2 e rfl).1, nofun⟩

theorem getExpiredLk_spec {H : Heap} (hH : HeapSpec H) (now : Nat) {h : List Entry} (hh : IsHeap h) :
    Took h (getExpiredLk H h now).1 (getExpiredLk H h now).2.toList ∧
    (∀ e, (getExpiredLk H h now).2 = some e → e.tp ≤ now ∧ ∀ y ∈ h, y.alive = true → e.tp ≤ y.tp) ∧
    ((getExpiredLk H h now).2 = none →
      (∀ y ∈ h, y.alive = true → ∃ t, topTime (getExpiredLk H h now).1 = some t ∧ now < t ∧ t ≤ y.tp) ∧
      ∀ t, topTime (getExpiredLk H h now).1 = some t → ∃ y ∈ h, y.alive = true ∧ y.tp = t) := by
  obtain ⟨t1, t2, t3⟩ := popLoop_spec hH (dueOrDead now) h.length h (Nat.le_refl _) hh
  unfold getExpiredLk
  generalize popLoop H (dueOrDead now) h.length h = g at t1 t2 t3 ⊢
  obtain ⟨h1, r⟩ := g
  refine ⟨t1, fun e he => ?_, fun hn => ?_⟩
  · obtain ⟨c1, c2⟩ := t2 e he
    subst he
    refine ⟨by simpa [dueOrDead, (t1.mem e (by simp)).2] using c1, fun y hy ha => ?_⟩
    rcases t1.sup y hy ha with h' | h'
    · exact c2 y h'
    · rw [List.mem_singleton.mp h']; exact Nat.le_refl _
  · subst hn
    have live : ∀ y ∈ h, y.alive = true → y ∈ h1 := fun y hy ha => (t1.sup y hy ha).resolve_right nofun
    cases h1 with
    | nil => exact ⟨fun y hy ha => absurd (live y hy ha) List.not_mem_nil, fun t ht => by cases ht⟩
    | cons x xs =>
      have hx : now < x.tp ∧ x.alive = true := by simpa [dueOrDead] using t3 rfl x rfl
      exact ⟨fun y hy ha => ⟨x.tp, rfl, hx.1, top_min t1.heap y (live y hy ha)⟩,
        fun t ht => ⟨x, t1.sub x List.mem_cons_self hx.2, hx.2, Option.some.inj ht⟩⟩

/-- a parked worker's deadline `d` is not later than the time point `t` (`none` = `time_point::max()`) -/
def waitOk (d : Option Nat) (t : Nat) : Prop :=
  match d with
  | some x => x ≤ t
  | none => False

structure Inv (s : State) : Prop where
  heap_ok : IsHeap s.heap
  /-- every sleep is either still pending (once) or has completed (once) -/
  once : ∀ i, (aliveSerials s.heap).count i + (s.log.map (·.serial)).count i = if i < s.nextSerial then 1 else 0
  not_early : ∀ d ∈ s.log, ∀ now, d.fate = Fate.expired now → d.tp ≤ now
  stamp_le : ∀ d ∈ s.log, d.stamp ≤ s.nextSerial
  /-- whatever expired was not later than anything that was pending at that moment and still is -/
  ord_heap : ∀ d ∈ s.log, d.isExpired = true → ∀ y ∈ s.heap, y.alive = true → y.serial < d.stamp → d.tp ≤ y.tp
  ord_log : s.log.Pairwise (fun x y => x.isExpired = true → y.isExpired = true → y.serial < x.stamp → x.tp ≤ y.tp)
  /-- a parked worker's deadline is not later than any entry of the vector -/
  waits_ok : ∀ p ∈ s.waits, ∀ y ∈ s.heap, waitOk p.2 y.tp
  gone : s.alive = false → s.heap = []

theorem inv_init : Inv init := by
  refine ⟨isHeap_nil, ?_, ?_, ?_, ?_, ?_, ?_, ?_⟩ <;> simp [init]

theorem isExpired_mkDone {e : Entry} {f : Fate} {n : Nat} (h : (mkDone e f n).isExpired = true) :
    ∃ now, f = Fate.expired now := by
  cases f <;> simp [mkDone, Done.isExpired] at h ⊢

/-- The common case of `get_expired`, `remove`, `cancel`, a worker iteration and the destructor: a lock region that only
takes entries out of the vector and completes them with fate `f`. -/
theorem inv_took {s : State} (hi : Inv s) (hal : s.alive = true) {h' rs : List Entry} (tk : Took s.heap h' rs) (f : Fate)
    (hexp : ∀ e ∈ rs, ∀ now, f = Fate.expired now → e.tp ≤ now ∧ ∀ y ∈ s.heap, y.alive = true → e.tp ≤ y.tp)
    (ws : List (Nat × Option Nat))
    (hws : ∀ p ∈ ws, p ∈ s.waits ∨ ∀ y ∈ h', waitOk p.2 y.tp) :
    Inv { s with heap := h', waits := ws, log := s.log ++ rs.map (mkDone · f s.nextSerial) } where
  heap_ok := tk.heap
  once i := by
    have a := tk.cnt i
    have b := hi.once i
    have c : (rs.map (mkDone · f s.nextSerial)).map (·.serial) = rs.map (·.serial) := by simp [mkDone]
    dsimp only
    rw [List.map_append, List.count_append, c]
    omega
  not_early := List.forall_mem_append.mpr ⟨hi.not_early, List.forall_mem_map.mpr fun e he now hf => (hexp e he now hf).1⟩
  stamp_le := List.forall_mem_append.mpr ⟨hi.stamp_le, List.forall_mem_map.mpr fun _ _ => Nat.le_refl _⟩
  ord_heap := List.forall_mem_append.mpr
    ⟨fun d hd hx y hy ha => hi.ord_heap d hd hx y (tk.sub y hy ha) ha,
     List.forall_mem_map.mpr fun e he hx y hy ha _ =>
      have ⟨now, hf⟩ := isExpired_mkDone hx
      (hexp e he now hf).2 y (tk.sub y hy ha) ha⟩
  ord_log := by
    refine List.pairwise_append.mpr ⟨hi.ord_log, ?_, fun x hx d hd hxe _ hlt => ?_⟩
    · -- what was taken out together: each of them expired no later than any live entry, the others included
      refine List.pairwise_map.mpr (List.pairwise_of_forall_mem_list fun x hx y hy hxe _ _ => ?_)
      obtain ⟨now, hf⟩ := isExpired_mkDone hxe
      exact (hexp x hx now hf).2 y (tk.mem y hy).1 (tk.mem y hy).2
    · obtain ⟨e, he, rfl⟩ := List.mem_map.mp hd
      exact hi.ord_heap x hx hxe e (tk.mem e he).1 (tk.mem e he).2 hlt
  waits_ok p hp y hy := by
    rcases hws p hp with hw | hw
    · obtain ⟨y0, hy0, e0⟩ := tk.tps y hy
      exact e0 ▸ hi.waits_ok p hw y0 hy0
    · exact hw y hy
  gone h := absurd (hal ▸ h) nofun

theorem waitOk_topTime {h : List Entry} (hh : IsHeap h) : ∀ y ∈ h, waitOk (topTime h) y.tp := by
  intro y hy
  cases h with
  | nil => cases hy
  | cons x xs => exact top_min hh y hy

/-! The steps as the record update `inv_took` speaks about. -/

theorem stepGetExpired_fst (H : Heap) (s : State) (now : Nat) : (stepGetExpired H s now).1 =
    { s with heap := (getExpiredLk H s.heap now).1,
             log := s.log ++ (getExpiredLk H s.heap now).2.toList.map (mkDone · (Fate.expired now) s.nextSerial) } := by
  unfold stepGetExpired
  rcases getExpiredLk H s.heap now with ⟨h, _ | e⟩ <;> simp

theorem stepPoll_fst (H : Heap) (s : State) (w now : Nat) : (stepPoll H s w now).1 =
    { s with heap := (getExpiredLk H s.heap now).1,
             waits := s.waits.filter (fun p => p.1 ≠ w) ++
               (match (getExpiredLk H s.heap now).2 with
                | some _ => []
                | none => [(w, topTime (getExpiredLk H s.heap now).1)]),
             log := s.log ++ (getExpiredLk H s.heap now).2.toList.map (mkDone · (Fate.expired now) s.nextSerial) } := by
  unfold stepPoll
  rcases getExpiredLk H s.heap now with ⟨h, _ | e⟩ <;> simp

theorem stepRemove_fst (H : Heap) (s : State) (id : Nat) : (stepRemove H s id).1 =
    { s with heap := (removeLk H s.heap id).1,
             log := s.log ++ (removeLk H s.heap id).2.toList.map (mkDone · Fate.removed s.nextSerial) } := by
  unfold stepRemove
  rcases removeLk H s.heap id with ⟨h, _ | e⟩ <;> simp

theorem stepCancel_fst (H : Heap) (s : State) (id exc : Nat) : (stepCancel H s id exc).1 =
    { s with heap := (removeLk H s.heap id).1,
             log := s.log ++ (removeLk H s.heap id).2.toList.map (mkDone · (Fate.cancelled exc) s.nextSerial) } := by
  unfold stepCancel
  rcases removeLk H s.heap id with ⟨h, _ | e⟩ <;> simp

theorem expired_of_step {H : Heap} {s : State} {now : Nat} {e : Entry} :
    ((step H s (Op.getExpired now)).2 = Res.expired e → (getExpiredLk H s.heap now).2 = some e) ∧
    (∀ w, (step H s (Op.poll w now)).2 = Res.expired e → (getExpiredLk H s.heap now).2 = some e) := by
  by_cases hal : s.alive = true
  · rcases hr : getExpiredLk H s.heap now with ⟨h, _ | e'⟩ <;> simp [step, stepGetExpired, stepPoll, hal, hr]
  · simp [step, hal]

theorem next_of_step {H : Heap} {s : State} {now : Nat} {t : Option Nat} :
    ((step H s (Op.getExpired now)).2 = Res.next t →
      (getExpiredLk H s.heap now).2 = none ∧ topTime (getExpiredLk H s.heap now).1 = t) ∧
    (∀ w, (step H s (Op.poll w now)).2 = Res.next t →
      (getExpiredLk H s.heap now).2 = none ∧ topTime (getExpiredLk H s.heap now).1 = t ∧
      (w, t) ∈ (step H s (Op.poll w now)).1.waits) := by
  by_cases hal : s.alive = true
  · rcases hr : getExpiredLk H s.heap now with ⟨h, _ | e'⟩ <;>
      simp +contextual [step, stepGetExpired, stepPoll, hal, hr]
  · simp [step, hal]

theorem inv_getExpired {H : Heap} (hH : HeapSpec H) {s : State} (hi : Inv s) (hal : s.alive = true) (now : Nat) :
    Inv (stepGetExpired H s now).1 := by
  obtain ⟨t1, t2, _⟩ := getExpiredLk_spec hH now hi.heap_ok
  rw [stepGetExpired_fst]
  exact inv_took hi hal t1 _ (fun e he _ hf => by cases hf; exact t2 e (Option.mem_toList.mp he)) s.waits fun p hp => Or.inl hp

theorem inv_poll {H : Heap} (hH : HeapSpec H) {s : State} (hi : Inv s) (hal : s.alive = true) (w now : Nat) :
    Inv (stepPoll H s w now).1 := by
  obtain ⟨t1, t2, _⟩ := getExpiredLk_spec hH now hi.heap_ok
  rw [stepPoll_fst]
  refine inv_took hi hal t1 _ (fun e he _ hf => by cases hf; exact t2 e (Option.mem_toList.mp he)) _ (fun p hp => ?_)
  rcases List.mem_append.mp hp with hp | hp
  · exact Or.inl (List.mem_filter.mp hp).1
  · -- the worker parks itself with the time point of the new top
    split at hp
    · cases hp
    · rw [List.mem_singleton.mp hp]; exact Or.inr (waitOk_topTime t1.heap)

theorem inv_remove {H : Heap} (hH : HeapSpec H) {s : State} (hi : Inv s) (hal : s.alive = true) (id : Nat) :
    Inv (stepRemove H s id).1 := by
  rw [stepRemove_fst]
  exact inv_took hi hal (removeLk_spec hH id hi.heap_ok).1 _ (fun _ _ _ hf => by cases hf) s.waits fun p hp => Or.inl hp

theorem inv_cancel {H : Heap} (hH : HeapSpec H) {s : State} (hi : Inv s) (hal : s.alive = true) (id exc : Nat) :
    Inv (stepCancel H s id exc).1 := by
  rw [stepCancel_fst]
  exact inv_took hi hal (removeLk_spec hH id hi.heap_ok).1 _ (fun _ _ _ hf => by cases hf) s.waits fun p hp => Or.inl hp

theorem inv_destroy {s : State} (hi : Inv s) (hal : s.alive = true) : Inv (stepDestroy s).1 :=
  { inv_took hi hal (h' := []) (rs := s.heap.filter (·.alive)) ⟨isHeap_nil, by simp, nofun⟩ Fate.dropped
      (fun _ _ _ hf => by cases hf) [] nofun with gone := fun _ => rfl }

theorem inv_wake {s : State} (hi : Inv s) (w : Nat) : Inv (stepWake s w).1 :=
  { hi with waits_ok := fun p hp => hi.waits_ok p (List.mem_filter.mp hp).1 }

theorem inv_schedule {H : Heap} (hH : HeapSpec H) {s : State} (hi : Inv s) (hal : s.alive = true) (tp id : Nat) :
    Inv (stepSchedule H s tp id).1 := by
  unfold stepSchedule
  dsimp only
  generalize he : ({ serial := s.nextSerial, tp := tp, id := id, alive := true } : Entry) = e
  have hp := hH.push_perm s.heap e hi.heap_ok
  have hmem : ∀ y ∈ H.push (s.heap ++ [e]), y ∈ s.heap ∨ y = e := fun y hy => by simpa using hp.mem_iff.mp hy
  exact { hi with
    heap_ok := hH.push_heap _ _ hi.heap_ok
    once := fun i => by
      have a := hi.once i
      have e1 : (aliveSerials [e]).count i = if s.nextSerial = i then 1 else 0 := by
        subst he; simp [aliveSerials, List.count_singleton]
      dsimp only
      rw [(aliveSerials_perm hp).count_eq i, aliveSerials_append, List.count_append, e1]
      -- the serials in use grow by `s.nextSerial`, the live ones by the same
      split <;> split <;> split at a <;> omega
    stamp_le := fun d hd => Nat.le_succ_of_le (hi.stamp_le d hd)
    ord_heap := fun d hd hx y hy ha hlt => by
      rcases hmem y hy with hy | rfl
      · exact hi.ord_heap d hd hx y hy ha hlt
      · -- the new entry did not exist when `d` completed
        have := hi.stamp_le d hd
        subst he
        exact absurd hlt (Nat.not_lt.mpr this)
    waits_ok := fun p hp' y hy => by
      -- workers stay parked only when the new time point is not earlier than the top, hence than their deadline
      cases hheap : s.heap with
      | nil => simp [hheap] at hp'
      | cons x xs =>
        by_cases hgt : x.tp > tp
        · simp [hheap, hgt] at hp'
        · simp only [hheap, hgt, decide_false, Bool.false_eq_true, if_false] at hp'
          rcases hmem y hy with hy | rfl
          · exact hi.waits_ok p hp' y hy
          · have := hi.waits_ok p hp' x (hheap ▸ List.mem_cons_self)
            subst he
            cases hd : p.2 with
            | none => simp [hd, waitOk] at this
            | some d => simp only [hd, waitOk] at this ⊢; omega
    gone := fun h => absurd (hal ▸ h) nofun }

theorem inv_step {H : Heap} (hH : HeapSpec H) {s : State} (hi : Inv s) (op : Op) : Inv (step H s op).1 := by
  unfold step
  by_cases hal : s.alive = true
  · simp only [hal, if_true]
    cases op with
    | schedule tp id => exact inv_schedule hH hi hal tp id
    | getExpired now => exact inv_getExpired hH hi hal now
    | remove id => exact inv_remove hH hi hal id
    | cancel id exc => exact inv_cancel hH hi hal id exc
    | destroy => exact inv_destroy hi hal
    | poll w now => exact inv_poll hH hi hal w now
    | wake w => exact inv_wake hi w
  · simp only [hal]; exact hi

theorem inv_run {H : Heap} (hH : HeapSpec H) (ops : List Op) {s : State} (h : Inv s) : Inv (run H s ops) :=
  List.foldlRecOn ops _ h fun _ hs op _ => inv_step hH hs op

end Cocls.Sched

namespace Cocls.Sched.Stop

structure Inv (s : St) : Prop where
  excl : (s.sp = SPc.holding ∨ s.sp = SPc.notified) → s.w ≠ WPc.locked
  /-- once the notification is out the worker is not parked (and does not hold `_mx`): it is at the loop top, has left,
  or is resolving a promise with `_mx` released (from where its next step is the loop condition) -/
  after : (s.sp = SPc.notified ∨ s.sp = SPc.done) → (s.w = WPc.idle ∨ s.w = WPc.exited ∨ s.w = WPc.resolving)
  flagged : s.sp ≠ SPc.start → s.flag = true
  nogap : s.w ≠ WPc.gap        -- the repaired code has no unlock between the stop check and the wait

theorem inv_init : Inv {} := ⟨nofun, nofun, fun h => absurd rfl h, nofun⟩

theorem inv_step (s s' : St) (a : Act) (h : Inv s) (hs : step s a = some s') : Inv s' := by
  obtain ⟨h1, h2, h3, h4⟩ := h
  cases a <;> simp only [step, workerStep, Option.ite_none_right_eq_some, Option.some.injEq, reduceCtorEq] at hs <;>
    obtain ⟨hc, rfl⟩ := hs
  case sNotify =>
    -- the stopper holds `_mx`, so the worker is not `locked` (`excl`): a parked worker is woken, any other stays where it is
    have := h1 (Or.inl hc)
    cases hw : s.w <;> constructor <;> simp_all [wakeIfWaiting]
  -- only `wLock` enters `locked`, and only from `locked` does the worker park: `wLock` is disabled while the stopper holds
  -- `_mx` (`excl`), and after `sUnlock` it finds the flag set (`flagged`) and exits instead (`after`)
  all_goals constructor <;> grind

theorem run_induction {f : St → Act → Option St} {P : St → Prop} (acts : List Act)
    (hstep : ∀ s, P s → ∀ a ∈ acts, ∀ s', f s a = some s' → P s') {s : St} (h : P s) : P (run f s acts) :=
  List.foldlRecOn acts _ h fun s hs a ha => by
    cases hf : f s a with
    | none => exact hs
    | some s' => exact hstep s hs a ha s' hf

theorem inv_run (acts : List Act) : ∀ s, Inv s → Inv (run step s acts) :=
  fun _ h => run_induction acts (fun s hs a _ s' => inv_step s s' a hs) h

end Cocls.Sched.Stop
