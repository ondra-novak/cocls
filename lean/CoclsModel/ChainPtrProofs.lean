import CoclsModel.ChainPtr
import CoclsModel.ChainProofs
/-!
The pointer-level chain model (`ChainPtr.lean`) refines the list-level one (`Chain.lean`), and its walker never touches a
dead node.

* `abs : ChainPtr.State → Chain.State` reads the lists off the pointers (`ChainIs`, `follow`); `walk_sim` relates one run of
  `walk` to `Chain.runActs` and records which `_next` fields it writes, which nodes may die and what it logs.
* `PInv` = the list-level invariant of the abstraction + `Struct` (the pointers) + `log`: every plain access to a node field
  touched a live node; a node is accessed only by its owner before it is published and only by the walker afterwards
  (`AccessOK`).  `pstep_ok` goes through `pstep` once and proves of every step what `StepOK` lists; `sim_step`, `pinv_step`
  (beside `Chain.inv_astep`) and `sim_run` are read off it.
-/
namespace Cocls.ChainPtr
open Cocls.Chain (WK Seen Ev Cfg upd wkOf Slot Act upd_same upd_other)

/-! ## chains -/

theorem upd_ne {α} {f : Nat → α} {i j : Nat} {v : α} (h : j ≠ i) : upd f i v j = f j := upd_other f i j v h

/-- following `_next` from `h` visits exactly the nodes of `l`, in order, and ends in `nullptr` -/
inductive ChainIs (next : Nat → Ptr) : Ptr → List Nat → Prop
  | nil : ChainIs next Seen.null []
  | cons {x : Nat} {l : List Nat} : ChainIs next (next x) l → ChainIs next (Seen.node x) (x :: l)

theorem chainIs_null {next : Nat → Ptr} {l : List Nat} (h : ChainIs next Seen.null l) : l = [] := by
  cases h; rfl

theorem chainIs_not_ready {next : Nat → Ptr} {l : List Nat} : ¬ ChainIs next Seen.ready l := by
  intro h; cases h

theorem chainIs_node {next : Nat → Ptr} {y : Nat} {l : List Nat} (h : ChainIs next (Seen.node y) l) :
    ∃ l', l = y :: l' ∧ ChainIs next (next y) l' := by
  cases h with
  | cons h' => exact ⟨_, rfl, h'⟩

theorem chainIs_unique {next : Nat → Ptr} {h : Ptr} {l₁ l₂ : List Nat} (h₁ : ChainIs next h l₁) (h₂ : ChainIs next h l₂) :
    l₁ = l₂ := by
  induction h₁ generalizing l₂ with
  | nil => exact (chainIs_null h₂).symm
  | cons _ ih =>
    obtain ⟨l', rfl, h'⟩ := chainIs_node h₂
    rw [ih h']

theorem chainIs_congr {next next' : Nat → Ptr} {h : Ptr} {l : List Nat} (hc : ChainIs next h l)
    (hagree : ∀ x, x ∈ l → next' x = next x) : ChainIs next' h l := by
  induction hc with
  | nil => exact ChainIs.nil
  | @cons y l' _ ih =>
    refine ChainIs.cons ?_
    rw [hagree y List.mem_cons_self]
    exact ih (fun x hx => hagree x (List.mem_cons_of_mem _ hx))

theorem chainIs_frame {next : Nat → Ptr} {h : Ptr} {l : List Nat} (hc : ChainIs next h l) (x : Nat) (v : Ptr)
    (hx : x ∉ l) : ChainIs (upd next x v) h l :=
  chainIs_congr hc (fun _ hy => upd_ne (fun e => hx (e ▸ hy)))

theorem chainIs_of_mem {next : Nat → Ptr} {h : Ptr} {l : List Nat} {y : Nat} (hc : ChainIs next h l) (hy : y ∈ l) :
    ∃ m, ChainIs next (Seen.node y) m ∧ m.length ≤ l.length := by
  induction hc with
  | nil => cases hy
  | @cons z l' hc' ih =>
    rcases List.mem_cons.1 hy with rfl | hy'
    · exact ⟨_, ChainIs.cons hc', Nat.le_refl _⟩
    · obtain ⟨m, h1, h2⟩ := ih hy'
      exact ⟨m, h1, Nat.le_succ_of_le h2⟩

theorem chainIs_nodup {next : Nat → Ptr} {h : Ptr} {l : List Nat} (hc : ChainIs next h l) : l.Nodup := by
  induction hc with
  | nil => exact List.nodup_nil
  | @cons y l' hc' ih =>
    refine List.nodup_cons.2 ⟨fun hy => ?_, ih⟩
    -- the chain from `y` would be both `y :: l'` and no longer than `l'`
    obtain ⟨m, h1, h2⟩ := chainIs_of_mem hc' hy
    rw [chainIs_unique h1 (ChainIs.cons hc')] at h2
    exact Nat.not_succ_le_self _ h2

/-- the successful CAS of `subscribe_check_ready` -/
theorem chainIs_push {next : Nat → Ptr} {h : Ptr} {l : List Nat} (hc : ChainIs next h l) (t : Nat) (ht : next t = h) :
    ChainIs next (Seen.node t) (t :: l) :=
  ChainIs.cons (ht ▸ hc)

theorem chainIs_push_write {next : Nat → Ptr} {h : Ptr} {l : List Nat} (hc : ChainIs next h l) (t : Nat) (ht : t ∉ l) :
    ChainIs (upd next t h) (Seen.node t) (t :: l) :=
  chainIs_push (chainIs_frame hc t h ht) t (upd_same _ _ _)

/-- the executable reading of `ChainIs`, for at most `fuel` nodes -/
def follow (next : Nat → Ptr) : Nat → Ptr → List Nat
  | fuel + 1, Seen.node x => x :: follow next fuel (next x)
  | _, _ => []

theorem follow_of_chainIs {next : Nat → Ptr} {h : Ptr} {l : List Nat} (hc : ChainIs next h l) :
    ∀ fuel, l.length ≤ fuel → follow next fuel h = l := by
  induction hc with
  | nil => intro fuel _; cases fuel <;> rfl
  | @cons y l' _ ih =>
    intro fuel hf
    cases fuel with
    | zero => exact absurd hf (Nat.not_succ_le_zero _)
    | succ f =>
      simp only [follow]
      rw [ih f (by simpa using hf)]

theorem follow_congr {next next' : Nat → Ptr} : ∀ (fuel : Nat) (h : Ptr), (∀ x, x ∈ follow next fuel h → next' x = next x) →
    follow next' fuel h = follow next fuel h := by
  intro fuel
  induction fuel with
  | zero => intro h _; cases h <;> rfl
  | succ f ih =>
    intro h hag
    cases h with
    | null => rfl
    | ready => rfl
    | node x =>
      simp only [follow] at hag ⊢
      rw [hag x List.mem_cons_self, ih _ (fun z hz => hag z (List.mem_cons_of_mem _ hz))]

theorem len_le (c : Cfg) (l : List Nat) (h1 : l.Nodup) (h2 : ∀ x, x ∈ l → x < c.n) : l.length ≤ c.n := by
  have := List.Nodup.length_le_of_subset h1 (l₂ := List.range c.n) (fun x hx => List.mem_range.2 (h2 x hx))
  simpa using this

/-! ## the abstraction -/

/-- the walker's remaining actions, read off its locals: blocking waiters and callbacks of the rest `l` of the chain are handled
while walking; the coroutines (those collected in `ret`, then those of `l`) when the suspend point is flushed -/
def walkActs (c : Cfg) (t : Nat) (l ret : List Nat) : List Act :=
  (l.filter (fun x => wkOf c x = WK.sync ∨ wkOf c x = WK.cb)).map
      (fun x => if wkOf c x = WK.sync then Act.store x else Act.wake x)
  ++ ((l.filter (fun x => ¬ (wkOf c x = WK.sync ∨ wkOf c x = WK.cb))).foldl (collect c t) ret).map Act.wake

def pendActs : Option (Nat × Seen) → List Act
  | none => []
  | some (x, seen) => [Act.obsAfter x seen]

def absPc (c : Cfg) (next : Nat → Ptr) (t : Nat) : Pc → Chain.Pc
  | Pc.rClaim => Chain.Pc.rClaim
  | Pc.rFinLost => Chain.Pc.rFinLost
  | Pc.rResolve dt => Chain.Pc.rResolve dt
  | Pc.rWalk dt cur ret pend => Chain.Pc.rRun dt (pendActs pend ++ walkActs c t (follow next c.n cur) ret)
  | Pc.dArrive => Chain.Pc.dArrive
  | Pc.dBlocked => Chain.Pc.dBlocked
  | Pc.dFin => Chain.Pc.dFin
  | Pc.dLoad => Chain.Pc.dLoad
  | Pc.wLoad => Chain.Pc.wLoad
  | Pc.wCas _ => Chain.Pc.wCas (next t)
  | Pc.wFinParked => Chain.Pc.wFinParked
  | Pc.wWait => Chain.Pc.wWait
  | Pc.wBlocked => Chain.Pc.wBlocked
  | Pc.wRead _ => Chain.Pc.wRead
  | Pc.wRead2 seen => Chain.Pc.wRead2 seen
  | Pc.done => Chain.Pc.done

def absSlot (c : Cfg) (head : Ptr) (next : Nat → Ptr) : Slot :=
  if head = Seen.ready then Slot.ready else Slot.chain (follow next c.n head)

/-- the slot's list is read off the `_next` fields, the walker's remaining actions off its local pointer and collected
handles, a subscriber's expected value off its own `_next` field; `live` and `log` are forgotten -/
def abs (c : Cfg) (s : State) : Chain.State :=
  { owner := s.owner
    slot := absSlot c s.head s.next
    payload := s.payload
    flag := s.flag
    pc := fun t => absPc c s.next t (s.pc t)
    wins := s.wins
    winner := s.winner
    subscribed := s.subscribed
    woken := s.woken
    observed := s.observed }

theorem abs_pc (c : Cfg) (s : State) (t : Nat) : (abs c s).pc t = absPc c s.next t (s.pc t) := rfl

theorem chain_state_ext {a b : Chain.State} (h1 : a.owner = b.owner) (h2 : a.slot = b.slot) (h3 : a.payload = b.payload)
    (h4 : a.flag = b.flag) (h5 : a.pc = b.pc) (h6 : a.wins = b.wins) (h7 : a.winner = b.winner)
    (h8 : a.subscribed = b.subscribed) (h9 : a.woken = b.woken) (h10 : a.observed = b.observed) : a = b := by
  cases a; cases b; simp_all

theorem absSlot_ready_iff (c : Cfg) (s : State) : (abs c s).slot = Slot.ready ↔ s.head = Seen.ready := by
  show absSlot c s.head s.next = Slot.ready ↔ _
  unfold absSlot
  by_cases h : s.head = Seen.ready <;> simp [h]

theorem absSlot_chain (c : Cfg) (s : State) (h : s.head ≠ Seen.ready) :
    (abs c s).slot = Slot.chain (follow s.next c.n s.head) := by
  show absSlot c s.head s.next = _
  unfold absSlot; simp [h]

theorem absPc_done_iff (c : Cfg) (nx : Nat → Ptr) (t : Nat) (p : Pc) : absPc c nx t p = Chain.Pc.done ↔ p = Pc.done := by
  cases p <;> simp [absPc]

theorem absPc_parked_iff (c : Cfg) (nx : Nat → Ptr) (t : Nat) (p : Pc) :
    (absPc c nx t p = Chain.Pc.wWait ↔ p = Pc.wWait) ∧ (absPc c nx t p = Chain.Pc.wBlocked ↔ p = Pc.wBlocked) ∧
    (absPc c nx t p = Chain.Pc.wFinParked ↔ p = Pc.wFinParked) := by
  cases p <;> simp [absPc]

theorem absPc_done_beq (c : Cfg) (nx : Nat → Ptr) (t : Nat) (p : Pc) : (absPc c nx t p == Chain.Pc.done) = (p == Pc.done) := by
  rw [Bool.eq_iff_iff]; simp only [beq_iff_eq]; exact absPc_done_iff c nx t p

theorem resolversDone_eq (c : Cfg) (s : State) : resolversDone c s = Chain.resolversDone c (abs c s) := by
  unfold resolversDone Chain.resolversDone
  congr 1
  funext i
  cases c.kind i <;> simp only [abs_pc, absPc_done_beq]

theorem enabled_eq (c : Cfg) (s : State) (t : Nat) : enabled c s t = Chain.enabled c (abs c s) t := by
  unfold enabled Chain.enabled
  rw [abs_pc]
  cases s.pc t <;> simp only [absPc, resolversDone_eq] <;> rfl

/-- `nx'`: `t` may have written `_next` fields nobody else's abstraction depends on -/
theorem abs_pc_step (c : Cfg) (nx nx' : Nat → Ptr) (pcs : Nat → Pc) (t : Nat) (p : Pc)
    (hfr : ∀ i, i ≠ t → absPc c nx' i (pcs i) = absPc c nx i (pcs i)) :
    (fun i => absPc c nx' i (upd pcs t p i)) = upd (fun i => absPc c nx i (pcs i)) t (absPc c nx' t p) := by
  funext i
  by_cases hi : i = t
  · subst hi; simp
  · rw [upd_ne hi, upd_ne hi]; exact hfr i hi

theorem abs_setPc (c : Cfg) (s : State) (t : Nat) (p : Pc) :
    abs c (setPc s t p) = Chain.setPc (abs c s) t (absPc c s.next t p) := by
  apply chain_state_ext <;> try rfl
  exact abs_pc_step c s.next s.next s.pc t p (fun _ _ => rfl)

theorem abs_acc (c : Cfg) (s : State) (t y : Nat) (f : Field) (w : Bool) : abs c (acc s t y f w) = abs c s := rfl
theorem abs_die (c : Cfg) (s : State) (x : Nat) : abs c (die s x) = abs c s := rfl
theorem abs_observe (c : Cfg) (s : State) (x : Nat) :
    abs c (observe s x) = { abs c s with observed := upd (abs c s).observed x ((abs c s).observed x + 1) } := rfl

theorem abs_init (c : Cfg) : abs c (init c) = Chain.init c := by
  apply chain_state_ext <;> try rfl
  · show absSlot c Seen.null _ = _
    unfold absSlot
    cases hn : c.n <;> simp [follow] <;> rfl
  · funext i
    show absPc c _ i (if i < c.n then initPc (c.kind i) else Pc.done) = if i < c.n then Chain.initPc (c.kind i) else Chain.Pc.done
    split
    · cases c.kind i <;> rfl
    · rfl

theorem needsLoad_eq (S : Chain.State) (k : WK) : Chain.needsLoad S k = needsLoad S.payload k := rfl

theorem obsOf_eq (S : Chain.State) (k : WK) (sn : Seen) : Chain.obsOf S k sn = obsOf S.payload k sn := by
  unfold Chain.obsOf obsOf; rfl

/-! ## the walker's remaining actions -/

theorem walkActs_nil (c : Cfg) (t : Nat) (ret : List Nat) : walkActs c t [] ret = ret.map Act.wake := by
  simp [walkActs]

theorem walkActs_cons_sync (c : Cfg) (t y : Nat) (l ret : List Nat) (h : wkOf c y = WK.sync) :
    walkActs c t (y :: l) ret = Act.store y :: walkActs c t l ret := by
  simp [walkActs, h]

theorem walkActs_cons_cb (c : Cfg) (t y : Nat) (l ret : List Nat) (h : wkOf c y = WK.cb) :
    walkActs c t (y :: l) ret = Act.wake y :: walkActs c t l ret := by
  simp [walkActs, h]

theorem walkActs_cons_coro (c : Cfg) (t y : Nat) (l ret : List Nat) (h1 : wkOf c y ≠ WK.sync) (h2 : wkOf c y ≠ WK.cb) :
    walkActs c t (y :: l) ret = walkActs c t l (collect c t ret y) := by
  simp [walkActs, h1, h2]

theorem collect_perm (c : Cfg) (t : Nat) (ret : List Nat) (y : Nat) : (collect c t ret y).Perm (ret ++ [y]) := by
  unfold collect
  split
  · cases ret with
    | nil => exact List.Perm.refl _
    | cons h tl =>
      show (y :: (tl ++ [h])).Perm (h :: tl ++ [y])
      have h1 : (y :: (tl ++ [h])).Perm (y :: h :: tl) := List.Perm.cons y (List.perm_append_singleton h tl)
      exact h1.trans (List.perm_append_singleton y (h :: tl)).symm
  · exact List.Perm.refl _

theorem foldl_collect_perm (c : Cfg) (t : Nat) : ∀ (l ret : List Nat), (l.foldl (collect c t) ret).Perm (ret ++ l) := by
  intro l
  induction l with
  | nil => intro ret; simp
  | cons y l ih =>
    intro ret
    rw [List.foldl_cons]
    refine (ih (collect c t ret y)).trans ?_
    have := (collect_perm c t ret y).append_right l
    simpa using this

/-- `collect` keeps the handles in the order in which the suspend point resumes them -/
theorem collect_foldl (c : Cfg) (t : Nat) : ∀ (l r : List Nat),
    l.foldl (collect c t) (Chain.resumeOrder c t r) = Chain.resumeOrder c t (r ++ l) := by
  intro l
  induction l with
  | nil => intro r; simp
  | cons y l ih =>
    intro r
    rw [List.foldl_cons]
    have hstep : collect c t (Chain.resumeOrder c t r) y = Chain.resumeOrder c t (r ++ [y]) := by
      unfold collect Chain.resumeOrder
      by_cases ha : c.aw t = true
      · simp only [ha, if_true]
        rw [Chain.awaitOrder_snoc]
        rcases List.eq_nil_or_concat r with e | ⟨r', a, e⟩
        · subst e; rfl
        · subst e
          rw [List.concat_eq_append, Chain.awaitOrder_snoc]
      · simp only [ha, Bool.false_eq_true, if_false]
    rw [hstep, ih (r ++ [y])]
    simp

theorem walkActs_build (c : Cfg) (t : Nat) (l : List Nat) : walkActs c t l [] = Chain.buildActs c t l := by
  have h := collect_foldl c t (l.filter (fun x => ¬ (wkOf c x = WK.sync ∨ wkOf c x = WK.cb))) []
  have h0 : Chain.resumeOrder c t [] = [] := by unfold Chain.resumeOrder Chain.awaitOrder; simp
  rw [h0, List.nil_append] at h
  unfold walkActs Chain.buildActs
  rw [h]

theorem cntW_walkActs (c : Cfg) (t x : Nat) (l ret : List Nat) : Chain.cntW x (walkActs c t l ret) = l.count x + ret.count x := by
  have := (List.filter_append_perm (fun y => wkOf c y = WK.sync ∨ wkOf c y = WK.cb) l).count_eq x
  unfold walkActs
  rw [Chain.cntW_append, Chain.cntW_perm x ((foldl_collect_perm c t _ ret).map Act.wake), List.map_append, Chain.cntW_append,
    Chain.cntW_map x _ (fun y => by split <;> rfl), Chain.cntW_map x _ (fun _ => rfl), Chain.cntW_map x _ (fun _ => rfl)]
  simp only [List.count_append, decide_not] at this ⊢
  omega

theorem cntW_pendActs (x : Nat) (pend : Option (Nat × Seen)) : Chain.cntW x (pendActs pend) = 0 := by
  cases pend <;> rfl

/-! ## the walker's loop against `runActs` -/

/-- the list-level state `S` with the pointer-level `flag` / `woken` / `observed` (all that `runActs` changes) -/
def lift (S : Chain.State) (s : State) : Chain.State :=
  { S with flag := s.flag, woken := s.woken, observed := s.observed }

@[simp] theorem lift_payload (S : Chain.State) (s : State) : (lift S s).payload = S.payload := rfl
@[simp] theorem lift_slot (S : Chain.State) (s : State) : (lift S s).slot = S.slot := rfl

theorem lift_abs (c : Cfg) (s : State) : lift (abs c s) s = abs c s := rfl

theorem lift_pendStep (c : Cfg) (s r : State) (pend : Option (Nat × Seen)) :
    lift (abs c (pendStep c s pend).1) r = lift (abs c s) r := by
  cases pend <;> rfl

/-- the rest of `value()` after its `pending()` load, at both levels -/
theorem runActs_pend (c : Cfg) (s : State) (t : Nat) (pend : Option (Nat × Seen)) (A : List Act) :
    Chain.runActs c t (abs c s) (pendActs pend ++ A) =
      ((Chain.runActs c t (abs c (pendStep c s pend).1) A).1,
       (pendStep c s pend).2 ++ (Chain.runActs c t (abs c (pendStep c s pend).1) A).2.1,
       (Chain.runActs c t (abs c (pendStep c s pend).1) A).2.2.1,
       (Chain.runActs c t (abs c (pendStep c s pend).1) A).2.2.2) := by
  cases pend with
  | none => rfl
  | some p =>
    obtain ⟨x, sn⟩ := p
    simp only [pendActs, pendStep, List.cons_append, List.nil_append, Chain.runActs, obsOf_eq]
    rfl

/-- fields no walker step changes -/
structure SameShared (s r : State) : Prop where
  owner : r.owner = s.owner
  head : r.head = s.head
  payload : r.payload = s.payload
  pc : r.pc = s.pc
  wins : r.wins = s.wins
  winner : r.winner = s.winner
  subscribed : r.subscribed = s.subscribed

theorem SameShared.refl (s : State) : SameShared s s := ⟨rfl, rfl, rfl, rfl, rfl, rfl, rfl⟩

theorem SameShared.trans {a b d : State} (h1 : SameShared a b) (h2 : SameShared b d) : SameShared a d :=
  ⟨h2.owner.trans h1.owner, h2.head.trans h1.head, h2.payload.trans h1.payload, h2.pc.trans h1.pc,
   h2.wins.trans h1.wins, h2.winner.trans h1.winner, h2.subscribed.trans h1.subscribed⟩

theorem pendStep_same (c : Cfg) (s : State) (pend : Option (Nat × Seen)) :
    SameShared s (pendStep c s pend).1 ∧ (pendStep c s pend).1.next = s.next ∧ (pendStep c s pend).1.woken = s.woken
      ∧ (pendStep c s pend).1.live = s.live ∧ (pendStep c s pend).1.log = s.log := by
  cases pend with
  | none => exact ⟨SameShared.refl s, rfl, rfl, rfl, rfl⟩
  | some p => exact ⟨⟨rfl, rfl, rfl, rfl, rfl, rfl, rfl⟩, rfl, rfl, rfl, rfl⟩

/-- the result `r` of a walker step against `runActs` on the corresponding actions -/
structure WalkRel (c : Cfg) (t : Nat) (S : Chain.State) (s : State) (acts : List Act) (r : WalkRes) (l' : List Nat) : Prop where
  st : (Chain.runActs c t (lift S s) acts).1 = lift S r.s
  evs : (Chain.runActs c t (lift S s) acts).2.1 = r.evs
  rest : (Chain.runActs c t (lift S s) acts).2.2.1 = pendActs r.pend ++ walkActs c t l' r.ret
  stopped : (Chain.runActs c t (lift S s) acts).2.2.2 = r.stopped
  same : SameShared s r.s

section
variable {c : Cfg} {t : Nat} {S : Chain.State} {s s₁ : State} {acts : List Act} {r : WalkRes} {l' : List Nat}

theorem WalkRel.of_run
    (h : Chain.runActs c t (lift S s) acts = (lift S r.s, r.evs, pendActs r.pend ++ walkActs c t l' r.ret, r.stopped))
    (hs : SameShared s r.s) : WalkRel c t S s acts r l' :=
  ⟨by rw [h], by rw [h], by rw [h], by rw [h], hs⟩

theorem WalkRel.run (h : WalkRel c t S s acts r l') :
    Chain.runActs c t (lift S s) acts = (lift S r.s, r.evs, pendActs r.pend ++ walkActs c t l' r.ret, r.stopped) :=
  Prod.ext h.st (Prod.ext h.evs (Prod.ext h.rest h.stopped))

variable {x : Nat} (hp : S.payload = s.payload)
include hp

/-- a callback / coroutine whose `value()` performs the `pending()` load: the step ends there; `s₁` is `resumeOf s x` up to
fields `runActs` does not see -/
theorem WalkRel.load {cur : Ptr} {ret : List Nat} (hh : S.slot.seen = s.head) (hn : needsLoad s.payload (wkOf c x) = true)
    (h₁ : lift S s₁ = lift S (resumeOf s x)) (hs : SameShared s s₁) :
    WalkRel c t S s (Act.wake x :: walkActs c t l' ret) ⟨s₁, [Ev.opLoadSlot t s.head], cur, ret, some (x, s.head), true⟩ l' := by
  have hn' : Chain.needsLoad (lift S s) (wkOf c x) = true := by rw [needsLoad_eq, lift_payload, hp]; exact hn
  have hh' : (lift S s).slot.seen = s.head := hh
  refine .of_run ?_ hs
  simp only [Chain.runActs, hn', if_true, hh', h₁]
  rfl

/-- a callback / coroutine that reads the result at once: the walker goes on within the same step, from `s₁` -/
theorem WalkRel.wake (h : WalkRel c t S s₁ acts r l')
    (hn : needsLoad s.payload (wkOf c x) = false) (h₁ : lift S s₁ = lift S (observe (resumeOf s x) x)) (hs : SameShared s s₁) :
    WalkRel c t S s (Act.wake x :: acts) { r with evs := Ev.obs x (obsOf s.payload (wkOf c x) Seen.ready) :: r.evs } l' := by
  have hn' : Chain.needsLoad (lift S s) (wkOf c x) = false := by rw [needsLoad_eq, lift_payload, hp]; exact hn
  have ho : Chain.obsOf (lift S s) (wkOf c x) Seen.ready = obsOf s.payload (wkOf c x) Seen.ready := by
    rw [obsOf_eq, lift_payload, hp]
  have hr := h.run
  rw [h₁] at hr
  refine .of_run ?_ (hs.trans h.same)
  simp only [Chain.runActs, hn', ho, Bool.false_eq_true, if_false]
  exact Prod.ext (congrArg (·.1) hr) (Prod.ext (congrArg (_ :: ·.2.1) hr) (congrArg (·.2.2) hr))

end

def Alive (s : State) : Prop := ∀ x, s.woken x = 0 → s.live x = true

theorem Alive.release {s s' : State} {x : Nat} (h : Alive s) (hw : s'.woken = upd s.woken x (s.woken x + 1))
    (hl : ∀ z, z ≠ x → s'.live z = s.live z) : Alive s' := by
  intro z hz
  rw [hw] at hz
  by_cases e : z = x
  · rw [e, upd_same] at hz; cases hz
  · rw [upd_ne e] at hz; rw [hl z e]; exact h z hz

theorem flush_sim (c : Cfg) (t : Nat) (S : Chain.State) : ∀ (ret : List Nat) (s : State) (r : WalkRes), flush c t s ret = r →
    S.payload = s.payload → S.slot.seen = s.head → Alive s →
    WalkRel c t S s (ret.map Act.wake) r [] ∧ r.cur = Seen.null ∧ r.s.next = s.next ∧ r.s.log = s.log ∧ Alive r.s := by
  intro ret
  induction ret with
  | nil =>
    intro s r hr _ _ hal
    subst hr
    exact ⟨.of_run rfl (SameShared.refl s), rfl, rfl, rfl, hal⟩
  | cons x rest ih =>
    intro s r hr hp hh hal
    have hres : Alive (resumeOf s x) := hal.release rfl (fun _ e => upd_ne e)
    rw [flush] at hr
    rw [List.map_cons]
    split at hr
    all_goals subst hr
    · rename_i hn
      rw [← walkActs_nil c t rest]
      exact ⟨WalkRel.load hp hh hn rfl ⟨rfl, rfl, rfl, rfl, rfl, rfl, rfl⟩, rfl, rfl, rfl, hres⟩
    · rename_i hn
      obtain ⟨ih1, ih2, ih3, ih4, ih5⟩ := ih (observe (resumeOf s x) x) _ rfl hp hh hres
      exact ⟨WalkRel.wake hp ih1 (Bool.eq_false_iff.2 hn) rfl ⟨rfl, rfl, rfl, rfl, rfl, rfl, rfl⟩, ih2, ih3, ih4, ih5⟩

theorem unlink_next (s : State) (t y : Nat) : (unlink s t y).next = upd s.next y Seen.null := rfl

/-- The proofs about `walk` rewrite with this first: the states they compare with `s` are then record updates of `s`, not
`observe (resumeOf (unlink s t y) y) y` with `unlink` and `acc` to be unfolded under every field projection. -/
theorem unlink_eq (s : State) (t y : Nat) : unlink s t y =
    { s with next := upd s.next y Seen.null,
             log := s.log ++ [⟨t, y, Field.next, false, s.live y, s.subscribed y⟩] ++ [⟨t, y, Field.next, true, s.live y, s.subscribed y⟩]
                      ++ [⟨t, y, Field.handle, false, s.live y, s.subscribed y⟩] } := by
  unfold unlink acc
  rfl

/-- One step of the walker, from the loop head with local pointer `cur` denoting `l`, all of whose nodes are live and published.
* It performs exactly the list-level actions `walkActs c t l ret` up to the next operation, what it leaves in its locals
  denotes the remaining actions, and it writes `_next` of visited nodes only.
* No node dies whose waiter it has not released (`Alive`).
* Its accesses are all by `t`, to nodes of the chain it walks, each live and published at that moment: it reads `y->_next`,
  clears it and reads the resumption target *before* `y->resume()`, and never comes back to `y`. -/
theorem walk_sim (c : Cfg) (t : Nat) (S : Chain.State) : ∀ (l : List Nat) (fuel : Nat) (s : State) (cur : Ptr) (ret : List Nat)
    (r : WalkRes), walk c t fuel s cur ret = r → ChainIs s.next cur l → l.length ≤ fuel → S.payload = s.payload → S.slot.seen = s.head →
    Alive s → (∀ x, x ∈ l → s.live x = true ∧ s.subscribed x = true) →
    ∃ l', WalkRel c t S s (walkActs c t l ret) r l' ∧ ChainIs r.s.next r.cur l' ∧ l'.length ≤ l.length
      ∧ (∀ x, x ∉ l → r.s.next x = s.next x) ∧ Alive r.s
      ∧ ∀ a, a ∈ r.s.log → a ∈ s.log ∨ (a.agent = t ∧ a.node ∈ l ∧ a.live = true ∧ a.pub = true) := by
  intro l
  induction l with
  | nil =>
    intro fuel s cur ret r hr hc _ hp hh hal _
    cases hc
    rw [walk] at hr
    rw [walkActs_nil]
    obtain ⟨h1, h2, h3, h4, h5⟩ := flush_sim c t S ret s r hr hp hh hal
    exact ⟨[], h1, h2 ▸ ChainIs.nil, Nat.le_refl _, fun x _ => by rw [h3], h5, fun a ha => Or.inl (h4 ▸ ha)⟩
  | cons y l' ih =>
    intro fuel s cur ret r hr hc hf hp hh hal hl
    have hy : y ∉ l' := (List.nodup_cons.1 (chainIs_nodup hc)).1
    cases hc with | cons hc' => ?_
    have hpop : ChainIs (upd s.next y Seen.null) (s.next y) l' := chainIs_frame hc' y _ hy
    cases fuel with
    | zero => exact absurd hf (Nat.not_succ_le_zero _)
    | succ f =>
      have hf' := Nat.le_of_succ_le_succ hf
      let u : State := { s with next := upd s.next y Seen.null, log := (unlink s t y).log }
      -- the nodes after `y` keep their `_next` when `y` is unlinked and the walk goes on
      have hfr : ∀ {r : WalkRes} {s₁ : State}, s₁.next = upd s.next y Seen.null → (∀ x, x ∉ l' → r.s.next x = s₁.next x) →
          ∀ x, x ∉ y :: l' → r.s.next x = s.next x := by
        intro r s₁ e h x hx
        rw [h x (fun m => hx (List.mem_cons_of_mem _ m)), e,
          upd_ne (fun (e' : x = y) => hx (e' ▸ List.mem_cons_self))]
      have hres : Alive (resumeOf u y) := hal.release rfl (fun _ e => upd_ne e)
      have hl' : ∀ x, x ∈ l' → upd s.live y false x = true ∧ s.subscribed x = true := fun x hx =>
        ⟨(upd_ne (fun (e : x = y) => hy (e ▸ hx))).trans (hl x (List.mem_cons_of_mem _ hx)).1, (hl x (List.mem_cons_of_mem _ hx)).2⟩
      have hun : ∀ a, a ∈ u.log → a ∈ s.log ∨ (a.agent = t ∧ a.node ∈ y :: l' ∧ a.live = true ∧ a.pub = true) := by
        intro a ha
        obtain ⟨hly, hsy⟩ := hl y List.mem_cons_self
        simp only [u, unlink_eq, List.mem_append, List.mem_singleton] at ha
        rcases ha with ((ha | rfl) | rfl) | rfl
        · exact Or.inl ha
        all_goals exact Or.inr ⟨rfl, List.mem_cons_self, hly, hsy⟩
      have hgo : ∀ {r : WalkRes}, (∀ a, a ∈ r.s.log → a ∈ u.log ∨ (a.agent = t ∧ a.node ∈ l' ∧ a.live = true ∧ a.pub = true)) →
          ∀ a, a ∈ r.s.log → a ∈ s.log ∨ (a.agent = t ∧ a.node ∈ y :: l' ∧ a.live = true ∧ a.pub = true) := by
        intro r hr a ha
        rcases hr a ha with h | ⟨h1, h2, h3⟩
        · exact hun a h
        · exact Or.inr ⟨h1, List.mem_cons_of_mem _ h2, h3⟩
      rw [walk, unlink_eq] at hr
      split at hr
      · -- blocking waiter: `flag.store(true)`
        rename_i hs
        subst hr
        rw [walkActs_cons_sync c t y l' ret hs]
        exact ⟨l', .of_run rfl ⟨rfl, rfl, rfl, rfl, rfl, rfl, rfl⟩, hpop, Nat.le_succ _,
          hfr (r := ⟨_, _, _, _, _, _⟩) rfl (fun _ _ => rfl), hal.release rfl (fun _ _ => rfl), hun⟩
      · rename_i hs
        split at hr
        · rename_i hcb
          rw [walkActs_cons_cb c t y l' ret hcb]
          split at hr
          all_goals subst hr
          · -- callback whose `value()` performs the `pending()` load
            rename_i hn
            exact ⟨l', WalkRel.load hp hh hn rfl ⟨rfl, rfl, rfl, rfl, rfl, rfl, rfl⟩, hpop, Nat.le_succ _,
              hfr (r := ⟨_, _, _, _, _, _⟩) rfl (fun _ _ => rfl), hres, hun⟩
          · -- callback that reads the result at once; the walk goes on
            rename_i hn
            obtain ⟨m, hm1, hm2, hm3, hm4, hm5, hm6⟩ :=
              ih f (observe (resumeOf u y) y) (s.next y) ret _ rfl hpop hf' hp hh hres hl'
            exact ⟨m, WalkRel.wake hp hm1 (Bool.eq_false_iff.2 hn) rfl ⟨rfl, rfl, rfl, rfl, rfl, rfl, rfl⟩, hm2,
              Nat.le_succ_of_le hm3, hfr rfl hm4, hm5, hgo hm6⟩
        · -- coroutine: the handle is collected
          rename_i hcb
          subst hr
          rw [walkActs_cons_coro c t y l' ret hs hcb]
          obtain ⟨m, hm1, hm2, hm3, hm4, hm5, hm6⟩ :=
            ih f u (s.next y) (collect c t ret y) _ rfl hpop hf' hp hh hal (fun x hx => hl x (List.mem_cons_of_mem _ hx))
          exact ⟨m, ⟨hm1.st, hm1.evs, hm1.rest, hm1.stopped, SameShared.trans (b := u) ⟨rfl, rfl, rfl, rfl, rfl, rfl, rfl⟩ hm1.same⟩,
            hm2, Nat.le_succ_of_le hm3, hfr rfl hm4, hm5, hgo hm6⟩

/-! ## the invariant -/

structure Struct (c : Cfg) (s : State) : Prop where
  /-- `follow` reads the whole chain -/
  chain : s.head ≠ Seen.ready → ChainIs s.next s.head (follow s.next c.n s.head)
  walk : ∀ t dt cur ret pend, s.pc t = Pc.rWalk dt cur ret pend → ChainIs s.next cur (follow s.next c.n cur)
  /-- `assert(this->_next == nullptr)` at the entry of `subscribe_check_ready` -/
  fresh : ∀ t, s.pc t = Pc.wLoad → s.next t = Seen.null
  casnext : ∀ t f, s.pc t = Pc.wCas f → s.next t ≠ Seen.ready
  /-- `wRead true`: the refused path -/
  refused : ∀ t, s.pc t = Pc.wRead true → s.subscribed t = false
  alive : Alive s

/-- `other`: whoever touches a node not its own is no waiter agent at all, so it is the walker -/
structure AccessOK (c : Cfg) (a : Access) : Prop where
  live : a.live = true
  own : a.agent = a.node → a.pub = false
  other : a.agent ≠ a.node → a.pub = true ∧ Chain.isW c a.agent = false ∧ Chain.isW c a.node = true

structure PInv (c : Cfg) (s : State) : Prop where
  base : Chain.Inv c (abs c s)
  str : Struct c s
  log : ∀ a, a ∈ s.log → AccessOK c a

theorem struct_init (c : Cfg) : Struct c (init c) := by
  refine ⟨?_, ?_, ?_, ?_, ?_, ?_⟩
  · intro _
    show ChainIs _ Seen.null (follow _ c.n Seen.null)
    cases c.n <;> exact ChainIs.nil
  · intro t dt cur ret pend h
    simp only [init] at h
    split at h
    · cases hk : c.kind t <;> simp [initPc, hk] at h
    · cases h
  · intro _ _; rfl
  · intro t f _; simp [init]
  · intro _ _; rfl
  · intro _ _; rfl

theorem pinv_init (c : Cfg) : PInv c (init c) := ⟨by rw [abs_init]; exact Chain.inv_init c, struct_init c, fun _ ha => by cases ha⟩

/-- what `Struct` says about agent `i` standing at `p` -/
def PcOK (c : Cfg) (next : Nat → Ptr) (sub : Nat → Bool) (i : Nat) : Pc → Prop
  | Pc.rWalk _ cur _ _ => ChainIs next cur (follow next c.n cur)
  | Pc.wLoad => next i = Seen.null
  | Pc.wCas _ => next i ≠ Seen.ready
  | Pc.wRead true => sub i = false
  | _ => True

theorem Struct.pcOK {c : Cfg} {s : State} (hs : Struct c s) (i : Nat) : PcOK c s.next s.subscribed i (s.pc i) := by
  unfold PcOK
  split
  · exact hs.walk i _ _ _ _ ‹_›
  · exact hs.fresh i ‹_›
  · exact hs.casnext i _ ‹_›
  · exact hs.refused i ‹_›
  · trivial

/-- the other agents have not moved: their clauses are to be shown of the new `_next` / `subscribed` (`hfr`) -/
theorem Struct.of_step {c : Cfg} {s s' : State} (t : Nat) {p : Pc}
    (hchain : s'.head ≠ Seen.ready → ChainIs s'.next s'.head (follow s'.next c.n s'.head))
    (hpc : s'.pc = upd s.pc t p) (hfr : ∀ i, i ≠ t → PcOK c s'.next s'.subscribed i (s.pc i))
    (hself : PcOK c s'.next s'.subscribed t p) (hal : Alive s') : Struct c s' := by
  have key : ∀ i q, s'.pc i = q → PcOK c s'.next s'.subscribed i q := by
    intro i q hq
    by_cases e : i = t
    · rw [← hq, hpc, e, upd_same]; exact hself
    · rw [← hq, hpc, upd_ne e]; exact hfr i e
  exact ⟨hchain, fun i _ _ _ _ => key i _, fun i => key i _, fun i _ => key i _, fun i => key i _, hal⟩

theorem struct_setPc {c : Cfg} {s : State} (hs : Struct c s) (t : Nat) (p : Pc) (hp : PcOK c s.next s.subscribed t p) :
    Struct c (setPc s t p) :=
  .of_step t hs.chain rfl (fun i _ => hs.pcOK i) hp hs.alive

theorem alive_observe (s : State) (x : Nat) (h : Alive s) : Alive (observe s x) := h

/-- a blocking waiter's stack node dies when its thread passes `flag.wait`: by then the waiter has been released -/
theorem alive_die {c : Cfg} {s : State} (h : PInv c s) (t : Nat) (hf : s.flag t = true) : Alive (die s t) := by
  intro x hx
  by_cases e : x = t
  · have : 1 ≤ s.woken t := ((h.base.flag_iff t).1 hf).2
    rw [e] at hx
    exact absurd hx (Nat.ne_of_gt this)
  · exact (upd_ne e).trans (h.str.alive x hx)

/-! ## what the invariant says in a state -/

section
variable {c : Cfg} {s : State} (h : PInv c s)
include h

theorem PInv.lt_of_pc {t : Nat} (hpc : s.pc t ≠ Pc.done) : t < c.n :=
  h.base.lt_n (t := t) (by rwa [abs_pc, Ne, absPc_done_iff])

theorem PInv.unsub {t : Nat} (hpc : s.pc t = Pc.wLoad ∨ (∃ f, s.pc t = Pc.wCas f) ∨ s.pc t = Pc.wRead true) :
    s.subscribed t = false := by
  rcases hpc with hpc | ⟨f, hpc⟩ | hpc
  case inr.inr => exact h.str.refused t hpc
  all_goals exact h.base.unsub (t := t) (by rw [abs_pc, hpc]; first | exact Or.inl rfl | exact Or.inr ⟨_, rfl⟩)

theorem PInv.abs_seen : (abs c s).slot.seen = s.head := by
  by_cases hh : s.head = Seen.ready
  · rw [(absSlot_ready_iff c s).2 hh, hh]; rfl
  · rw [absSlot_chain c s hh]
    have key : ∀ (hd : Ptr) (l : List Nat), ChainIs s.next hd l → (Slot.chain l).seen = hd := by
      intro hd l hc; cases hc <;> rfl
    exact key _ _ (h.str.chain hh)

theorem PInv.resolve_head {t : Nat} {dt : Bool} (hp : s.pc t = Pc.rResolve dt) : s.head ≠ Seen.ready := by
  obtain ⟨l, hl⟩ := h.base.chain_of_resolve (t := t) (dt := dt) (by rw [abs_pc, hp]; rfl)
  intro e
  rw [(absSlot_ready_iff c s).2 e] at hl
  cases hl

theorem PInv.chain_nodes (hh : s.head ≠ Seen.ready) {x : Nat} (hx : x ∈ follow s.next c.n s.head) :
    s.subscribed x = true ∧ x < c.n := by
  have := (h.base.mem_chain_iff (absSlot_chain c s hh) x).1 hx
  exact ⟨this, (h.base.waiter_of_sub this).1⟩

theorem PInv.not_mem_chain {t : Nat} (hh : s.head ≠ Seen.ready) (ht : s.subscribed t = false) :
    t ∉ follow s.next c.n s.head :=
  fun hx => Bool.false_ne_true (ht.symm.trans (h.chain_nodes hh hx).1)

theorem PInv.push {t : Nat} {f : Bool} (hp : s.pc t = Pc.wCas f) (he : s.head = s.next t) :
    ChainIs s.next (Seen.node t) (follow s.next c.n (Seen.node t))
      ∧ follow s.next c.n (Seen.node t) = t :: follow s.next c.n s.head := by
  have hh : s.head ≠ Seen.ready := by rw [he]; exact h.str.casnext t f hp
  have hpush := chainIs_push (h.str.chain hh) t he.symm
  have hlen : (t :: follow s.next c.n s.head).length ≤ c.n := by
    apply len_le c _ (chainIs_nodup hpush)
    intro x hx
    rcases List.mem_cons.1 hx with e | e
    · rw [e]; exact h.lt_of_pc (by rw [hp]; exact Pc.noConfusion)
    · exact (h.chain_nodes hh e).2
  have := follow_of_chainIs hpush c.n hlen
  exact ⟨this ▸ hpush, this⟩

theorem PInv.walk_facts {t : Nat} {dt : Bool} {cur : Ptr} {ret : List Nat} {pend : Option (Nat × Seen)}
    (hpc : s.pc t = Pc.rWalk dt cur ret pend) :
    s.head = Seen.ready ∧ s.winner = some t ∧ ChainIs s.next cur (follow s.next c.n cur) ∧ (follow s.next c.n cur).length ≤ c.n ∧
    ∀ x, x ∈ follow s.next c.n cur → s.subscribed x = true ∧ s.woken x = 0 ∧ x ≠ t ∧ x ∉ ret := by
  have hpc' : (abs c s).pc t = Chain.Pc.rRun dt (pendActs pend ++ walkActs c t (follow s.next c.n cur) ret) := by
    rw [abs_pc, hpc]; rfl
  obtain ⟨hs, hw⟩ := h.base.ready_of_run hpc'
  have hc := h.str.walk t dt cur ret pend hpc
  have hn : ∀ x, x ∈ follow s.next c.n cur → s.subscribed x = true ∧ s.woken x = 0 ∧ x ∉ ret := by
    intro x hx
    have hpos : 0 < (follow s.next c.n cur).count x := List.count_pos_iff.2 hx
    have : s.woken x + _ = if s.subscribed x = true then 1 else 0 := h.base.readyW hs t hw x
    rw [hpc'] at this
    simp only [Chain.actsOf, Chain.cntW_append, cntW_pendActs, cntW_walkActs, Nat.zero_add] at this
    split at this
    · exact ⟨‹_›, by omega, fun hr => by have := List.count_pos_iff.2 hr; omega⟩
    · omega
  refine ⟨(absSlot_ready_iff c s).1 hs, hw, hc, len_le c _ (chainIs_nodup hc) (fun x hx => (h.base.waiter_of_sub (hn x hx).1).1), ?_⟩
  intro x hx
  obtain ⟨h1, h2, h3⟩ := hn x hx
  exact ⟨h1, h2, fun e => h.base.not_subscribed (h.base.winpc t hw).2.1 (e ▸ h1), h3⟩

theorem PInv.walker_unique {t t' : Nat} {dt dt' : Bool} {cur cur' : Ptr} {ret ret' : List Nat} {pend pend' : Option (Nat × Seen)}
    (hpc : s.pc t = Pc.rWalk dt cur ret pend) (hpc' : s.pc t' = Pc.rWalk dt' cur' ret' pend') : t' = t := by
  have h1 := (h.walk_facts hpc).2.1
  have h2 := (h.walk_facts hpc').2.1
  rw [h1] at h2; injection h2 with h2; exact h2.symm

theorem PInv.not_mem_walk {w t : Nat} {dt : Bool} {cur : Ptr} {ret : List Nat} {pend : Option (Nat × Seen)}
    (hpc : s.pc w = Pc.rWalk dt cur ret pend) (ht : s.subscribed t = false) : t ∉ follow s.next c.n cur :=
  fun hx => Bool.false_ne_true (ht.symm.trans ((h.walk_facts hpc).2.2.2.2 t hx).1)

/-- `walk_sim` applies, with the fuel `c.n`, after the rest of a pending `value()`; of the fields `Struct` reads the step
changes only `_next` of published nodes (and `live`) -/
theorem PInv.walk_step {t : Nat} {dt : Bool} {cur : Ptr} {ret : List Nat} {pend : Option (Nat × Seen)}
    (hp : s.pc t = Pc.rWalk dt cur ret pend) (r : WalkRes) (hr : walk c t c.n (pendStep c s pend).1 cur ret = r) :
    Chain.runActs c t (abs c (pendStep c s pend).1) (walkActs c t (follow s.next c.n cur) ret)
        = (lift (abs c s) r.s, r.evs, pendActs r.pend ++ walkActs c t (follow r.s.next c.n r.cur) r.ret, r.stopped)
      ∧ ChainIs r.s.next r.cur (follow r.s.next c.n r.cur) ∧ SameShared s r.s
      ∧ (∀ i, s.subscribed i = false → r.s.next i = s.next i) ∧ Alive r.s
      ∧ ∀ a, a ∈ r.s.log → a ∈ s.log ∨ (a.agent = t ∧ a.node ∈ follow s.next c.n cur ∧ a.live = true ∧ a.pub = true) := by
  obtain ⟨hhead, _, hc, hlen, hnodes⟩ := h.walk_facts hp
  obtain ⟨hsame, hnx, hwk, hlv, hlog⟩ := pendStep_same c s pend
  have hlift := lift_pendStep c s r.s pend
  generalize (pendStep c s pend).1 = s₀ at hr hsame hnx hwk hlv hlog hlift ⊢
  have hseen : (abs c s₀).slot.seen = s₀.head := by
    have e : s₀.head = Seen.ready := hsame.head.trans hhead
    rw [(absSlot_ready_iff c _).2 e, e]; rfl
  obtain ⟨l', hrel, hcl', hl', hfr, hal, hacc⟩ :=
    walk_sim c t (abs c s₀) (follow s.next c.n cur) c.n s₀ cur ret r hr (hnx ▸ hc) hlen rfl hseen
      (fun x hx => by rw [hlv]; rw [hwk] at hx; exact h.str.alive x hx)
      (fun x hx => by rw [hlv, hsame.subscribed]; exact ⟨h.str.alive x (hnodes x hx).2.1, (hnodes x hx).1⟩)
  have hfol := follow_of_chainIs hcl' c.n (Nat.le_trans hl' hlen)
  have hrun := hrel.run
  rw [lift_abs, hlift, ← hfol] at hrun
  exact ⟨hrun, hfol ▸ hcl', hsame.trans hrel.same,
    fun i hi => by rw [hfr i (h.not_mem_walk hp hi), hnx],
    hal, fun a ha => hlog ▸ hacc a ha⟩

/-! ### writes of `_next` that the other agents do not see -/

/-- agent `i` does not move, and the step writes `_next` neither of `i`'s own node while that is unpublished nor of the rest of
a chain `i` walks: the abstraction of `i`'s pc and `i`'s clause of `Struct` are as before -/
theorem PInv.frame {next' : Nat → Ptr} {sub' : Nat → Bool} {i : Nat} (hn : s.subscribed i = false → next' i = s.next i)
    (hs : sub' i = s.subscribed i)
    (hw : ∀ dt cur ret pend, s.pc i = Pc.rWalk dt cur ret pend → ∀ x, x ∈ follow s.next c.n cur → next' x = s.next x) :
    absPc c next' i (s.pc i) = absPc c s.next i (s.pc i) ∧ PcOK c next' sub' i (s.pc i) := by
  cases hp : s.pc i with
  | rWalk dt cur ret pend =>
    have e := follow_congr c.n cur (hw dt cur ret pend hp)
    refine ⟨by simp only [absPc, e], ?_⟩
    show ChainIs next' cur (follow next' c.n cur)
    rw [e]
    exact chainIs_congr (h.str.walk i dt cur ret pend hp) (hw dt cur ret pend hp)
  | wLoad => exact ⟨rfl, (hn (h.unsub (Or.inl hp))).trans (h.str.fresh i hp)⟩
  | wCas f =>
    have e := hn (h.unsub (Or.inr (Or.inl ⟨f, hp⟩)))
    exact ⟨by simp only [absPc, e], fun e' => h.str.casnext i f hp (e.symm.trans e')⟩
  | wRead clr =>
    cases clr
    · exact ⟨rfl, trivial⟩
    · exact ⟨rfl, hs.trans (h.str.refused i hp)⟩
  | _ => exact ⟨rfl, trivial⟩

/-- a waiter that is not published writes `_next` of its own node (failed CAS, refused path): nobody else's abstraction or
clause reads it -/
theorem PInv.writeOwn {s' : State} {t : Nat} (hu : s.subscribed t = false) (v : Ptr) (p : Pc) (lg : List Access)
    (hs' : s' = { s with next := upd s.next t v, pc := upd s.pc t p, log := lg })
    (hself : PcOK c (upd s.next t v) s.subscribed t p) :
    abs c s' = Chain.setPc (abs c s) t (absPc c (upd s.next t v) t p) ∧ Struct c s' := by
  subst hs'
  have hag : s.head ≠ Seen.ready → ∀ x, x ∈ follow s.next c.n s.head → upd s.next t v x = s.next x :=
    fun hh x hx => upd_ne (fun e => h.not_mem_chain hh hu (e ▸ hx))
  have hfr : ∀ i, i ≠ t → _ ∧ PcOK c (upd s.next t v) s.subscribed i (s.pc i) := fun i hi =>
    h.frame (fun _ => upd_ne hi) rfl (fun _ _ _ _ hw x hx => upd_ne (fun e => h.not_mem_walk hw hu (e ▸ hx)))
  constructor
  · apply chain_state_ext <;> try rfl
    · show absSlot c s.head (upd s.next t v) = absSlot c s.head s.next
      unfold absSlot
      split
      · rfl
      · exact congrArg _ (follow_congr _ _ (hag ‹_›))
    · exact abs_pc_step c s.next (upd s.next t v) s.pc t p (fun i hi => (hfr i hi).1)
  · refine .of_step t (fun hh => ?_) rfl (fun i hi => (hfr i hi).2) hself h.str.alive
    show ChainIs (upd s.next t v) s.head (follow (upd s.next t v) c.n s.head)
    rw [follow_congr c.n s.head (hag hh)]
    exact chainIs_congr (h.str.chain hh) (hag hh)

theorem PInv.acc_own {t : Nat} (hu : s.subscribed t = false) (s' : State) (hl : s'.live = s.live)
    (hs : s'.subscribed = s.subscribed) (hok : ∀ a, a ∈ s'.log → a ∈ s.log ∨ AccessOK c a) (f : Field) (w : Bool) :
    ∀ a, a ∈ (acc s' t t f w).log → a ∈ s.log ∨ AccessOK c a := by
  intro a ha
  rcases List.mem_append.1 ha with ha | ha
  · exact hok a ha
  · rw [List.mem_singleton.1 ha, hl, hs]
    exact Or.inr ⟨h.str.alive t (h.base.woken_zero hu), fun _ => hu, fun e => absurd rfl e⟩

end

/-! ## every step -/

/-- Agent `t`'s step `r` from `s` against the list-level step `R`: the abstraction commutes, the events are the same, `Struct`
is kept (a blocked waiter must have been released), and every log entry the step adds is in order. -/
structure StepOK (c : Cfg) (s : State) (t : Nat) (r : State × List Ev) (R : Chain.State × List Ev) : Prop where
  abs : abs c r.1 = R.1
  evs : r.2 = R.2
  str : enabled c s t = true → Struct c r.1
  log : ∀ a, a ∈ r.1.log → a ∈ s.log ∨ AccessOK c a

/-- … for a move of the control part: nothing is logged -/
structure CtlOK (c : Cfg) (s : State) (r : State × List Ev) (R : Chain.State × List Ev) : Prop where
  abs : abs c r.1 = R.1
  evs : r.2 = R.2
  str : Struct c r.1
  log : r.1.log = s.log

/-- … that ends a step whose plain accesses led from `s` to `s'` -/
theorem CtlOK.after {c : Cfg} {s s' : State} {t : Nat} {r : State × List Ev} {R : Chain.State × List Ev} (h : CtlOK c s' r R)
    (hl : ∀ a, a ∈ s'.log → a ∈ s.log ∨ AccessOK c a) : StepOK c s t r R :=
  ⟨h.abs, h.evs, fun _ => h.str, fun a ha => hl a (h.log ▸ ha)⟩

theorem CtlOK.ok {c : Cfg} {s : State} {t : Nat} {r : State × List Ev} {R : Chain.State × List Ev} (h : CtlOK c s r R) :
    StepOK c s t r R :=
  h.after fun _ => Or.inl

theorem ctl_setPc {c : Cfg} {s : State} (hs : Struct c s) (t : Nat) (p : Pc) (e : List Ev) (hp : PcOK c s.next s.subscribed t p) :
    CtlOK c s (setPc s t p, e) (Chain.setPc (abs c s) t (absPc c s.next t p), e) :=
  ⟨abs_setPc c s t p, rfl, struct_setPc hs t p hp, rfl⟩

/-! The owner-pointer operations against their list-level namesakes.  `A` is `abs c s` itself, or (after the walker's last
step, when its own pc in `s` is stale) any state that has `abs`'s `owner` / `wins` and in which a move of `t` is the
abstraction of that move in `s`. -/

section
variable {c : Cfg} {s : State} {t : Nat} {A : Chain.State} (hw : A.wins = s.wins)
  (hk : ∀ p e, PcOK c s.next s.subscribed t p → CtlOK c s (setPc s t p, e) (Chain.setPc A t (absPc c s.next t p), e))
include hw hk

theorem ctl_claim (p : Pc) (e : List Ev) (hp : PcOK c s.next s.subscribed t p) :
    CtlOK c s ({ setPc s t p with owner := false, wins := s.wins + 1, winner := some t }, e)
      ({ Chain.setPc A t (absPc c s.next t p) with owner := false, wins := A.wins + 1, winner := some t }, e) := by
  have h1 : abs c (setPc s t p) = Chain.setPc A t (absPc c s.next t p) := (hk p e hp).abs
  exact ⟨by rw [← h1, hw]; rfl, rfl, { (hk p e hp).str with }, rfl⟩

variable (ho : A.owner = s.owner)
include ho

theorem ctl_dtorLoad : CtlOK c s (dtorLoad s t) (Chain.dtorLoad A t) := by
  unfold dtorLoad Chain.dtorLoad
  rw [ho]
  split
  · exact ctl_claim hw hk _ _ (by trivial)
  · exact hk _ _ (by trivial)

theorem ctl_ddefClaim : CtlOK c s (ddefClaim s t) (Chain.ddefClaim A t) := by
  unfold ddefClaim Chain.ddefClaim
  rw [ho]
  split
  · exact ctl_claim hw hk _ _ (by trivial)
  · exact hk _ _ (by trivial)

theorem ctl_dtorEnter : CtlOK c s (dtorEnter c s t) (Chain.dtorEnter c A t) := by
  unfold dtorEnter Chain.dtorEnter
  cases c.kind t
  case ddef => exact ctl_ddefClaim hw hk ho
  all_goals exact ctl_dtorLoad hw hk ho

theorem ctl_finishRun (dt : Bool) (evs : List Ev) : CtlOK c s (finishRun c s t dt evs) (Chain.finishRun c A t dt evs) := by
  unfold finishRun Chain.finishRun
  split
  · exact hk _ _ (by trivial)
  · cases c.kind t
    case ddef =>
      have h := ctl_dtorLoad hw hk ho
      exact { h with evs := congrArg (evs ++ ·) h.evs }
    all_goals exact hk _ _ (by trivial)

end

theorem ctl_readStep2 {c : Cfg} {s : State} (hs : Struct c s) (t : Nat) (seen : Seen) :
    CtlOK c s (readStep2 c s t seen) (Chain.readStep2 c (abs c s) t seen) := by
  unfold readStep2 Chain.readStep2
  exact ⟨by rw [abs_observe, abs_setPc]; rfl, by rw [obsOf_eq]; rfl, { struct_setPc hs t Pc.done trivial with }, rfl⟩

theorem ctl_readStep {c : Cfg} {s : State} (hs : Struct c s) (t : Nat) (hseen : (abs c s).slot.seen = s.head) :
    CtlOK c s (readStep c s t) (Chain.readStep c (abs c s) t) := by
  unfold readStep Chain.readStep
  rw [needsLoad_eq, hseen]
  have hp : (abs c s).payload = s.payload := rfl
  rw [hp]
  split
  · exact ctl_setPc hs t _ _ (by trivial)
  · exact ctl_readStep2 hs t Seen.ready

section
variable {c : Cfg} {s : State} (h : PInv c s)
include h

/-- `subscribe_check_ready`: the two plain accesses before the CAS, a third when it fails, all to the subscriber's own
unpublished node; success pushes the node, failure writes only `_next` of it -/
theorem ok_cas (t : Nat) (f : Bool) (hp : s.pc t = Pc.wCas f) :
    StepOK c s t (casStep c s t f) (Chain.astep c (abs c s) t) := by
  have hu := h.unsub (Or.inr (Or.inl ⟨f, hp⟩))
  have hprep : ∀ a, a ∈ (prepare s t f).log → a ∈ s.log ∨ AccessOK c a :=
    h.acc_own hu (acc s t t _ f) rfl rfl (h.acc_own hu s rfl rfl (fun _ => Or.inl) _ f) Field.next false
  have hfail := h.acc_own hu (prepare s t f) rfl rfl hprep Field.next true
  -- `setPc`, `acc`, `prepare` are unfolded so that the fields of the post-states reduce without comparing whole states
  unfold Chain.astep casStep setPc acc prepare
  rw [abs_pc, hp]
  simp only [absPc]
  by_cases hh : s.head = Seen.ready
  · -- refused
    have hne : s.head ≠ s.next t := by rw [hh]; exact fun e => h.str.casnext t f hp e.symm
    rw [(absSlot_ready_iff c s).2 hh, if_neg hne, if_pos hh]
    obtain ⟨h1, h2⟩ := h.writeOwn hu Seen.ready (Pc.wRead true) _ rfl hu
    exact ⟨h1, rfl, fun _ => h2, hfail⟩
  · have hsl := absSlot_chain c s hh
    have hseen : (Slot.chain (follow s.next c.n s.head)).seen = s.head := by
      have := h.abs_seen; rwa [hsl] at this
    rw [hsl]
    simp only [hseen]
    split
    · -- success: `t` is published; nobody walks, so only the refused waiters' clause reads `subscribed`
      rename_i he
      refine ⟨?_, rfl, fun _ => .of_step t (fun _ => (h.push hp he).1) rfl
        (fun i e => (h.frame (fun _ => rfl) (upd_ne e) (fun _ _ _ _ _ _ _ => rfl)).2) (by split <;> trivial) h.str.alive, hprep⟩
      apply chain_state_ext <;> try rfl
      · show absSlot c (Seen.node t) s.next = Slot.chain (t :: follow s.next c.n s.head)
        unfold absSlot
        rw [if_neg Seen.noConfusion, (h.push hp he).2]
      · show (fun i => absPc c s.next i (upd s.pc t (if wkOf c t = WK.sync then Pc.wWait else Pc.wFinParked) i)) = upd (abs c s).pc t _
        rw [abs_pc_step c s.next s.next s.pc t _ (fun _ _ => rfl)]
        congr 1
        split <;> rfl
    · -- failure: `_next := head`, retry
      obtain ⟨h1, h2⟩ := h.writeOwn hu s.head (Pc.wCas false) _ rfl (fun e => hh ((upd_same _ _ _).symm.trans e))
      exact ⟨h1.trans (by simp only [absPc, upd_same]), rfl, fun _ => h2, hfail⟩

/-- `_next = nullptr` on the refused path is invisible at list level -/
theorem ok_clearNext (t : Nat) (hp : s.pc t = Pc.wRead true) :
    abs c (clearNext s t) = abs c s ∧ Struct c (clearNext s t) ∧ ∀ a, a ∈ (clearNext s t).log → a ∈ s.log ∨ AccessOK c a := by
  have hu := h.unsub (Or.inr (Or.inr hp))
  obtain ⟨h1, h2⟩ := h.writeOwn (s' := clearNext s t) hu Seen.null (Pc.wRead true) _
    (by rw [Chain.upd_self _ _ _ hp]; rfl) hu
  exact ⟨h1.trans (Chain.setPc_self t _ _ (by rw [abs_pc, hp]; rfl)), h2,
    h.acc_own hu (acc s t t Field.next false) rfl rfl (h.acc_own hu s rfl rfl (fun _ => Or.inl) _ _) _ _⟩

end

/-- `r` has the shared fields of `s` (the slot being `ready`) and the `_next` fields the abstraction of the other agents reads -/
theorem abs_setPc_of_same {c : Cfg} {s r : State} {t : Nat} (hs : SameShared s r) (hh : s.head = Seen.ready)
    (hfr : ∀ i, i ≠ t → absPc c r.next i (s.pc i) = absPc c s.next i (s.pc i)) (q : Pc) :
    abs c (setPc r t q) = Chain.setPc (lift (abs c s) r) t (absPc c r.next t q) := by
  apply chain_state_ext
  · exact hs.owner
  · show absSlot c r.head r.next = absSlot c s.head s.next
    unfold absSlot
    rw [if_pos (hs.head.trans hh), if_pos hh]
  · exact hs.payload
  · rfl
  · show (fun i => absPc c r.next i (upd r.pc t q i)) = upd (abs c s).pc t _
    rw [hs.pc]
    exact abs_pc_step c s.next r.next s.pc t q hfr
  · exact hs.wins
  · exact hs.winner
  · exact hs.subscribed
  · rfl
  · rfl

/-- the walker's step: `walk_step`; the other agents' abstraction and clauses do not read what the walker wrote; its accesses
are to published waiters' nodes, none of them its own -/
theorem ok_walk {c : Cfg} {s : State} (h : PInv c s) {t : Nat} {dt : Bool} {cur : Ptr} {ret : List Nat}
    {pend : Option (Nat × Seen)} (hp : s.pc t = Pc.rWalk dt cur ret pend) :
    StepOK c s t (stepWalk c s t dt cur ret pend)
      (Chain.stepRun c (abs c s) t dt (pendActs pend ++ walkActs c t (follow s.next c.n cur) ret)) := by
  obtain ⟨hhead, hwin, _, _, hnodes⟩ := h.walk_facts hp
  unfold stepWalk Chain.stepRun
  generalize hr : walk c t c.n (pendStep c s pend).1 cur ret = r
  obtain ⟨hrun, hcl', hsm, hrnext, hal, hacc⟩ := h.walk_step hp r hr
  have hfr : ∀ i, i ≠ t → _ ∧ PcOK c r.s.next r.s.subscribed i (s.pc i) := fun i hi =>
    h.frame (hrnext i) (congrFun hsm.subscribed i) (fun _ _ _ _ hw => absurd (h.walker_unique hp hw) hi)
  have K : ∀ p e, PcOK c r.s.next r.s.subscribed t p →
      CtlOK c r.s (setPc r.s t p, e) (Chain.setPc (lift (abs c s) r.s) t (absPc c r.s.next t p), e) := fun p e hself =>
    ⟨abs_setPc_of_same hsm hhead (fun i hi => (hfr i hi).1) p, rfl,
      .of_step t (fun hh => absurd (hsm.head.trans hhead) hh) (congrArg (upd · t p) hsm.pc) (fun i hi => (hfr i hi).2) hself hal, rfl⟩
  have hlog : ∀ a, a ∈ r.s.log → a ∈ s.log ∨ AccessOK c a := by
    intro a ha
    rcases hacc a ha with h1 | ⟨h1, h2, h3, h4⟩
    · exact Or.inl h1
    · have hne : a.agent ≠ a.node := by rw [h1]; exact fun e => (hnodes _ h2).2.2.1 e.symm
      exact Or.inr ⟨h3, fun e => absurd e hne,
        fun _ => ⟨h4, h1 ▸ h.base.winner_not_waiter hwin, (h.base.waiter_of_sub (hnodes _ h2).1).2⟩⟩
  simp only [hr, runActs_pend, hrun]
  by_cases hs : r.stopped = true
  · rw [if_pos hs, if_pos hs]
    exact CtlOK.after (K _ _ hcl') hlog
  · rw [if_neg hs, if_neg hs]
    exact (ctl_finishRun hsm.wins.symm K hsm.owner.symm dt _).after hlog

/-- one step of any agent `t`, enabled or not (`str` alone asks for it: a blocked waiter that moves must have been released) -/
theorem pstep_ok {c : Cfg} {s : State} (h : PInv c s) (t : Nat) : StepOK c s t (pstep c s t) (Chain.astep c (abs c s) t) := by
  have hs := h.str
  have K := ctl_setPc hs t
  unfold pstep Chain.astep
  rw [abs_pc]
  have ho : (abs c s).owner = s.owner := rfl
  have hf : (abs c s).flag = s.flag := rfl
  cases hp : s.pc t with
  | done => exact ⟨rfl, rfl, fun _ => hs, fun _ => Or.inl⟩
  | rClaim =>
    simp only [absPc, ho]
    split
    · exact (ctl_claim rfl K _ _ (by trivial)).ok
    · exact (K _ _ (by trivial)).ok
  | rFinLost | dFin | wFinParked => exact (K _ _ (by trivial)).ok
  | rResolve dt =>
    simp only [absPc, h.abs_seen]
    unfold resolveStep
    refine ⟨?_, rfl, fun _ => { struct_setPc hs t (Pc.rWalk dt s.head [] none) (hs.chain (h.resolve_head hp)) with
      chain := fun hr => absurd rfl hr }, fun _ => Or.inl⟩
    apply chain_state_ext <;> try rfl
    show (fun i => absPc c s.next i (upd s.pc t (Pc.rWalk dt s.head [] none) i)) = upd (abs c s).pc t _
    rw [abs_pc_step c s.next s.next s.pc t _ (fun _ _ => rfl)]
    simp only [absPc, pendActs, List.nil_append, walkActs_build, absSlot_chain c s (h.resolve_head hp), Chain.chainOf]
    rfl
  | rWalk dt cur ret pend => exact ok_walk h hp
  | dArrive =>
    simp only [absPc, resolversDone_eq]
    split
    · exact (ctl_dtorEnter rfl K rfl).ok
    · exact (K _ _ (by trivial)).ok
  | dBlocked => exact (ctl_dtorEnter rfl K rfl).ok
  | dLoad => exact (ctl_dtorLoad rfl K rfl).ok
  | wLoad =>
    simp only [absPc, absSlot_ready_iff, h.abs_seen]
    split
    · exact (K _ _ (by trivial)).ok
    · have := K (Pc.wCas true) [Ev.opLoadSlot t s.head] (fun e => Seen.noConfusion ((hs.fresh t hp).symm.trans e))
      simp only [absPc, hs.fresh t hp] at this
      exact this.ok
  | wCas f =>
    have := ok_cas h t f hp
    unfold Chain.astep at this
    rwa [abs_pc, hp] at this
  | wWait =>
    simp only [absPc, hf]
    split
    · exact ⟨abs_setPc c s t _, rfl, fun _ => { struct_setPc hs t (Pc.wRead false) trivial with alive := alive_die h t ‹_› },
        fun _ => Or.inl⟩
    · exact (K _ _ (by trivial)).ok
  | wBlocked =>
    exact ⟨abs_setPc c s t _, rfl, fun hen => { struct_setPc hs t (Pc.wRead false) trivial with
      alive := alive_die h t (by simpa [enabled, hp] using hen) }, fun _ => Or.inl⟩
  | wRead clr =>
    simp only [absPc]
    cases clr with
    | false => exact (ctl_readStep hs t h.abs_seen).ok
    | true =>
      obtain ⟨he, hst, hlg⟩ := ok_clearNext h t hp
      have := ctl_readStep hst t (by rw [he]; exact h.abs_seen)
      rw [he] at this
      exact this.after hlg
  | wRead2 sn => exact (ctl_readStep2 hs t sn).ok

theorem sim_step {c : Cfg} {s : State} (h : PInv c s) (t : Nat) :
    abs c (pstep c s t).1 = (Chain.astep c (abs c s) t).1 ∧ (pstep c s t).2 = (Chain.astep c (abs c s) t).2 :=
  ⟨(pstep_ok h t).abs, (pstep_ok h t).evs⟩

theorem step_log_ok {c : Cfg} {s : State} (h : PInv c s) (t : Nat) : ∀ a, a ∈ (pstep c s t).1.log → AccessOK c a :=
  fun a ha => ((pstep_ok h t).log a ha).elim (h.log a) id

theorem pinv_step {c : Cfg} {s : State} {t : Nat} (h : PInv c s) (hen : enabled c s t = true) : PInv c (pstep c s t).1 := by
  refine ⟨?_, (pstep_ok h t).str hen, step_log_ok h t⟩
  rw [(sim_step h t).1]
  exact Chain.inv_astep h.base (by rw [← enabled_eq]; exact hen)

/-! ## runs -/

theorem pinv_run {c : Cfg} {s : State} (sched : List Nat) (h : PInv c s) : PInv c (prun c s sched) := by
  induction sched generalizing s with
  | nil => exact h
  | cons t r ih =>
    simp only [prun, List.foldl_cons]
    split
    · rename_i hen; exact ih (pinv_step h hen)
    · exact ih h

def PReachable (c : Cfg) (s : State) : Prop := ∃ sched : List Nat, s = prun c (init c) sched

theorem PReachable.inv {c : Cfg} {s : State} (h : PReachable c s) : PInv c s := by
  obtain ⟨sched, rfl⟩ := h; exact pinv_run sched (pinv_init c)

theorem preachable_run (c : Cfg) (sched : List Nat) : PReachable c (prun c (init c) sched) := ⟨sched, rfl⟩

theorem sim_run_from {c : Cfg} {s : State} (sched : List Nat) (h : PInv c s) :
    abs c (prun c s sched) = Chain.run c (abs c s) sched := by
  induction sched generalizing s with
  | nil => rfl
  | cons t r ih =>
    simp only [prun, Chain.run, List.foldl_cons]
    rw [← enabled_eq]
    split
    · rename_i hen
      rw [← (sim_step h t).1]
      exact ih (pinv_step h hen)
    · exact ih h

theorem sim_run (c : Cfg) (sched : List Nat) : abs c (prun c (init c) sched) = Chain.run c (Chain.init c) sched := by
  rw [sim_run_from sched (pinv_init c), abs_init]

theorem PReachable.abs {c : Cfg} {s : State} (h : PReachable c s) : Chain.Reachable c (abs c s) := by
  obtain ⟨sched, rfl⟩ := h; exact ⟨sched, sim_run c sched⟩

theorem sim_runEv_from {c : Cfg} (p : State × List Ev) (sched : List Nat) (h : PInv c p.1) :
    abs c (prunEvA c p sched).1 = (Chain.runEvA c (abs c p.1, p.2) sched).1
      ∧ (prunEvA c p sched).2 = (Chain.runEvA c (abs c p.1, p.2) sched).2 := by
  induction sched generalizing p with
  | nil => exact ⟨rfl, rfl⟩
  | cons t r ih =>
    simp only [prunEvA, Chain.runEvA, List.foldl_cons]
    rw [← enabled_eq]
    split
    · rename_i hen
      have := ih ((pstep c p.1 t).1, p.2 ++ (pstep c p.1 t).2) (pinv_step h hen)
      simp only [(sim_step h t).1, (sim_step h t).2] at this
      rw [(sim_step h t).2]
      exact this
    · exact ih p h

theorem sim_runEv (c : Cfg) (sched : List Nat) :
    (prunEv c (init c) sched).2 = (Chain.runEv c (Chain.init c) sched).2 := by
  have := (sim_runEv_from (init c, []) sched (pinv_init c)).2
  rw [abs_init] at this
  exact this

end Cocls.ChainPtr
