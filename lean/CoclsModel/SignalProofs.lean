import CoclsModel.Signal
/-! The invariant of the `signal` model, for `Props/C15.lean`: the unguarded clauses of `Inv F s` hold along every history, those
guarded by `F` along the histories that satisfy `Flushed` (`Inv.finv`); `stepEmit_eq_loop` / `stepDrop_eq_loop`: the closed forms
of the chain walk are the loops the driver executes.

Every step but a chain release (collector call, last handle) touches one listener, so the invariant is stated listener by
listener where it can be (`Acct`, `Own`): the touched listener by computation, every other one unchanged (`upd_other`). -/
namespace Cocls.Signal

theorem mem_cbsOf {s : State} {l : Nat} : l ∈ cbsOf s ↔ l ∈ s.chain ∧ s.isCb l = true := by
  simp [cbsOf, List.mem_filter]

theorem mem_corosOf {s : State} {l : Nat} : l ∈ corosOf s ↔ l ∈ s.chain ∧ s.isCb l = false := by
  simp [corosOf, List.mem_filter]

theorem not_mem_cbsOf_coro {s : State} {c : Nat} (hk : s.isCb c = false) : c ∉ cbsOf s :=
  fun hh => by simp [(mem_cbsOf.mp hh).2] at hk

theorem mem_stay {s : State} {c : Nat} :
    c ∈ ((cbsOf s).filter (fun c => decide (0 < s.left c))).reverse ↔ c ∈ s.chain ∧ s.isCb c = true ∧ 0 < s.left c := by
  simp [mem_cbsOf, and_assoc]

theorem reawait_dead {s : State} (h0 : s.handles = 0) (l : Nat) : reawait s l = cancelNow s l := if_pos h0

theorem reawait_live {s : State} (h0 : s.handles ≠ 0) (l : Nat) : reawait s l = { s with chain := l :: s.chain } :=
  if_neg h0

theorem reawait_next (s : State) (l : Nat) : (reawait s l).next = s.next := by
  unfold reawait; split <;> rfl

theorem await_next (s : State) (l : Nat) : (await s l).next = s.next := by
  unfold await; split
  · exact reawait_next s l
  · rfl

theorem readNow_dead {s : State} (h0 : s.handles = 0) : readNow s = Out.canceled := by
  simp [readNow, h0]

theorem readNow_handles {s : State} {k : Nat} (h0 : s.handles ≠ 0) (hk : k ≠ 0) :
    readNow { s with handles := k } = readNow s := by
  simp [readNow, deref, h0, hk]

theorem readNow_emit {s : State} (h0 : s.handles ≠ 0) (byRef : Bool) (v : Nat) :
    readNow (stepEmit s byRef v).1 = Out.val v := by
  cases byRef <;> simp [stepEmit, readNow, deref, h0]

theorem readNow_ne_free (s : State) : readNow s ≠ Out.free := by
  unfold readNow; split
  · nofun
  · split
    · split <;> nofun
    · nofun

/-- the catch-all branch of `stepResume` is the cancellation: besides it `readNow` yields only a value or `dead` -/
theorem stepResume_eq {s : State} {l : Nat} (hl : l ∈ s.rel) :
    (stepResume s l).1 =
      if readNow s = Out.canceled then { s with rel := s.rel.erase l, got := upd s.got l (s.got l ++ [readNow s]) }
      else afterValue { s with rel := s.rel.erase l, got := upd s.got l (s.got l ++ [readNow s]) } l := by
  have := readNow_ne_free s
  unfold stepResume
  rw [if_pos hl]
  generalize readNow s = o at this ⊢
  cases o with
  | free => exact absurd rfl this
  | _ => rfl

def CbSpec (s : State) (c : Nat) : Prop :=
  s.got c = ((s.emitted.drop (s.subAt c)).take (s.budget c + 1)).map Out.val ++ (if c ∈ s.chain then [] else [Out.free]) ∧
  (c ∈ s.chain ↔ s.handles ≠ 0 ∧ s.emitted.length - s.subAt c ≤ s.budget c) ∧
  s.left c = s.budget c - (s.emitted.length - s.subAt c)

def Acct (s : State) (l : Nat) : Prop :=
  s.subAt l ≤ s.emitted.length ∧
  (s.isCb l = false → (s.got l).length + (if l ∈ s.rel then 1 else 0) = (s.expect l).length) ∧
  (s.isCb l = true → s.conn l = true → CbSpec s l) ∧
  (s.isCb l = true → s.conn l = false → s.got l = [Out.free])

structure Wf (s : State) : Prop where
  chain_nodup : s.chain.Nodup
  rel_nodup : s.rel.Nodup
  gated_nodup : s.gated.Nodup
  chain_ok : ∀ l, l ∈ s.chain → l < s.next ∧ s.conn l = true ∧ l ∉ s.rel ∧ l ∉ s.gated
  rel_ok : ∀ l, l ∈ s.rel → l < s.next ∧ s.conn l = true ∧ s.isCb l = false ∧ l ∉ s.gated
  gated_ok : ∀ l, l ∈ s.gated → l < s.next ∧ s.isCb l = false ∧ s.pure l = false
  pure_coro : ∀ l, s.pure l = true → s.isCb l = false
  dead : s.handles = 0 → s.chain = []

/-- `exact`: the one outcome a released listener is about to read is not yet in `got`; `form`: `pure` = has only ever re-awaited -/
structure FEx (s : State) : Prop where
  exact : ∀ l, l < s.next → s.isCb l = false →
    s.expect l = s.got l ++ (if l ∈ s.rel then [readNow s] else [])
  form : ∀ l, l < s.next → s.pure l = true →
    s.expect l = (s.emitted.drop (s.subAt l)).map Out.val ++ (if s.handles = 0 then [Out.canceled] else [])

def Present (s : State) (l : Nat) : Prop := s.pure l = true → s.handles ≠ 0 → l ∈ s.chain ∨ l ∈ s.rel

structure FInv (s : State) : Prop where
  ex : FEx s
  present : ∀ l, l < s.next → Present s l

/-- a coroutine that is nowhere: just resumed, or just woken -/
structure Idle (s : State) (l : Nat) : Prop where
  lt : l < s.next
  coro : s.isCb l = false
  chain : l ∉ s.chain
  rel : l ∉ s.rel
  gated : l ∉ s.gated

/-- what the invariant says of `l` wherever it is; `F`: the history so far has kept the contract `Flushed` -/
def Own (F : Prop) (s : State) (l : Nat) : Prop :=
  Acct s l ∧ (F → (s.isCb l = false → s.expect l = s.got l ++ (if l ∈ s.rel then [readNow s] else [])) ∧
    (s.pure l = true →
      s.expect l = (s.emitted.drop (s.subAt l)).map Out.val ++ (if s.handles = 0 then [Out.canceled] else [])))

/-- `t = some l`: coroutine `l` is in transit.  Between "taken out of `rel`" and "re-awaited" (`stepResume`) a `pure` listener is
nowhere, which `Present` forbids: the lemmas about `await` / `afterValue` start from such a state, those about whole steps end with `t = none`. -/
structure Inv (F : Prop) (s : State) (t : Option Nat := none) : Prop extends Wf s where
  own : ∀ l, l < s.next → Own F s l
  present : F → ∀ l, l < s.next → t ≠ some l → Present s l
  idle : ∀ l, t = some l → Idle s l
  /-- `expect` only ever receives values and cancellations -/
  no_dead_owed : ∀ l, Out.dead ∉ s.expect l

variable {F : Prop}

theorem Inv.once {s : State} (h : Inv F s) {l : Nat} (hl : l < s.next) (hk : s.isCb l = false) :
    (s.got l).length + (if l ∈ s.rel then 1 else 0) = (s.expect l).length :=
  (h.own l hl).1.2.1 hk

theorem Inv.cb {s : State} (h : Inv F s) {c : Nat} (hc : c < s.next) (hk : s.isCb c = true) (hcn : s.conn c = true) :
    CbSpec s c :=
  (h.own c hc).1.2.2.1 hk hcn

theorem Inv.cb0 {s : State} (h : Inv F s) {c : Nat} (hc : c < s.next) (hk : s.isCb c = true) (hcn : s.conn c = false) :
    s.got c = [Out.free] :=
  (h.own c hc).1.2.2.2 hk hcn

theorem Inv.finv {s : State} (h : Inv True s) : FInv s :=
  ⟨⟨fun l hl => ((h.own l hl).2 trivial).1, fun l hl => ((h.own l hl).2 trivial).2⟩,
   fun l hl => h.present trivial l hl nofun⟩

theorem Inv.transit {s : State} (h : Inv F s) {l : Nat} (hi : Idle s l) : Inv F s (some l) :=
  { h with present := fun f l' hl' _ => h.present f l' hl' nofun, idle := fun _ e => Option.some.inj e ▸ hi }

theorem ne_of_transit {l l' : Nat} (e : l' ≠ l) : some l ≠ some l' := fun e' => e (Option.some.inj e').symm

theorem inv_init : Inv F init :=
  { toWf := by constructor <;> simp [init], own := by simp [init], present := by simp [init], idle := nofun,
    no_dead_owed := by simp [init] }

theorem Wf.next_notin {s : State} (h : Wf s) : s.next ∉ s.chain ∧ s.next ∉ s.rel ∧ s.next ∉ s.gated :=
  ⟨fun hh => Nat.lt_irrefl _ (h.chain_ok _ hh).1, fun hh => Nat.lt_irrefl _ (h.rel_ok _ hh).1,
   fun hh => Nat.lt_irrefl _ (h.gated_ok _ hh).1⟩

theorem no_dead_upd {f : Nat → List Out} (h : ∀ l, Out.dead ∉ f l) (k : Nat) {x : List Out} (hx : Out.dead ∉ x) :
    ∀ l, Out.dead ∉ upd f k x l := by
  intro l; unfold upd; split
  · exact hx
  · exact h l

theorem inv_cancelNow {s : State} {l : Nat} (h : Inv F s (some l)) (hp : F → s.pure l = false) :
    Inv F (cancelNow s l) :=
  have hi := h.idle l rfl
  { h with
    own := fun l' hl' => by
      have := h.own l' hl'
      by_cases e : l' = l
      · subst e
        refine ⟨?_, fun f => ?_⟩
        · have := this.1; simp [Acct, cancelNow, hi.coro, hi.rel] at this ⊢; omega
        · have := this.2 f; simp [cancelNow, hi.rel, hp f] at this ⊢; exact this
      · simp only [Own, Acct, CbSpec, cancelNow, upd_other _ _ e]; exact this
    present := fun f l' hl' _ => by
      by_cases e : l' = l
      · exact fun hq => absurd (e ▸ hq : s.pure l = true) (by simp [hp f])
      · exact h.present f l' hl' (ne_of_transit e)
    idle := nofun
    no_dead_owed := no_dead_upd h.no_dead_owed l (by simp [h.no_dead_owed l]) }

theorem wf_push {s : State} (h : Wf s) {l : Nat} (h0 : s.handles ≠ 0) (hl : l < s.next) (hcn : s.conn l = true)
    (hc : l ∉ s.chain) (hr : l ∉ s.rel) (hg : l ∉ s.gated) : Wf { s with chain := l :: s.chain } :=
  { h with
    chain_nodup := List.nodup_cons.mpr ⟨hc, h.chain_nodup⟩
    chain_ok := List.forall_mem_cons.mpr ⟨⟨hl, hcn, hr, hg⟩, h.chain_ok⟩
    dead := fun e => absurd e h0 }

theorem inv_reawait {s : State} {l : Nat} (h : Inv F s (some l)) (hcn : s.conn l = true)
    (hp : F → s.handles = 0 → s.pure l = false) : Inv F (reawait s l) := by
  have hi := h.idle l rfl
  unfold reawait
  split
  next h0 => exact inv_cancelNow h fun f => hp f h0
  next h0 =>
    exact { wf_push h.toWf h0 hi.lt hcn hi.chain hi.rel hi.gated with
      no_dead_owed := h.no_dead_owed
      idle := nofun
      own := fun c hc' => by
        have := h.own c hc'
        by_cases e : c = l
        · subst e; simp only [Own, Acct, hi.coro, Bool.false_eq_true, false_implies, and_true] at this ⊢; exact this
        · simp only [Own, Acct, CbSpec, List.mem_cons, e, false_or]; exact this
      present := fun f l' hl' _ a b => by
        by_cases e : l' = l
        · exact Or.inl (e ▸ List.mem_cons_self)
        · exact (h.present f l' hl' (ne_of_transit e) a b).imp_left (List.mem_cons_of_mem _) }

theorem inv_await {s : State} {l : Nat} (h : Inv F s (some l))
    (hp : F → s.pure l = true → s.conn l = true ∧ s.handles ≠ 0) : Inv F (await s l) := by
  unfold await
  split
  next hcn => exact inv_reawait h hcn fun f h0 => Bool.eq_false_iff.mpr fun hq => (hp f hq).2 h0
  next hcn => exact inv_cancelNow h fun f => Bool.eq_false_iff.mpr fun hq => hcn (hp f hq).1

theorem wf_fresh {s : State} (h : Wf s) (cb : Bool) (sc : List Act) (n : Nat) (pr cn : Bool) (hp : pr = true → cb = false) :
    Wf (fresh s cb sc n pr cn) :=
  have old : ∀ {l}, l < s.next → ∀ {α : Type} (f : Nat → α) (a : α), upd f s.next a l = f l :=
    fun hl _ f a => upd_other f a (Nat.ne_of_lt hl)
  { h with
    chain_ok := fun l hl =>
      have ⟨a, b, c⟩ := h.chain_ok l hl
      ⟨Nat.lt_succ_of_lt a, (old a ..).trans b, c⟩
    rel_ok := fun l hl =>
      have ⟨a, b, c, d⟩ := h.rel_ok l hl
      ⟨Nat.lt_succ_of_lt a, (old a ..).trans b, (old a ..).trans c, d⟩
    gated_ok := fun l hl =>
      have ⟨a, b, c⟩ := h.gated_ok l hl
      ⟨Nat.lt_succ_of_lt a, (old a ..).trans b, (old a ..).trans c⟩
    pure_coro := fun l (hl : upd s.pure s.next pr l = true) => by
      show upd s.isCb s.next cb l = false
      by_cases e : l = s.next
      · subst e; rw [upd_same] at hl ⊢; exact hp hl
      · rw [upd_other _ _ e] at hl ⊢; exact h.pure_coro l hl }

theorem inv_enter {s : State} (h : Inv F s) (h0 : s.handles ≠ 0) (cb : Bool) (sc : List Act) (n : Nat) (pr : Bool)
    (hp : pr = true → cb = false) : Inv F { fresh s cb sc n pr true with chain := s.next :: s.chain } :=
  have ⟨h1, h2, h3⟩ := h.next_notin
  { wf_push (wf_fresh h.toWf cb sc n pr true hp) h0 (Nat.lt_succ_self _) (upd_same ..) h1 h2 h3 with
    own := Nat.forall_lt_succ_right.mpr ⟨fun l hl => by
      simp only [Own, Acct, CbSpec, fresh, upd_other _ _ (Nat.ne_of_lt hl), List.mem_cons, Nat.ne_of_lt hl, false_or]
      exact h.own l hl,
      by simp [Own, Acct, CbSpec, fresh, h0, h2]⟩
    present := fun f => Nat.forall_lt_succ_right.mpr ⟨fun l hl _ => by
      simp only [Present, fresh, upd_other _ _ (Nat.ne_of_lt hl), List.mem_cons, Nat.ne_of_lt hl, false_or]
      exact h.present f l hl nofun,
      fun _ _ _ => Or.inl List.mem_cons_self⟩
    idle := nofun
    no_dead_owed := no_dead_upd h.no_dead_owed s.next (by simp) }

/-- a new coroutine whose first `co_await` fails at once: dead signal, or an emitter without state (then it is not `pure`) -/
theorem inv_turned_away {s : State} (h : Inv F s) (sc : List Act) (pr cn : Bool) (hp : pr = true → s.handles = 0) :
    Inv F (cancelNow (fresh s false sc 0 pr cn) s.next) :=
  have h2 := h.next_notin.2.1
  { wf_fresh h.toWf false sc 0 pr cn (fun _ => rfl) with
    own := Nat.forall_lt_succ_right.mpr ⟨fun l hl => by
      simp only [Own, Acct, CbSpec, cancelNow, fresh, upd_other _ _ (Nat.ne_of_lt hl)]; exact h.own l hl,
      by cases pr <;> simp [Own, Acct, cancelNow, fresh, h2, hp]⟩
    present := fun f => Nat.forall_lt_succ_right.mpr ⟨fun l hl _ => by
      simp only [Present, cancelNow, fresh, upd_other _ _ (Nat.ne_of_lt hl)]; exact h.present f l hl nofun,
      by cases pr <;> simp [Present, cancelNow, fresh, hp]⟩
    idle := nofun
    no_dead_owed := no_dead_upd (no_dead_upd h.no_dead_owed s.next (by simp)) s.next (by simp [fresh]) }

theorem inv_listen {s : State} (h : Inv F s) (sc : List Act) : Inv F (stepListen s sc).1 := by
  unfold stepListen
  by_cases h0 : s.handles = 0
  · rw [reawait_dead (show (fresh s false sc 0 true true).handles = 0 from h0)]
    exact inv_turned_away h sc true true fun _ => h0
  · rw [reawait_live (show (fresh s false sc 0 true true).handles ≠ 0 from h0)]
    exact inv_enter h h0 false sc 0 true fun _ => rfl

theorem inv_listen0 {s : State} (h : Inv F s) (sc : List Act) : Inv F (stepListen0 s sc).1 :=
  inv_turned_away h sc false false nofun

theorem inv_connect {s : State} (h : Inv F s) (n : Nat) : Inv F (stepConnect s n).1 := by
  unfold stepConnect
  split
  · exact h
  next h0 => exact inv_enter h h0 true [] n false nofun

theorem inv_connect0 {s : State} (h : Inv F s) (n : Nat) : Inv F (stepConnect0 s n).1 := by
  unfold stepConnect0
  exact { wf_fresh h.toWf true [] n false false nofun with
    own := Nat.forall_lt_succ_right.mpr ⟨fun c hc => by
      simp only [Own, Acct, CbSpec, fresh, upd_other _ _ (Nat.ne_of_lt hc)]; exact h.own c hc,
      by simp [Own, Acct, fresh]⟩
    present := fun f => Nat.forall_lt_succ_right.mpr ⟨fun l hl _ => by
      simp only [Present, fresh, upd_other _ _ (Nat.ne_of_lt hl)]; exact h.present f l hl nofun,
      by simp [Present, fresh]⟩
    idle := nofun
    no_dead_owed := no_dead_upd h.no_dead_owed s.next (by simp) }

theorem inv_handles {s : State} (h : Inv F s) (h0 : s.handles ≠ 0) {k : Nat} (hk : k ≠ 0) : Inv F { s with handles := k } :=
  { h with
    dead := fun e => absurd e hk
    own := fun c hc => by simpa [Own, Acct, CbSpec, readNow_handles h0 hk, h0, hk] using h.own c hc
    present := fun f l hl ht => by simpa [Present, h0, hk] using h.present f l hl ht
    idle := nofun }

theorem inv_add {s : State} (h : Inv F s) : Inv F (stepAdd s).1 := by
  unfold stepAdd
  split
  · exact h
  next h0 => exact inv_handles h h0 (Nat.succ_ne_zero _)

theorem wf_shrink {s : State} (h : Wf s) {r g : List Nat} (hr : r.Sublist s.rel) (hg : g.Sublist s.gated) :
    Wf { s with rel := r, gated := g } :=
  { h with
    rel_nodup := hr.nodup h.rel_nodup
    gated_nodup := hg.nodup h.gated_nodup
    chain_ok := fun l hl =>
      have ⟨a, b, c, d⟩ := h.chain_ok l hl
      ⟨a, b, fun hm => c (hr.subset hm), fun hm => d (hg.subset hm)⟩
    rel_ok := fun l hl =>
      have ⟨a, b, c, d⟩ := h.rel_ok l (hr.subset hl)
      ⟨a, b, c, fun hm => d (hg.subset hm)⟩
    gated_ok := fun l hl => h.gated_ok l (hg.subset hl) }

theorem inv_script {s : State} {t : Option Nat} (h : Inv F s t) (f : Nat → List Act) : Inv F { s with script := f } t :=
  { h with idle := fun l e => ⟨(h.idle l e).lt, (h.idle l e).coro, (h.idle l e).chain, (h.idle l e).rel, (h.idle l e).gated⟩ }

/-- the coroutine in transit turns to other business (`gate`: `g = l :: s.gated`) or leaves (`exit`: `g = s.gated`) -/
theorem inv_leave {s : State} {l : Nat} (h : Inv F s (some l)) (f : Nat → List Act) (g : List Nat)
    (hg : g = s.gated ∨ g = l :: s.gated) : Inv F { s with script := f, gated := g, pure := upd s.pure l false } := by
  have hi := h.idle l rfl
  have hgm : ∀ l', l' ∈ g → l' = l ∨ l' ∈ s.gated := fun l' hm => by
    rcases hg with e | e <;> subst e
    · exact Or.inr hm
    · exact List.mem_cons.mp hm
  exact { h with
    gated_nodup := by
      rcases hg with e | e <;> subst e
      · exact h.gated_nodup
      · exact List.nodup_cons.mpr ⟨hi.gated, h.gated_nodup⟩
    chain_ok := fun l' hl' =>
      have ⟨a, b, c, d⟩ := h.chain_ok l' hl'
      ⟨a, b, c, fun hm => (hgm l' hm).elim (fun e => hi.chain (e ▸ hl')) d⟩
    rel_ok := fun l' hl' =>
      have ⟨a, b, c, d⟩ := h.rel_ok l' hl'
      ⟨a, b, c, fun hm => (hgm l' hm).elim (fun e => hi.rel (e ▸ hl')) d⟩
    gated_ok := fun l' hl' => by
      by_cases e : l' = l
      · subst e; exact ⟨hi.lt, hi.coro, upd_same ..⟩
      · have ⟨a, b, c⟩ := h.gated_ok l' ((hgm l' hl').resolve_left e)
        exact ⟨a, b, (upd_other _ _ e).trans c⟩
    pure_coro := fun l' (hp : upd s.pure l false l' = true) => by
      by_cases e : l' = l
      · subst e; exact hi.coro
      · rw [upd_other _ _ e] at hp; exact h.pure_coro l' hp
    own := fun l' hl' => by
      have := h.own l' hl'
      by_cases e : l' = l
      · subst e; simp only [Own, upd_same, Bool.false_eq_true, false_implies, and_true] at this ⊢
        exact ⟨this.1, fun f => (this.2 f).1⟩
      · simp only [Own, upd_other _ _ e]; exact this
    present := fun f l' hl' _ => by
      unfold Present; dsimp only
      by_cases e : l' = l
      · subst e; simp
      · rw [upd_other _ _ e]; exact h.present f l' hl' (ne_of_transit e)
    idle := nofun }

theorem inv_afterValue {s : State} {l : Nat} (h : Inv F s (some l))
    (hp : F → s.pure l = true → s.conn l = true ∧ s.handles ≠ 0) : Inv F (afterValue s l) := by
  unfold afterValue
  split
  · exact inv_await h hp
  · exact inv_await (inv_script h _) hp
  · exact inv_leave h _ _ (Or.inr rfl)
  · exact inv_leave h _ _ (Or.inl rfl)

theorem inv_resumed {s : State} (h : Inv F s) {l : Nat} (hl : l ∈ s.rel) :
    Inv F { s with rel := s.rel.erase l, got := upd s.got l (s.got l ++ [readNow s]) } (some l) :=
  have ⟨hlt, _, hk, hg⟩ := h.rel_ok l hl
  have hme := h.rel_nodup.not_mem_erase (a := l)
  { wf_shrink h.toWf List.erase_sublist (List.Sublist.refl _) with
    no_dead_owed := h.no_dead_owed
    own := fun l' hl' => by
      have := h.own l' hl'
      by_cases e : l' = l
      · subst e
        simp only [Own, Acct, hk, hl, hme, if_true, if_false, upd_same, Bool.false_eq_true, false_implies, and_true,
          true_implies, List.length_append, List.length_cons, List.length_nil, List.append_nil] at this ⊢
        exact this
      · simp only [Own, Acct, CbSpec, upd_other _ _ e, List.mem_erase_of_ne e]; exact this
    present := fun f l' hl' e a b =>
      (h.present f l' hl' nofun a b).imp_right (List.mem_erase_of_ne fun e' : l' = l => e (congrArg some e'.symm)).mpr
    idle := fun _ e => Option.some.inj e ▸ ⟨hlt, hk, fun hc => (h.chain_ok _ hc).2.2.1 hl, hme, hg⟩ }

theorem inv_resume {s : State} (h : Inv F s) (l : Nat) : Inv F (stepResume s l).1 := by
  by_cases hl : l ∈ s.rel
  · have ht := inv_resumed h hl
    rw [stepResume_eq hl]
    split
    next hcan =>
      refine { ht with idle := nofun, present := fun f l' hl' _ => ?_ }
      by_cases e : l' = l
      · subst e
        intro hp h0
        -- a `pure` listener of a connected signal is owed values only, and the last one is what it reads now
        have ⟨hx, hform⟩ := (h.own l' hl').2 f
        have hx := hx (h.pure_coro _ hp)
        have hform := hform hp
        rw [if_pos hl, hcan] at hx
        rw [if_neg h0, List.append_nil, hx] at hform
        have hm : Out.canceled ∈ (s.emitted.drop (s.subAt l')).map Out.val := by
          rw [← hform]; simp
        obtain ⟨v, _, hv⟩ := List.mem_map.mp hm
        cases hv
      · exact ht.present f l' hl' (ne_of_transit e)
    next hcan =>
      exact inv_afterValue ht fun _ _ => ⟨(h.rel_ok _ hl).2.1, fun h0 => hcan (readNow_dead h0)⟩
  · rw [stepResume, if_neg hl]; exact h

theorem inv_wake {s : State} (h : Inv F s) (l : Nat) : Inv F (stepWake s l).1 := by
  unfold stepWake
  split
  next hl =>
    obtain ⟨hlt, hk, hq⟩ := h.gated_ok l hl
    have h1 : Inv F { s with gated := s.gated.erase l } :=
      { wf_shrink h.toWf (List.Sublist.refl _) List.erase_sublist with
        own := h.own, no_dead_owed := h.no_dead_owed, present := h.present, idle := nofun }
    have ht := h1.transit ⟨hlt, hk, fun hc => (h.chain_ok _ hc).2.2.2 hl, fun hr => (h.rel_ok _ hr).2.2.2 hl,
      h.gated_nodup.not_mem_erase⟩
    exact inv_await ht fun _ hp => absurd hp (by simp [show s.pure l = false from hq])
  · exact h

theorem inv_assign {s : State} (h : Inv F s) (l : Nat) (b : Bool) : Inv F (stepAssign s l b).1 := by
  unfold stepAssign
  split
  next hl =>
    exact { h with
      chain_ok := fun l' hl' =>
        have ⟨a, b, c, d⟩ := h.chain_ok l' hl'
        ⟨a, (upd_other _ _ fun e : l' = l => d (e ▸ hl)).trans b, c, d⟩
      rel_ok := fun l' hl' =>
        have ⟨a, b, c, d⟩ := h.rel_ok l' hl'
        ⟨a, (upd_other _ _ fun e : l' = l => d (e ▸ hl)).trans b, c, d⟩
      own := fun c hc => by
        have := h.own c hc
        by_cases e : c = l
        · subst e
          simp only [Own, Acct, (h.gated_ok _ hl).2.1, Bool.false_eq_true, false_implies, and_true] at this ⊢; exact this
        · simp only [Own, Acct, CbSpec, upd_other _ _ e]; exact this
      present := h.present
      idle := nofun }
  · exact h

theorem mem_rel_coros {s : State} {l : Nat} : l ∈ s.rel ++ corosOf s ↔ l ∈ s.rel ∨ (l ∈ s.chain ∧ s.isCb l = false) := by
  rw [List.mem_append, mem_corosOf]

theorem nodup_rel_coros {s : State} (h : Wf s) : (s.rel ++ corosOf s).Nodup :=
  List.nodup_append.mpr ⟨h.rel_nodup, List.filter_sublist.nodup h.chain_nodup,
    fun _ ha _ hb e => (h.chain_ok _ (mem_corosOf.mp hb).1).2.2.1 (e ▸ ha)⟩

theorem rel_ok_release {s : State} (h : Wf s) :
    ∀ l, l ∈ s.rel ++ corosOf s → l < s.next ∧ s.conn l = true ∧ s.isCb l = false ∧ l ∉ s.gated := by
  intro l hl
  rcases mem_rel_coros.mp hl with e | ⟨hc, hk⟩
  · exact h.rel_ok l e
  · have ⟨a, b, _, d⟩ := h.chain_ok l hc
    exact ⟨a, b, hk, d⟩

theorem Wf.not_mem_cbsOf_unconn {s : State} (h : Wf s) {c : Nat} (hcn : s.conn c = false) : c ∉ cbsOf s :=
  fun hh => by simp [(h.chain_ok c (mem_cbsOf.mp hh).1).2.1] at hcn

/-- the counting clause of `Acct` after the whole chain has been released (collector call or destructor) -/
theorem once_release {s : State} (h : Inv F s) (o : Out) (l : Nat) (hl : l < s.next) (hk : s.isCb l = false) :
    (s.got l).length + (if l ∈ s.rel ++ corosOf s then 1 else 0)
      = (if l ∈ s.chain then s.expect l ++ [o] else s.expect l).length := by
  have := h.once hl hk
  by_cases hc : l ∈ s.chain
  · have hr := (h.chain_ok _ hc).2.2.1
    simp [mem_corosOf, hc, hk, hr] at this ⊢; omega
  · simpa [mem_corosOf, hc] using this

theorem no_dead_release {s : State} (h : Inv F s) {o : Out} (ho : o ≠ Out.dead) :
    ∀ l, Out.dead ∉ (if l ∈ s.chain then s.expect l ++ [o] else s.expect l) := by
  intro l; split
  · simp [h.no_dead_owed l, ho.symm]
  · exact h.no_dead_owed l

theorem Inv.pure_waiting {s : State} (h : Inv F s) (f : F) (hrel : s.rel = []) (h0 : s.handles ≠ 0) {l : Nat} (hl : l < s.next)
    (hp : s.pure l = true) : l ∈ s.chain :=
  (h.present f l hl nofun hp h0).resolve_right (by simp [hrel])

theorem exact_release {s : State} {l : Nat} (hx : s.expect l = s.got l ++ (if l ∈ s.rel then [readNow s] else []))
    (hrel : s.rel = []) (hk : s.isCb l = false) (o : Out) :
    (if l ∈ s.chain then s.expect l ++ [o] else s.expect l)
      = s.got l ++ (if l ∈ s.rel ++ corosOf s then [o] else []) := by
  simp only [hrel, List.not_mem_nil, if_false, List.append_nil] at hx
  simp only [hrel, List.nil_append, mem_corosOf, hk, and_true, hx]
  split <;> simp

theorem inv_drop {s : State} (h : Inv F s) (hf : F → s.handles = 1 → s.rel = []) : Inv F (stepDrop s).1 := by
  unfold stepDrop
  split
  · exact h
  next h0 =>
    split
    next h1 =>
      exact { h with
        chain_nodup := List.nodup_nil
        rel_nodup := nodup_rel_coros h.toWf
        chain_ok := nofun
        rel_ok := rel_ok_release h.toWf
        dead := fun _ => rfl
        no_dead_owed := no_dead_release h nofun
        idle := nofun
        present := fun _ _ _ _ _ hh => absurd rfl hh
        own := fun c hc => by
          obtain ⟨⟨hsub, honce, hcb, hcb0⟩, hfl⟩ := h.own c hc
          unfold Own Acct CbSpec; dsimp only
          refine ⟨⟨hsub, fun hk => ?_, fun hk hcn => ⟨?_, by simp, (hcb hk hcn).2.2⟩, fun hk hcn => ?_⟩,
            fun f => ⟨fun hk => ?_, fun hp => ?_⟩⟩
          · rw [if_neg (not_mem_cbsOf_coro hk)]
            exact once_release h _ c hc hk
          · rw [(hcb hk hcn).1]
            by_cases hm : c ∈ s.chain <;> simp [mem_cbsOf, hm, hk]
          · rw [if_neg (h.not_mem_cbsOf_unconn hcn)]
            exact hcb0 hk hcn
          · rw [if_neg (not_mem_cbsOf_coro hk)]
            exact exact_release ((hfl f).1 hk) (hf f h1) hk Out.canceled
          · have old := (hfl f).2 hp
            rw [if_neg h0, List.append_nil] at old
            rw [if_pos (h.pure_waiting f (hf f h1) h0 hc hp), old]; rfl }
    · exact inv_handles h h0 (by omega)

theorem inv_emit {s : State} (h : Inv F s) (hf : F → s.rel = []) (byRef : Bool) (v : Nat) :
    Inv F (stepEmit s byRef v).1 := by
  by_cases h0 : s.handles = 0
  · rw [stepEmit, if_pos h0]; exact h
  · have hread := readNow_emit h0 byRef v
    rw [stepEmit, if_neg h0] at hread ⊢
    dsimp only at hread ⊢
    exact { h with
      chain_nodup := (List.reverse_perm _).nodup_iff.mpr (List.filter_sublist.nodup (List.filter_sublist.nodup h.chain_nodup))
      rel_nodup := nodup_rel_coros h.toWf
      chain_ok := fun l hl => by
        obtain ⟨hc, hk, _⟩ := mem_stay.mp hl
        obtain ⟨a, b, c, d⟩ := h.chain_ok l hc
        exact ⟨a, b, by simp [mem_corosOf, c, hk], d⟩
      rel_ok := rel_ok_release h.toWf
      dead := fun e => absurd e h0
      no_dead_owed := no_dead_release h nofun
      idle := nofun
      present := fun f l hl _ hp _ =>
        Or.inr (mem_rel_coros.mpr (Or.inr ⟨h.pure_waiting f (hf f) h0 hl hp, h.pure_coro l hp⟩))
      own := fun c hc => by
        obtain ⟨⟨hsub, honce, hcb, hcb0⟩, hfl⟩ := h.own c hc
        unfold Own Acct; dsimp only
        refine ⟨⟨by simp; omega, fun hk => ?_, fun hk hcn => ?_, fun hk hcn => ?_⟩, fun f => ⟨fun hk => ?_, fun hp => ?_⟩⟩
        · rw [if_neg (not_mem_cbsOf_coro hk)]
          exact once_release h _ c hc hk
        · obtain ⟨hg, hin, hleft⟩ := hcb hk hcn
          unfold CbSpec; dsimp only
          simp only [mem_stay, List.drop_append_of_le_length hsub]
          by_cases hm : c ∈ s.chain
          · have hle := (hin.mp hm).2
            have hc' := mem_cbsOf.mpr ⟨hm, hk⟩
            rw [if_pos hm, List.append_nil, List.take_of_length_le (by simp; omega)] at hg
            rw [if_pos hc', if_pos hc', hg, List.take_of_length_le (by simp; omega)]
            refine ⟨?_, by simp [hm, hk, h0]; omega, by simp; omega⟩
            unfold cbOuts; by_cases hpos : 0 < s.left c <;> simp [hm, hk, hpos]
          · have hgt : s.budget c < s.emitted.length - s.subAt c := by
              have := mt hin.mpr hm; simp [h0] at this; omega
            have hn : c ∉ cbsOf s := fun hh => hm (mem_cbsOf.mp hh).1
            rw [if_neg hn, if_neg hn, hg, if_neg hm, List.take_append_of_le_length (by simp; omega)]
            exact ⟨by simp [hm], by simp [hm]; omega, by simp; omega⟩
        · rw [if_neg (h.not_mem_cbsOf_unconn hcn)]
          exact hcb0 hk hcn
        · rw [hread, if_neg (not_mem_cbsOf_coro (s := s) hk)]
          exact exact_release ((hfl f).1 hk) (hf f) hk (Out.val v)
        · have old := (hfl f).2 hp
          rw [if_neg h0, List.append_nil] at old
          rw [if_pos (h.pure_waiting f (hf f) h0 hc hp), if_neg h0, old, List.drop_append_of_le_length hsub]
          simp }

theorem inv_emitFail {s : State} (h : Inv F s) (hf : F → s.rel = []) : Inv F (stepEmitFail s).1 := by
  unfold stepEmitFail
  split
  · exact h
  · exact { h with
      own := fun l hl => ⟨(h.own l hl).1, fun f => by simpa [hf f] using (h.own l hl).2 f⟩
      present := h.present
      idle := nofun }

theorem inv_step {s : State} (h : Inv F s) (op : Op) (hf : F → needsFlush s op = true → s.rel = []) :
    Inv F (step s op).1 := by
  cases op with
  | listen sc => exact inv_listen h sc
  | listen0 sc => exact inv_listen0 h sc
  | connect n => exact inv_connect h n
  | connectL n => exact inv_connect h n
  | connect0 n => exact inv_connect0 h n
  | assign l b => exact inv_assign h l b
  | emit r v => exact inv_emit h (hf · rfl) r v
  | emitFail => exact inv_emitFail h (hf · rfl)
  | resume l => exact inv_resume h l
  | wake l => exact inv_wake h l
  | addHandle => exact inv_add h
  | dropHandle => exact inv_drop h fun f h1 => hf f (by simp [needsFlush, h1])

theorem inv_run (s : State) (ops : List Op) (h : Inv F s) (hf : F → Flushed s ops) : Inv F (run s ops) := by
  induction ops generalizing s with
  | nil => exact h
  | cons op ops ih => exact ih _ (inv_step h op fun f => (hf f).1) fun f => (hf f).2

instance decFlushed : (s : State) → (ops : List Op) → Decidable (Flushed s ops)
  | _, [] => isTrue trivial
  | s, op :: ops =>
    have := decFlushed (step s op).1 ops
    (inferInstance : Decidable ((needsFlush s op = true → s.rel = []) ∧ Flushed (step s op).1 ops))

theorem walkOne_cb {v : Nat} {t : State} {y : Nat} (hk : t.isCb y = true) :
    walkOne v t y = { t with got := upd t.got y (t.got y ++ cbOuts t y v), left := upd t.left y (t.left y - 1),
                             chain := if 0 < t.left y then y :: t.chain else t.chain } := by
  unfold walkOne cbOuts
  rw [if_pos hk]
  split <;> rfl

def walked (v : Nat) (t : State) (ys : List Nat) : State :=
  { t with chain := ((ys.filter (fun l => t.isCb l)).filter (fun c => 0 < t.left c)).reverse ++ t.chain,
           rel := t.rel ++ ys.filter (fun l => !t.isCb l),
           left := fun c => if c ∈ ys.filter (fun l => t.isCb l) then t.left c - 1 else t.left c,
           got := fun c => if c ∈ ys.filter (fun l => t.isCb l) then t.got c ++ cbOuts t c v else t.got c }

theorem walk_closed (v : Nat) (ys : List Nat) (t : State) (hn : ys.Nodup) :
    ys.foldl (walkOne v) t = walked v t ys := by
  induction ys generalizing t with
  | nil => simp [walked]
  | cons y ys ih =>
    obtain ⟨hy, hn'⟩ := List.nodup_cons.mp hn
    rw [List.foldl_cons, ih _ hn']
    by_cases hk : t.isCb y = true
    · -- `y` is a callback: it is not met again, so the rest of the walk sees its old budget nowhere
      have hny : y ∉ List.filter (fun l => t.isCb l) ys := fun hh => hy (List.mem_filter.mp hh).1
      have hfil : List.filter (fun c => decide (0 < upd t.left y (t.left y - 1) c)) (List.filter (fun l => t.isCb l) ys)
          = List.filter (fun c => decide (0 < t.left c)) (List.filter (fun l => t.isCb l) ys) :=
        List.filter_congr fun c hc => by rw [upd_other _ _ fun e : c = y => hny (e ▸ hc)]
      rw [walkOne_cb hk]
      simp only [walked]
      congr 1
      · by_cases hp : 0 < t.left y <;> simp [hk, hp, hfil]
      · simp [hk]
      · funext c
        by_cases e : c = y
        · subst e; simp [hk, hny]
        · simp [hk, e, upd_other _ _ e]
      · funext c
        by_cases e : c = y
        · subst e; simp [hk, hny, cbOuts]
        · simp [hk, e, upd_other _ _ e, cbOuts]
    · have hk' : t.isCb y = false := by simpa using hk
      simp only [walkOne, hk', walked]
      congr 1
      · simp [hk']
      · simp [hk']
      · funext c; simp [hk']
      · funext c; simp [hk', cbOuts]

/-- `Inv` supplies `hn` -/
theorem stepEmit_eq_loop (s : State) (hn : s.chain.Nodup) (byRef : Bool) (v : Nat) :
    stepEmitLoop s byRef v = stepEmit s byRef v := by
  unfold stepEmitLoop stepEmit
  split
  · rfl
  · rw [walk_closed v s.chain _ hn]
    simp [walked, cbsOf, corosOf, cbOuts]

def walkedDead (t : State) (ys : List Nat) : State :=
  { t with rel := t.rel ++ ys.filter (fun l => !t.isCb l),
           got := fun c => if c ∈ ys.filter (fun l => t.isCb l) then t.got c ++ [Out.free] else t.got c }

theorem walkDead_closed (ys : List Nat) (t : State) (hn : ys.Nodup) :
    ys.foldl walkDead t = walkedDead t ys := by
  induction ys generalizing t with
  | nil => simp [walkedDead]
  | cons y ys ih =>
    obtain ⟨hy, hn'⟩ := List.nodup_cons.mp hn
    rw [List.foldl_cons, ih _ hn']
    unfold walkDead
    by_cases hk : t.isCb y = true
    · have hny : y ∉ List.filter (fun l => t.isCb l) ys := fun hh => hy (List.mem_filter.mp hh).1
      simp only [hk, if_true, walkedDead]
      congr 1
      · simp [hk]
      · funext c
        by_cases e : c = y
        · subst e; simp [hk, hny]
        · simp [hk, e, upd_other _ _ e]
    · have hk' : t.isCb y = false := by simpa using hk
      simp only [hk', walkedDead]
      congr 1
      · simp [hk']
      · funext c; simp [hk']

theorem stepDrop_eq_loop (s : State) (hn : s.chain.Nodup) : stepDropLoop s = stepDrop s := by
  unfold stepDropLoop stepDrop
  split
  · rfl
  · split
    · rw [walkDead_closed s.chain _ hn]
      simp [walkedDead, cbsOf, corosOf]
    · rfl

end Cocls.Signal

namespace Cocls.Signal.Pub

theorem foldl_uaf (ops : List Op) (s : State) (h : ∀ l, Op.post l ∉ ops) (hs : s.uaf = false) :
    (ops.foldl step s).uaf = false := by
  induction ops generalizing s with
  | nil => exact hs
  | cons op ops ih =>
    have h' : ∀ l, Op.post l ∉ ops := fun l hm => h l (List.mem_cons_of_mem _ hm)
    cases op with
    | cas l => exact ih _ h' hs
    | post l => exact absurd List.mem_cons_self (h l)
    | release => exact ih _ h' hs

end Cocls.Signal.Pub
