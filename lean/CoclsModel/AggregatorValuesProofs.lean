import CoclsModel.AggregatorValues
import CoclsModel.AggregatorProofs
/-!
Invariant `VInv` of the value / result layer (`AggregatorValues.lean`): the object a parked source yielded holds the value
the source put there; a source finds the lvalue it yielded unchanged; what the consumer read — in whatever access style —
is the sequence of delivered values, and the end / the exception is the last thing it learned.  Before it, what one step of
the aggregator model does (`step_src`, `step_outcome`) and the bridge `base_run`; after it, `step_next_style` and
`step_completes_in_style`: an access is completed by a report in the style it was made in.
-/
namespace Cocls.AggV
open Cocls.Agg (Act SRes SSt Ag upd srcRun charge popHandle finish aggStep stepNext stepResolve stepDestroy
  waiting isEnd resAfter)

theorem srcRun_res (c : Agg.Cfg) (s : Agg.State) (k : Nat) : (srcRun c s k).res = resAfter c s.pc s.res k := by
  rcases Agg.srcRun_eq c s k with e | e <;> rw [e]

theorem popHandle_res (s : Agg.State) : (popHandle s).res = s.res := by
  unfold popHandle
  split <;> (try split) <;> rfl

/-- the only source coroutine that runs inside a step is `runner` -/
theorem step_src (c : Agg.Cfg) (b : Agg.State) (op : Agg.Op) :
    (Agg.step c b op).res = (match runner c b op with | some k => resAfter c b.pc b.res k | none => b.res) := by
  cases op with
  | next a =>
    simp only [Agg.step, runner, stepNext]
    split <;> rfl
  | destroy d =>
    simp only [Agg.step, runner, stepDestroy]
    split <;> rfl
  | resolve k =>
    simp only [Agg.step, runner, stepResolve]
    by_cases h : b.st k = SSt.inflight
    · obtain ⟨l, hl⟩ := Agg.lateRead_eq c b k
      simp only [h, if_true, hl]
      exact srcRun_res c { b with late := l } k
    · simp [h]
  | agg =>
    simp only [Agg.step, runner, aggStep]
    cases hag : b.ag
    case charging i a =>
      simp only
      by_cases h : i < c.n
      · simp only [h, if_true, charge]
        exact srcRun_res c { b with got := upd b.got i (b.got i ++ [a]), cell := upd b.cell i (some a) } i
      · simp [h]
    case recharge k a =>
      simp only [charge]
      exact srcRun_res c { b with got := upd b.got k (b.got k ++ [a]), cell := upd b.cell k (some a) } k
    case loop =>
      simp only
      by_cases h : b.count = 0
      · simp only [h, if_true, finish]; split <;> rfl
      · simp only [h, if_false]
        split
        · rfl
        · exact popHandle_res b
    case woken => exact popHandle_res b
    case draining =>
      simp only
      split
      · split <;> rfl
      · rfl
    all_goals rfl

inductive Delivery (b b' : Agg.State) : Prop
  | value (k v : Nat) : b'.ag = Ag.parkedYield k → b'.out = b.out ++ [(k, v)] → b'.res k = SRes.val v → Delivery b b'
  | ended : b'.ag = Ag.done → b'.out = b.out → Delivery b b'
  | failed (e : Nat) : b'.ag = Ag.failed e → b'.out = b.out → Delivery b b'

def Quiet (b b' : Agg.State) : Prop :=
  b'.out = b.out ∧ (b'.ag = Ag.done → b.ag = Ag.done) ∧ ∀ e, b'.ag = Ag.failed e → b.ag = Ag.failed e

def Outcome (b b' : Agg.State) : Prop :=
  (waiting b = true ∧ waiting b' = false ∧ Delivery b b') ∨ (¬ (waiting b = true ∧ waiting b' = false) ∧ Quiet b b')

theorem srcRun_outcome (c : Agg.Cfg) (s : Agg.State) (k : Nat) (s0 : Agg.State) (h0 : s0.out = s.out) (ha : s0.ag = s.ag) :
    Outcome s0 (srcRun c s k) := by
  rcases Agg.srcRun_eq c s k with e | e <;> rw [e]
  · exact Or.inr ⟨by simp [waiting, ha], h0.symm, by simp [ha], by simp [ha]⟩
  · exact Or.inr ⟨by cases h : s.ag <;> simp [waiting, ha, h, Agg.wake], h0.symm,
      by cases h : s.ag <;> simp [ha, h, Agg.wake], by cases h : s.ag <;> simp [ha, h, Agg.wake]⟩

theorem step_outcome (c : Agg.Cfg) (b : Agg.State) (op : Agg.Op) : Outcome b (Agg.step c b op) := by
  have hw : b.ag = Ag.loop ∨ b.ag = Ag.woken → waiting b = true := fun h => by rcases h with h | h <;> simp [waiting, h]
  apply Agg.step_cases c b op
  case idle => exact Or.inr ⟨by simp, rfl, id, fun _ => id⟩
  case drop =>
    exact fun d hag => Or.inr ⟨by rcases hag with h | h | ⟨e, h⟩ <;> simp [waiting, h], rfl, nofun, fun _ => nofun⟩
  case resolve => exact fun k l _ _ => srcRun_outcome c { b with late := l } k b rfl rfl
  case start =>
    exact fun i a _ _ => Or.inr ⟨by simp [waiting], (Agg.srcRun_ghost c _ i).2.2.1, nofun, fun _ => nofun⟩
  case recharge =>
    exact fun k a _ => Or.inr ⟨by simp [waiting], (Agg.srcRun_ghost c _ k).2.2.1, nofun, fun _ => nofun⟩
  case done => exact fun hag _ _ => Or.inl ⟨hw (Or.inl hag), by simp [waiting], Delivery.ended rfl rfl⟩
  case failed => exact fun e hag _ _ => Or.inl ⟨hw (Or.inl hag), by simp [waiting], Delivery.failed e rfl rfl⟩
  case popVal => exact fun k r v hag _ hv => Or.inl ⟨hw hag, by simp [waiting], Delivery.value k v rfl rfl hv⟩
  case drainPop => exact fun _ _ hag _ _ => Or.inr ⟨by simp [waiting, hag], rfl, id, fun _ => id⟩
  all_goals intros; exact Or.inr ⟨by simp_all [waiting], rfl, nofun, fun _ => nofun⟩

theorem deliver_eq (s : State) :
    ∃ f, deliver s = { s with fut := f, obs := s.obs ++ [(s.acc, report s.acc (promiseOf s.base) s.slot)] } := by
  unfold deliver report
  split <;> simp_all

theorem report_yielded (st : Style) (k : Nat) (slot : Nat → Option Nat) :
    report st (PSt.yielded k) slot = Rep.val (slot k) := by
  cases st <;> rfl

theorem report_finished (st : Style) (slot : Nat → Option Nat) : report st PSt.finished slot = Rep.ended := by
  cases st <;> rfl

theorem report_threw (st : Style) (e : Nat) (slot : Nat → Option Nat) : report st (PSt.threw e) slot = Rep.exc e := by
  cases st <;> rfl

theorem promiseOf_yielded {b : Agg.State} {k : Nat} (h : b.ag = Ag.parkedYield k) : promiseOf b = PSt.yielded k := by
  simp [promiseOf, h]

theorem promiseOf_done {b : Agg.State} (h : b.ag = Ag.done) : promiseOf b = PSt.finished := by simp [promiseOf, h]

theorem promiseOf_failed {b : Agg.State} {e : Nat} (h : b.ag = Ag.failed e) : promiseOf b = PSt.threw e := by
  simp [promiseOf, h]

theorem noteStyle_eq (s : State) (op : Op) :
    ∃ a, noteStyle s op = { s with acc := a } ∧ (waiting s.base = true → a = s.acc) := by
  unfold noteStyle
  split
  · split
    · exact ⟨_, rfl, fun _ => rfl⟩
    · exact ⟨_, rfl, fun h => absurd h ‹_›⟩
  · exact ⟨_, rfl, fun _ => rfl⟩

theorem srcSide_eq (c : Cfg) (s : State) (op : Agg.Op) :
    srcSide c s op = { s with
      slot := (match runner c.base s.base op with
        | some k => (match c.base.script k (s.base.pc k) with
          | some (Act.yield v) => upd s.slot k (some v)
          | _ => s.slot)
        | none => s.slot),
      kept := (match runner c.base s.base op with
        | some k => (match yieldedLval c s.base k with
          | some v => upd s.kept k (s.kept k ++ [(v, s.slot k)])
          | none => s.kept)
        | none => s.kept) } := by
  unfold srcSide produce reread
  split
  · split <;> split <;> simp_all
  · simp_all

theorem stepG_base (d : State → State) (hd : ∀ s, (d s).base = s.base) (c : Cfg) (s : State) (op : Op) :
    (stepG d c s op).base = Agg.step c.base s.base (erase op) := by
  unfold stepG
  split
  · rw [hd]; rfl
  · rfl

theorem step_base (c : Cfg) (s : State) (op : Op) : (step c s op).base = Agg.step c.base s.base (erase op) :=
  stepG_base deliver (fun s => by obtain ⟨f, h⟩ := deliver_eq s; rw [h]) c s op

theorem base_run (c : Cfg) (s : State) (ops : List Op) :
    (run c s ops).base = Agg.run c.base s.base (ops.map erase) := by
  induction ops generalizing s with
  | nil => rfl
  | cons op ops ih =>
    simp only [run, List.foldl_cons, List.map_cons, Agg.run] at ih ⊢
    rw [ih, step_base]

def repVal : Style × Rep → Option (Option Nat)
  | (_, Rep.val v) => some v
  | _ => none

structure Slots (res : Nat → SRes) (slot : Nat → Option Nat) (kept : Nat → List (Nat × Option Nat)) : Prop where
  slot_ok : ∀ k v, res k = SRes.val v → slot k = some v
  kept_ok : ∀ k p, p ∈ kept k → p.2 = some p.1

structure VInv (c : Cfg) (s : State) : Prop where
  slots : Slots s.base.res s.slot s.kept
  obs_vals : s.obs.filterMap repVal = s.base.out.map (fun p => some p.2)
  obs_done : s.base.ag = Ag.done → ∃ st, s.obs.getLast? = some (st, Rep.ended)
  obs_failed : ∀ e, s.base.ag = Ag.failed e → ∃ st, s.obs.getLast? = some (st, Rep.exc e)

theorem vinv_init (c : Cfg) : VInv c init := by
  refine ⟨⟨?_, ?_⟩, ?_, ?_, ?_⟩ <;> simp [init]

theorem runner_not_ended {c : Agg.Cfg} {b : Agg.State} (hb : Agg.Inv c b) (op : Agg.Op) (k : Nat)
    (hr : runner c b op = some k) : isEnd (b.res k) = false := by
  refine hb.srcs.not_ended ?_
  unfold runner at hr
  split at hr
  · split at hr
    · split at hr
      · cases hr; exact Or.inl (hb.ctl.inv1.charging_fresh _ _ ‹_› _ (Nat.le_refl _))
      · cases hr
    · cases hr; exact Or.inr (Or.inl (hb.ctl.inv1.recharge_cur _ _ ‹_›))
    · cases hr
  · split at hr
    · cases hr; exact Or.inr (Or.inr ‹_›)
    · cases hr
  · cases hr

theorem yieldedLval_some {c : Cfg} {b : Agg.State} {k v : Nat} (h : yieldedLval c b k = some v) :
    0 < b.pc k ∧ c.base.script k (b.pc k - 1) = some (Act.yield v) := by
  unfold yieldedLval at h
  split at h
  · rename_i hc
    split at h
    · cases h; exact ⟨hc.1, ‹_›⟩
    · cases h
  · cases h

theorem slots_srcSide (c : Cfg) (s : State) (op : Op) (h : Slots s.base.res s.slot s.kept) (hb : Agg.Inv c.base s.base) :
    Slots (Agg.step c.base s.base (erase op)).res
      (srcSide c (noteStyle s op) (erase op)).slot (srcSide c (noteStyle s op) (erase op)).kept := by
  have hres := step_src c.base s.base (erase op)
  obtain ⟨a, hn, _⟩ := noteStyle_eq s op
  rw [hn, srcSide_eq, hres]
  cases hr : runner c.base s.base (erase op) with
  | none => exact h
  | some k =>
    have hne := runner_not_ended hb (erase op) k hr
    refine ⟨?_, ?_⟩ <;> dsimp only
    · intro j v
      unfold resAfter
      by_cases hj : j = k
      · subst hj
        cases hact : c.base.script j (s.base.pc j) with
        | none => simp
        | some act => cases act <;> simp <;> exact h.slot_ok j v
      · rcases hact : c.base.script k (s.base.pc k) with _ | _ | _ | _ | _ <;> simp [hj] <;> exact h.slot_ok j v
    · intro j p
      cases hy : yieldedLval c s.base k with
      | none => exact h.kept_ok j p
      | some v =>
        by_cases hj : j = k
        · subst hj
          simp only [Agg.upd_same, List.mem_append, List.mem_singleton]
          rintro (hm | rfl)
          · exact h.kept_ok j p hm
          · obtain ⟨hc, hs⟩ := yieldedLval_some hy
            rcases hb.srcs.prev_yield j v hc hs with h1 | h1
            · exact h.slot_ok j v h1
            · rw [hne] at h1; cases h1
        · simp only [Agg.upd_other _ _ _ _ hj]
          exact h.kept_ok j p

theorem vinv_step (c : Cfg) (s : State) (op : Op) (h : VInv c s) (hb : Agg.Inv c.base s.base) :
    VInv c (step c s op) := by
  have m := slots_srcSide c s op h.slots hb
  have so : (srcSide c (noteStyle s op) (erase op)).obs = s.obs := by
    obtain ⟨a, hn, _⟩ := noteStyle_eq s op
    rw [hn, srcSide_eq]
  have hout := step_outcome c.base s.base (erase op)
  unfold step stepG
  generalize Agg.step c.base s.base (erase op) = b' at *
  generalize srcSide c (noteStyle s op) (erase op) = s1 at *
  rcases hout with ⟨hw, hn, hd⟩ | ⟨hq, ho, hdn, hfl⟩
  · simp only [hw, hn, and_self, if_true]
    obtain ⟨f, hf⟩ := deliver_eq (setBase s1 b')
    rw [hf]
    simp only [setBase, so]
    refine ⟨m, ?_, ?_, ?_⟩
    · rw [List.filterMap_append, h.obs_vals]
      cases hd with
      | value k v hag hout hres => rw [promiseOf_yielded hag, report_yielded, m.slot_ok k v hres, hout]; simp [repVal]
      | ended hag hout => rw [promiseOf_done hag, report_finished, hout]; simp [repVal]
      | failed e hag hout => rw [promiseOf_failed hag, report_threw, hout]; simp [repVal]
    · intro hx
      rw [promiseOf_done hx, report_finished]
      exact ⟨s1.acc, by simp⟩
    · intro e hx
      rw [promiseOf_failed hx, report_threw]
      exact ⟨s1.acc, by simp⟩
  · simp only [hq, if_false, setBase]
    exact ⟨m, by rw [so, ho]; exact h.obs_vals, fun hx => so ▸ h.obs_done (hdn hx),
      fun e hx => so ▸ h.obs_failed e (hfl e hx)⟩

theorem vinv_run (c : Cfg) (s : State) (ops : List Op) (h : VInv c s) (hb : Agg.Inv c.base s.base) :
    VInv c (run c s ops) ∧ Agg.Inv c.base (run c s ops).base := by
  induction ops generalizing s with
  | nil => exact ⟨h, hb⟩
  | cons op ops ih =>
    simp only [run, List.foldl_cons] at ih ⊢
    refine ih (step c s op) (vinv_step c s op h hb) ?_
    rw [step_base]
    exact Agg.inv_step c.base s.base (erase op) hb

theorem step_completes_in_style (c : Cfg) (s : State) (op : Op) (hw : waiting s.base = true)
    (hn : waiting (Agg.step c.base s.base (erase op)) = false) :
    (step c s op).obs = s.obs ++ [(s.acc, report s.acc (promiseOf (step c s op).base) (step c s op).slot)] := by
  rw [step_base]
  unfold step stepG
  simp only [hw, hn, and_self, if_true]
  obtain ⟨f, hf⟩ := deliver_eq (setBase (srcSide c (noteStyle s op) (erase op)) (Agg.step c.base s.base (erase op)))
  obtain ⟨a, hn, ha⟩ := noteStyle_eq s op
  rw [hf, hn, srcSide_eq, ha hw]
  rfl

theorem step_next_style (c : Cfg) (s : State) (a : Nat) (st : Style) (hw : waiting s.base = false) :
    (step c s (Op.next a st)).acc = st := by
  have hq : ¬ (waiting s.base = true ∧ waiting (Agg.step c.base s.base (erase (Op.next a st))) = false) := by simp [hw]
  unfold step stepG
  simp only [hq, if_false, setBase, srcSide_eq]
  simp [noteStyle, hw]

end Cocls.AggV
