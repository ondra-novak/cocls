import CoclsModel.ThreadPoolWorker
import CoclsModel.ThreadPoolSubmit
import CoclsModel.ThreadPoolStop
/-!
The thread-pool invariant holds initially (`inv_init`) and is preserved by every scheduled step: `inv_stepPc` goes through
the program counters and calls the step lemmas of `ThreadPoolWorker`, `ThreadPoolSubmit` and `ThreadPoolStop` (the steps of
`co_await pool(awaitable)` need only `inv_slots`); hence it holds along every run (`inv_run`).
-/
namespace Cocls.Pool
variable {c : Cfg} {s : State}

/-- A thread of the initial state at its first program counter `p`: its columns are at their defaults, so only the clauses
that read `p` say anything. -/
theorem local_init (c : Cfg) (hnt : c.nw ≤ c.nt) {t : Nat} {p : Pc} (hh : Here (init c) t p)
    (hd : p.isDone = true ↔ c.nt ≤ t) (hw : p.isWorker = true → t < c.nw) (ha : p.atHead = true ↔ t < c.nw)
    (hB : p.isB = true ↔ c.hasB = true ∧ t = c.nw) (hr : p.runs = none) (hho : p.holds = none) (hs : p.sub = none)
    (hcv : p.inCv = false) (hmx : p.hasMx = false) : Local c (init c) t p where
  here := hh
  t_out := hd.2
  t_worker := hw
  t_ret := fun e => Classical.byContradiction fun n => e (if_neg n)
  t_script := fun e => Nat.le_of_not_lt fun n => nomatch (if_pos n).symm.trans e
  t_noB := show (if t < c.nw then Ret.body else Ret.script) ≠ Ret.dtorB by split <;> nofun
  l_held := fun j => ⟨fun e => (nomatch hr.symm.trans e), nofun⟩
  l_rej := fun j => ⟨fun e => (nomatch hho.symm.trans e), nofun⟩
  l_dqnd := List.nodup_nil
  l_dqpc := fun e => absurd rfl e
  r_job := nofun
  r_body := nofun
  b_defnd := List.nodup_nil
  b_defpc := fun e => absurd rfl e
  f_own := fun j e => nomatch hs.symm.trans e
  f_arm := fun j _ _ e => absurd e (Nat.not_lt_zero j)
  s_wq_pc := nofun
  s_woken := nofun
  s_cv := fun e => nomatch hcv.symm.trans e
  a_mem := fun _ => List.mem_range.trans (ha.symm.trans ⟨Or.inr, fun o => o.resolve_left nofun⟩)
  m_own := ⟨nofun, fun e => nomatch hmx.symm.trans e⟩
  n_noexit := fun _ => ⟨fun w => Bool.eq_false_iff.2 fun e => Nat.not_lt.2 (hd.1 e) (Nat.lt_of_lt_of_le w hnt), rfl⟩
  s_tmp_pc := fun e => absurd rfl e
  s_tmp_w := nofun
  j_all := nofun
  bb_pc := hB.1
  bb_w := fun e1 e2 => Or.inl (hB.2 ⟨e1, e2⟩)
  bb_tmp := nofun
  z_det := nofun
  z_cur := fun w e => by rw [show (init c).cur t = decide (t < c.nw) from rfl, decide_eq_true w] at e; cases e

theorem inv_init (hc : WF c) : Inv c (init c) := by
  have hnt := hc.nt
  have hth : ∀ t, Local c (init c) t ((init c).pc t) := by
    intro t
    have hpc : (init c).pc t = if t < c.nw then Pc.wRelock else if t < c.nt then (if c.hasB ∧ t = c.nw then Pc.bLoop else Pc.idle) else Pc.done := rfl
    rw [hpc]
    split
    · rename_i w
      exact local_init c hnt trivial ⟨nofun, fun e => by omega⟩ (fun _ => w) ⟨fun _ => w, fun _ => rfl⟩
        ⟨nofun, fun e => by omega⟩ rfl rfl rfl rfl rfl
    · rename_i w
      have ha : false = true ↔ t < c.nw := ⟨nofun, fun e => absurd e w⟩
      split
      · rename_i ht
        split
        · rename_i hB
          exact local_init c hnt trivial ⟨nofun, fun e => by omega⟩ nofun ha ⟨fun _ => hB, fun _ => rfl⟩ rfl rfl rfl rfl rfl
        · rename_i hB
          exact local_init c hnt trivial ⟨nofun, fun e => by omega⟩ nofun ha ⟨nofun, fun e => absurd e hB⟩ rfl rfl rfl rfl rfl
      · exact local_init c hnt trivial ⟨fun _ => by omega, fun _ => rfl⟩ nofun ha
          ⟨nofun, fun e => by have := hc.b e.1; omega⟩ rfl rfl rfl rfl rfl
  exact { wf := hc, th := hth,
          jb := fun j =>
            { l_fresh := ⟨fun _ => Nat.zero_le j, fun _ => rfl⟩
              c_once := rfl
              z_fresh := fun _ => ⟨rfl, rfl, rfl, rfl, rfl, rfl⟩
              r_on := nofun
              x_drop_exit := nofun
              b_kind := ⟨rfl, rfl, rfl⟩
              f_broken := nofun
              f_brk := nofun
              f_some := nofun
              f_valued := nofun
              f_value := nofun }
          l_q := fun j => ⟨nofun, nofun⟩
          l_qnd := List.nodup_nil
          l_swap := fun t j => ⟨nofun, nofun⟩
          x_exit_q := fun _ => rfl
          b_defer := fun t j => ⟨nofun, nofun⟩
          f_pending := fun j _ h => absurd h (Nat.lt_irrefl 0)
          s_exit_wq := fun _ => rfl
          s_wqnd := List.nodup_nil
          a_nd := fun _ => List.nodup_range
          a_len := fun _ h => absurd rfl h
          s_tmp_uniq := fun _ _ h => absurd rfl h
          s_thr_tmp := fun _ _ => rfl
          j_thr := fun _ w hw => List.mem_range.2 hw
          j_thr0 := nofun
          j_thrw := fun u hu => List.mem_range.1 hu
          bb_bw := rfl
          bb_exit := nofun
          bb_ht := id
          a_handle := nofun
          z_touch := rfl
          d_exit := nofun }

/-- `co_await pool(awaitable)` registers an awaiter or stores its handle -/
theorem inv_slots (h : Inv c s) {todo : Nat → List Act} {flag reg hdl : Nat → Bool}
    {slotBody : Nat → List Prim} (hh : ∀ n, reg n = true → hdl n = true) :
    Inv c { s with todo := todo, flag := flag, slotBody := slotBody, slotReg := reg, slotHandle := hdl } :=
  { h with th := fun x => { h.th x with }, a_handle := hh }

theorem enabled_noLock {t : Nat} (hl : (s.pc t).wantsLock = false) : enabled s t = enabledPc s t := by
  unfold enabled
  simp [hl]

theorem inv_stepPc (h : Inv c s) (t k : Nat)
    (hen : (s.pc t).wantsLock = false → enabledPc s t = true)
    (hmx : (s.pc t).wantsLock = true → s.mx = none) : Inv c (stepPc c s t k).1 := by
  unfold stepPc
  split
  · rename_i hpc
    have hp : (s.pc t).plain = true := by rw [hpc]; rfl
    unfold stepIdle
    split
    · rename_i htd
      split
      · rename_i hr; exact inv_fin h (Or.inr (Or.inl ⟨hpc, hr⟩))
      · rename_i hr; exact inv_bodyEnd h hpc hr
      · rename_i hr; exact inv_toAfterJob h hpc hr
      · rename_i hr; exact absurd hr (h.th t).t_noB
    · exact inv_newJob h hp
    · exact h.beginPlain hp rfl
    · split
      · exact h.unread
      · exact h.beginPlain hp rfl
    · split
      · exact h.unread
      · exact h.beginPlain hp rfl
    · exact h.unread
    · exact h.unread
    · split
      · exact h.beginPlain hp rfl
      · exact h.unread
    · split
      · exact h.beginPlain hp rfl
      · exact h.unread
    · split
      · exact h.beginPlain hp rfl
      · split
        · exact h.unread
        · rename_i hn; exact absurd h.wf.cur hn
    · split
      · refine inv_slots h fun n e => ?_
        rw [upd_apply] at e ⊢; split
        · rfl
        · rename_i ne; rw [if_neg ne] at e; exact h.a_handle n e
      · rename_i hn; exact absurd h.wf.aw hn
    · refine inv_slots h fun n e => ?_
      rw [upd_apply]; split
      · rfl
      · exact h.a_handle n e
    · split
      · split
        · exact inv_newJob h.unread hp
        · rename_i hr hh
          simp only [Bool.and_eq_true] at hr
          exact absurd (h.a_handle _ hr.1) hh
      · exact h.unread
    · exact h.beginPlain hp rfl
    · split
      · exact h.unread
      · exact h.beginPlain hp rfl
  · rename_i j hpc; exact inv_enqCS h hpc (hmx (by rw [hpc]; rfl))
  · rename_i j acc hpc; exact inv_afterEnq h hpc
  · rename_i isD hpc; exact inv_stopCS h hpc (hmx (by rw [hpc]; rfl))
  · rename_i pk hpc
    unfold stepPeekCS
    exact h.movePlain (by rw [hpc]; rfl) rfl
  · rename_i pk r hpc
    have hp : (s.pc t).plain = true := by rw [hpc]; rfl
    unfold stepPeekDone
    split
    · exact h.movePlain hp rfl
    · exact h.movePlain hp rfl
    · split
      · exact h.movePlain hp rfl
      · exact inv_newJob h hp
  · rename_i f hpc; exact h.movePlain (by rw [hpc]; rfl) rfl
  · rename_i hpc; exact inv_stopJoin h hpc
  · rename_i hpc; exact inv_joinBlocked h hpc (hen (by rw [hpc]; rfl))
  · rename_i hpc; exact inv_stopDrop h hpc
  · rename_i hpc; exact inv_wRelock h hpc (hmx (by rw [hpc]; rfl))
  · rename_i hpc; exact inv_wLoop h hpc
  · rename_i hpc; exact inv_wCvEnter h hpc
  · rename_i hpc; exact inv_wCvCheck h hpc
  · rename_i hpc
    have hw := hen (by rw [hpc]; rfl)
    unfold enabledPc at hw
    rw [hpc] at hw
    exact inv_wCvBlocked h hpc hw
  · rename_i j hpc; exact inv_wRun h hpc
  · rename_i hpc; exact inv_wFlush h hpc
  · rename_i hpc
    cases hcur : s.cur t with
    | true => exact inv_wAfterJob h hpc hcur
    | false =>
      have hout := h.wf.out
      unfold stepWAfterJob
      simp only [hcur, hout, Bool.false_eq_true, ↓reduceIte, Bool.not_true, Bool.false_and]
      exact inv_fin h (Or.inr (Or.inr (Or.inl ⟨hpc, hcur⟩)))
  · rename_i hpc; exact inv_fin h (Or.inl hpc)
  · rename_i hpc
    unfold stepBLoop
    split
    · exact inv_bWorker h (Or.inl hpc) (Or.inl rfl)
    · exact inv_bWorker h (Or.inl hpc) (Or.inr (Or.inl rfl))
  · rename_i hpc
    unfold stepBCvCheck
    split
    · exact inv_bWorker h (Or.inr (Or.inl hpc)) (Or.inl rfl)
    · exact inv_bWorker h (Or.inr (Or.inl hpc)) (Or.inr (Or.inr rfl))
  · rename_i hpc
    unfold stepBCvBlocked
    exact inv_bWorker h (Or.inr (Or.inr hpc)) (Or.inl rfl)
  · rename_i hpc; exact inv_fin h (Or.inr (Or.inr (Or.inr hpc)))
  · rename_i isD hpc; exact inv_bStopCS h hpc
  · rename_i hpc; exact inv_bStopJoin h hpc
  · rename_i hpc; exact inv_bJoinBlocked h hpc
  · exact h
  · exact h

theorem inv_step (h : Inv c s) (t k : Nat) (hen : enabled s t = true) :
    Inv c (step c s t k).1 := by
  unfold step
  split
  · exact h.unread
  · rename_i hnl
    simp only [Bool.and_eq_true, not_and, Bool.not_eq_true] at hnl
    apply inv_stepPc (h.unread)
    · intro hl
      rw [enabled_noLock (s := s) hl] at hen
      exact hen
    · intro hl
      have := hnl hl
      cases hm : s.mx with
      | none => rfl
      | some u => rw [hm] at this; cases this

theorem inv_sstep (h : Inv c s) (tk : Nat × Nat) : Inv c (sstep c s tk) := by
  unfold sstep
  split
  · rename_i hen; exact inv_step h tk.1 tk.2 hen
  · exact h

theorem inv_run (sched : List (Nat × Nat)) : ∀ {s : State}, Inv c s → Inv c (run c s sched) := by
  induction sched with
  | nil => intro s h; exact h
  | cons tk rest ih => intro s h; exact ih (inv_sstep h tk)

end Cocls.Pool
