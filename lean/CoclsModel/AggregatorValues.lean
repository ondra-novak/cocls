import CoclsModel.Aggregator
/-!
Value and result layer on top of the aggregator model (`Aggregator.lean`): WHERE the yielded values live and HOW the
consumer learns the result of an access.

* A generator does not own the values it yields: `promise_type::_ret` is a POINTER to the object of the `co_yield`
  expression (`yield_value(Ret &x) { _ret = &x; }`).  The aggregator yields `g.value()`, a reference to the object the
  source yielded, so the aggregate's `_ret` points INTO THE SOURCE: at a temporary of the source's frame, or at an lvalue
  the source (or its owner) keeps using — a running accumulator, an element of a stored script (`Cfg.lval`).
  `slot k` is that object (`none` = it has been moved from).  A source that yielded such an lvalue looks at it again when it
  is resumed (`reread`, ghost log `kept`).
* The consumer reaches the aggregate through one of the documented access styles (`Style`).  The reference styles
  (`next()`/`value()`, iterator, `co_await next()`) read the generator promise directly: `!done()`, then `value()` which
  rethrows `_exp` or returns `*_ret` (a reference into the source).  The future styles go through `operator()`
  (`next_future`): `unblock_future()` resolves the future with `drop` (done), the exception, or A COPY of `*_ret`
  (`_awaiting(*_ret)`); the consumer then asks the future in one of the documented ways: `co_await val.has_value()`,
  `if (val)`, `!val` (all three: `_state != not_value`, true for a value AND for an exception; `*val` then returns the value or
  rethrows), or without asking: `*val` / `val.wait()`, `co_await val`, `val.value()` (value, rethrow, or
  `await_canceled_exception` for a dropped promise = the end).
* `Agg.State` is embedded unchanged (`base`); every step of this layer is a step of the aggregator model on `base`
  (`base_run` in `AggregatorValuesProofs.lean`), so every theorem of `Props/C14.lean` about `Agg.run` applies to `base`.
* Ghost fields: `obs` (what the consumer learned from every completed access, in order), `kept`.  `slot`, `fut`, `acc`
  are data: read by `deliver` (and `slot` by `reread`, into the ghost log `kept`) only.
-/
namespace Cocls.AggV
open Cocls.Agg (Act SRes SSt Ag upd)

/-- the documented ways of accessing a generator and asking for the result -/
inductive Style where
  | next        -- `if (gen.next()) use(gen.value())` (blocking)
  | iter        -- iterator / range-for: `it != gen.end()`, `*it`
  | awaitNext   -- `if (co_await gen.next()) use(gen.value())`
  | futHas      -- `val = gen(); if (co_await val.has_value()) use(*val) else done`   (documented at `generator::operator()`)
  | futBool     -- `val = gen(); if (val) use(*val) else done`
  | futNot      -- `val = gen(); if (!val) done else use(*val)`
  | futDeref    -- `use(*gen())` / `val.wait()`
  | futAwait    -- `use(co_await gen())`
  | futValue    -- `val.sync(); use(val.value())`
  deriving DecidableEq, Repr, Inhabited

/-- the style goes through `generator::operator()` (a future) -/
def Style.isFut : Style → Bool
  | Style.next | Style.iter | Style.awaitNext => false
  | _ => true

/-- the style asks the future whether it has a value before it dereferences it -/
def Style.asks : Style → Bool
  | Style.futHas | Style.futBool | Style.futNot => true
  | _ => false

/-- the aggregate's generator promise as the consumer finds it when its access completes -/
inductive PSt where
  | yielded (k : Nat)   -- `_ret` points at the object source `k` yielded
  | finished            -- `_done`
  | threw (e : Nat)     -- `_exp`
  | busy
  deriving DecidableEq, Repr, Inhabited

/-- `future<T>::_state` (+ payload) of the future returned by `gen()` -/
inductive FutSt where
  | pending
  | value (v : Option Nat)   -- `State::value`: the future's own object (`none`: constructed from a moved-from object)
  | exception (e : Nat)      -- `State::exception`
  | dropped                  -- resolved by `drop`: `State::not_value`, not pending
  deriving DecidableEq, Repr, Inhabited

/-- what the consumer learns from an access -/
inductive Rep where
  | val (v : Option Nat)   -- a value (`none`: a moved-from object)
  | ended                  -- no more values
  | exc (e : Nat)          -- the exception `e`
  deriving DecidableEq, Repr, Inhabited

structure Cfg where
  base : Agg.Cfg
  /-- act `p` of source `k` (a `yield`) yields an lvalue the source looks at again after the `co_yield` -/
  lval : Nat → Nat → Bool

structure State where
  base : Agg.State := {}
  slot : Nat → Option Nat := fun _ => none   -- the object source `k` yielded last (what `_ret` points at)
  acc : Style := Style.next                  -- style of the access in progress
  fut : FutSt := FutSt.pending               -- the future of the last `gen()` access
  -- ghost
  obs : List (Style × Rep) := []             -- result of every completed access, as the consumer learned it
  kept : Nat → List (Nat × Option Nat) := fun _ => []
                                             -- per source: at every return from `co_yield x` (x an lvalue it keeps):
                                             -- (the value it had yielded, what it finds in `x` now)

inductive Op where
  | next (a : Nat) (st : Style)
  | agg
  | resolve (k : Nat)
  | destroy (coro : Bool)
  deriving DecidableEq, Repr

def erase : Op → Agg.Op
  | Op.next a _ => Agg.Op.next a
  | Op.agg => Agg.Op.agg
  | Op.resolve k => Agg.Op.resolve k
  | Op.destroy b => Agg.Op.destroy b

def init : State := {}

/-- the source that is resumed (and runs one act) inside this step of the aggregator model, if any:
`Ag.charging`/`Ag.recharge` call `charge`, a completion resumes the awaiting source -/
def runner (c : Agg.Cfg) (b : Agg.State) : Agg.Op → Option Nat
  | Agg.Op.agg =>
    match b.ag with
    | Ag.charging i _ => if i < c.n then some i else none
    | Ag.recharge k _ => some k
    | _ => none
  | Agg.Op.resolve k => if b.st k = SSt.inflight then some k else none
  | _ => none

/-- source `k` is suspended in (or was last suspended in) `co_yield x` with `x` an lvalue it keeps; the value it put there -/
def yieldedLval (c : Cfg) (b : Agg.State) (k : Nat) : Option Nat :=
  if 0 < b.pc k ∧ c.lval k (b.pc k - 1) = true then
    match c.base.script k (b.pc k - 1) with
    | some (Act.yield v) => some v
    | _ => none
  else none

/-- returning from `co_yield x` the source looks at `x` again -/
def reread (c : Cfg) (s : State) (k : Nat) : State :=
  match yieldedLval c s.base k with
  | some v => { s with kept := upd s.kept k (s.kept k ++ [(v, s.slot k)]) }
  | none => s

/-- the act the source runs next: a `yield v` puts `v` into the yielded object -/
def produce (c : Cfg) (s : State) (k : Nat) : State :=
  match c.base.script k (s.base.pc k) with
  | some (Act.yield v) => { s with slot := upd s.slot k (some v) }
  | _ => s

def srcSide (c : Cfg) (s : State) (op : Agg.Op) : State :=
  match runner c.base s.base op with
  | some k => produce c (reread c s k) k
  | none => s

def promiseOf (b : Agg.State) : PSt :=
  match b.ag with
  | Ag.parkedYield k => PSt.yielded k
  | Ag.done => PSt.finished
  | Ag.failed e => PSt.threw e
  | _ => PSt.busy

/-- `next()` / `co_await next()` / iterator: `!done()`, then `value()`: rethrows `_exp`, else `*_ret` (by reference) -/
def readRef (p : PSt) (slot : Nat → Option Nat) : Rep :=
  match p with
  | PSt.yielded k => Rep.val (slot k)
  | PSt.finished => Rep.ended
  | PSt.threw e => Rep.exc e
  | PSt.busy => Rep.ended

/-- `unblock_future()`: `done() → _awaiting(drop)`, `_exp → _awaiting(_exp)`, else `_awaiting(*_ret)` (copy) -/
def resolveFut (p : PSt) (slot : Nat → Option Nat) : FutSt :=
  match p with
  | PSt.yielded k => FutSt.value (slot k)
  | PSt.finished => FutSt.dropped
  | PSt.threw e => FutSt.exception e
  | PSt.busy => FutSt.pending

/-- `has_value()` (awaited or converted to bool), `operator bool`, `operator!`: `_state != State::not_value` -/
def hasValue : FutSt → Bool
  | FutSt.value _ => true
  | FutSt.exception _ => true
  | _ => false

/-- `*val`, `wait()`, `co_await val`, `value()`: the value, the rethrown exception, `await_canceled_exception` for a
dropped promise (which a consumer of a generator takes for the end) -/
def valueOf : FutSt → Rep
  | FutSt.value v => Rep.val v
  | FutSt.exception e => Rep.exc e
  | _ => Rep.ended

def readFut (st : Style) (f : FutSt) : Rep :=
  if st.asks then (if hasValue f then valueOf f else Rep.ended) else valueOf f

/-- what a consumer using style `st` learns from a completed access -/
def report (st : Style) (p : PSt) (slot : Nat → Option Nat) : Rep :=
  if st.isFut then readFut st (resolveFut p slot) else readRef p slot

/-- the access in progress completes (`s.base` is the aggregator after the completing step) -/
def deliver (s : State) : State :=
  if s.acc.isFut then
    { s with fut := resolveFut (promiseOf s.base) s.slot,
             obs := s.obs ++ [(s.acc, readFut s.acc (resolveFut (promiseOf s.base) s.slot))] }
  else { s with obs := s.obs ++ [(s.acc, readRef (promiseOf s.base) s.slot)] }

def noteStyle (s : State) : Op → State
  | Op.next _ st => if Agg.waiting s.base then s else { s with acc := st }
  | _ => s

def setBase (s : State) (b : Agg.State) : State := { s with base := b }

/-- one step, parametrised by the completion function (`deliver` for the code as it is) -/
def stepG (d : State → State) (c : Cfg) (s : State) (op : Op) : State :=
  if Agg.waiting s.base = true ∧ Agg.waiting (Agg.step c.base s.base (erase op)) = false then
    d (setBase (srcSide c (noteStyle s op) (erase op)) (Agg.step c.base s.base (erase op)))
  else setBase (srcSide c (noteStyle s op) (erase op)) (Agg.step c.base s.base (erase op))

def step (c : Cfg) (s : State) (op : Op) : State := stepG deliver c s op

def run (c : Cfg) (s : State) (ops : List Op) : State := ops.foldl (step c) s

/-! ## variants that are NOT the code (necessity witnesses in `Props/C14.lean`) -/

/-- `unblock_future()` resolving the future with `std::move(*_ret)`: the future's object is MOVED out of the object the
source yielded -/
def deliverMoving (s : State) : State :=
  match s.acc.isFut, promiseOf s.base with
  | true, PSt.yielded k => { deliver s with slot := upd s.slot k none }
  | _, _ => deliver s

/-- `has_value()` answering "holds a value" (false for an exception) -/
def hasValueStrict : FutSt → Bool
  | FutSt.value _ => true
  | _ => false

def readFutStrict (st : Style) (f : FutSt) : Rep :=
  if st = Style.futHas then (if hasValueStrict f then valueOf f else Rep.ended) else readFut st f

def deliverStrict (s : State) : State :=
  if s.acc.isFut then
    { s with fut := resolveFut (promiseOf s.base) s.slot,
             obs := s.obs ++ [(s.acc, readFutStrict s.acc (resolveFut (promiseOf s.base) s.slot))] }
  else deliver s

def runG (d : State → State) (c : Cfg) (s : State) (ops : List Op) : State := ops.foldl (stepG d c) s

end Cocls.AggV
