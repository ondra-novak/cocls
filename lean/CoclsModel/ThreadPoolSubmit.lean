import CoclsModel.ThreadPoolFrames
/-! Preservation of the thread-pool invariant: submissions. -/
namespace Cocls.Pool
variable {c : Cfg} {s : State}

theorem inv_newJob {t : Nat} {kd : Kind} {bd : List Prim} {ac : List Act} {kl : Bool} {rest : List Act}
    (h : Inv c s) (hpc : (s.pc t).plain = true) : Inv c (newJob s t kd bd ac kl rest) := by
  have hl : Local c s t Pc.idle := (h.th t).plain hpc rfl
  have hrow := h.jb s.nextJob
  have hfr : s.loc s.nextJob = Loc.fresh := hrow.l_fresh.2 (Nat.le_refl _)
  have hz := hrow.z_fresh (Nat.le_refl _)
  -- the new job has not run, so no thread is inside its body
  have hr0 : s.ran s.nextJob = 0 := by have hc := hrow.c_once; rw [hfr, if_neg nofun] at hc; omega
  have hjn : ∀ {x j}, s.job x = some j → j ≠ s.nextJob := fun {x j} e e' => by
    have := (h.th x).r_job j e; rw [e', hr0] at this; cases this
  unfold newJob
  exact { h with
    th := th_upd
      { hl with
        l_held := fun j => iff_loc_upd (hl.l_held j) hfr nofun nofun
        l_rej := own_acquire hl.l_rej
        f_own := fun j e => by
          cases e; dsimp only; rw [upd_same]; exact ⟨Nat.lt_succ_self _, rfl, hz.2.2.2.1⟩
        f_arm := fun j ho hf hn ha => by
          dsimp only at ho hf hn ha ⊢
          by_cases e : j = s.nextJob
          · rw [e]; rfl
          · rw [upd_other _ _ _ _ e] at ho hf
            cases hl.f_arm j ho hf (by omega) ha
        r_body := fun j e => by dsimp only; rw [upd_other _ _ _ _ (hjn e), upd_other _ _ _ _ (hjn e)]; exact hl.r_body j e }
      fun x hx => { h.th x with
        l_held := fun j => iff_loc_upd ((h.th x).l_held j) hfr nofun nofun
        l_rej := fun j => iff_loc_upd ((h.th x).l_rej j) hfr nofun
          fun e => hx (Loc.rejected.inj e).symm
        f_own := fun j e => by
          have := (h.th x).f_own j e
          dsimp only; rw [upd_other _ _ _ _ (Nat.ne_of_lt this.1)]
          exact ⟨Nat.lt_succ_of_lt this.1, this.2⟩
        f_arm := fun j ho hf hn ha => by
          dsimp only at ho hf hn ha
          by_cases e : j = s.nextJob
          · rw [e, upd_same] at ho; exact absurd ho.symm hx
          · rw [upd_other _ _ _ _ e] at ho hf
            exact (h.th x).f_arm j ho hf (by omega) ha
        r_body := fun j e => by dsimp only; rw [upd_other _ _ _ _ (hjn e), upd_other _ _ _ _ (hjn e)]; exact (h.th x).r_body j e }
    jb := forall_at s.nextJob (by simp only [upd_same]; exact hrow.fresh)
      fun j e => by simp only [upd_other _ _ _ _ e]; exact (h.jb j).older e
    l_q := fun j => iff_loc_upd (h.l_q j) hfr nofun nofun
    l_swap := fun u j => iff_loc_upd (h.l_swap u j) hfr nofun nofun
    f_pending := fun j a b d => by
      dsimp only at a b d ⊢
      have e : j ≠ s.nextJob := fun e => by rw [e, hr0] at b; cases b
      rw [upd_other _ _ _ _ e] at a d
      exact h.f_pending j a b d }

theorem inv_notify {w : Nat} (h : Inv c s) (hx : s.exit = false) (hw : w ∈ s.waitq) :
    Inv c { s with waitq := s.waitq.erase w, woken := upd s.woken w true, awake := w :: s.awake } := by
  have hlw := h.th w
  obtain ⟨hcv, hwk⟩ := hlw.s_wq_pc hw
  have hwa : w ∉ s.awake := fun m => ((hlw.a_mem hx).1 m).elim (fun e => by rw [hwk] at e; cases e)
    fun e => by rcases Pc.inCv_iff.1 hcv with e' | e' <;> rw [e'] at e <;> cases e
  have hne : (s.waitq.erase w).Nodup := h.s_wqnd.erase w
  exact { h with
    th := forall_at w
      { hlw with
        s_wq_pc := fun m => absurd m h.s_wqnd.not_mem_erase
        s_woken := fun _ => hcv
        s_cv := fun _ => Or.inl (upd_same _ _ _)
        a_mem := fun _ => ⟨fun _ => Or.inl (upd_same _ _ _), fun _ => List.mem_cons_self⟩ }
      fun x hx' => { h.th x with
        s_wq_pc := fun m => by dsimp only; rw [upd_other _ _ _ _ hx']; exact (h.th x).s_wq_pc (List.mem_of_mem_erase m)
        s_woken := fun e => (h.th x).s_woken (by dsimp only at e; rwa [upd_other _ _ _ _ hx'] at e)
        s_cv := fun e => by
          dsimp only; rw [upd_other _ _ _ _ hx']
          exact ((h.th x).s_cv e).imp_right fun m => (List.mem_erase_of_ne hx').2 m
        a_mem := fun e => by
          dsimp only; rw [upd_other _ _ _ _ hx']
          exact (List.mem_cons.trans (or_iff_right hx')).trans ((h.th x).a_mem e) }
    s_exit_wq := fun e => by rw [hx] at e; cases e
    s_wqnd := hne
    a_nd := fun e => List.nodup_cons.2 ⟨hwa, h.a_nd e⟩
    a_len := fun e _ => Nat.le_succ_of_le (h.a_len e (List.ne_nil_of_mem hw)) }

/-- `hs`: a worker that will look at the queue has been provided for -/
theorem inv_enqueue {t j : Nat} (h : Inv c s) (hpc : s.pc t = Pc.enqCS j) (hmx : s.mx = none)
    (hx : s.exit = false) (hs : s.waitq ≠ [] → s.q.length + 1 ≤ s.awake.length) :
    Inv c { s with pc := upd s.pc t (Pc.afterEnq j true), loc := upd s.loc j Loc.queued, q := s.q ++ [j] } := by
  have hl := h.thAt hpc
  have hloc : s.loc j = Loc.rejected t := (hl.l_rej j).1 rfl
  have hnq : j ∉ s.q := fun m => by have := (h.l_q j).1 m; rw [hloc] at this; cases this
  exact { h with
    th := th_upd
      { hl with
        here := trivial
        l_held := fun j' => iff_loc_upd (hl.l_held j') hloc nofun nofun
        l_rej := own_release hl.l_rej nofun }
      fun x hx' => { h.th x with
        here := (h.th x).here.frame id id
          (fun e => by have := (h.th x).m_own.2 e; rw [hmx] at this; cases this) rfl rfl
        l_held := fun j' => iff_loc_upd ((h.th x).l_held j') hloc nofun nofun
        l_rej := fun j' => iff_loc_upd ((h.th x).l_rej j')
          hloc (fun e => hx' (Loc.rejected.inj e).symm) nofun }
    jb := forall_at j (by simp only [upd_same]; exact (h.jb j).move hloc nofun nofun nofun nofun)
      fun j' e => by simp only [upd_other _ _ _ _ e]; exact h.jb j'
    l_q := fun j' => by
      have := h.l_q j'
      simp only [upd_apply, List.mem_append, List.mem_singleton]
      grind
    l_qnd := nodup_snoc h.l_qnd hnq
    l_swap := fun u j' => iff_loc_upd (h.l_swap u j') hloc nofun nofun
    x_exit_q := fun e => by rw [hx] at e; cases e
    a_len := fun _ e => by rw [List.length_append]; exact hs e }

theorem inv_enqCS {t k j : Nat} (h : Inv c s) (hpc : s.pc t = Pc.enqCS j)
    (hmx : s.mx = none) : Inv c (stepEnqCS s t k j).1 := by
  unfold stepEnqCS
  split
  · rename_i hx
    exact h.move { h.thAt hpc with here := hx }
  · rename_i hx
    have hx : s.exit = false := Bool.eq_false_iff.2 hx
    rcases notifyOne_cases { s with pc := upd s.pc t (Pc.afterEnq j true), loc := upd s.loc j Loc.queued, q := s.q ++ [j] } k
      with ⟨hw, he⟩ | ⟨w, hw, he⟩ <;> rw [he]
    · exact inv_enqueue h hpc hmx hx fun e => absurd hw e
    · exact inv_enqueue (inv_notify h hx hw) hpc hmx hx fun _ => Nat.succ_le_succ (h.a_len hx (List.ne_nil_of_mem hw))

theorem inv_refused {t j : Nat} (h : Inv c s) (hpc : s.pc t = Pc.afterEnq j false) :
    Inv c (setPc (dropJob c s t j).1 t (Pc.afterEnq j true)) := by
  have hl := h.thAt hpc
  have hloc : s.loc j = Loc.rejected t := (hl.l_rej j).1 rfl
  obtain ⟨dr, ca, lo, fu, D, DO, he, hDn, hDr, hDm, hjb, hpf⟩ :=
    h.dropJob t hl.here hloc nofun nofun s.dq
  rw [show (dropJob c s t j).1 = _ from he]
  dsimp only [setPc]
  exact { h with
    th := th_upd
      { hl with
        here := trivial
        l_held := fun j' => iff_loc_upd (hl.l_held j') hloc nofun nofun
        l_rej := own_release hl.l_rej nofun
        r_body := fun j' e k d => hl.r_body j' e k (hpf j' d (hl.r_job j' e))
        b_defnd := by dsimp only; rw [upd_same]; exact hDn
        b_defpc := by dsimp only; rw [upd_same]; exact fun e => ⟨hDr e, rfl⟩ }
      fun x hx => (h.th x).dropOther hloc nofun
        (fun e => hx (Loc.rejected.inj e).symm) (upd_other _ _ _ _ hx) rfl hpf
    jb := hjb
    l_q := fun j' => iff_loc_upd (h.l_q j') hloc nofun nofun
    l_swap := fun u j' => iff_loc_upd (h.l_swap u j') hloc nofun nofun
    b_defer := hDm
    f_pending := fun j' a r d => h.f_pending j' a r (hpf j' d r) }

theorem inv_accepted {t j : Nat} (h : Inv c s) (hpc : s.pc t = Pc.afterEnq j true) :
    Inv c (stepAfterEnq c s t j true).1 := by
  have hl := h.thAt hpc
  obtain ⟨hjn, hown, harm⟩ := hl.f_own j rfl
  simp only [stepAfterEnq, if_true]
  split
  · rename_i hf
    rw [arm_fst]
    dsimp only [setPc]
    exact { h with
      th := th_upd
        { hl with
          f_own := nofun
          f_arm := fun j' ho hf' hn ha => by
            dsimp only at ha; rw [upd_apply] at ha; split at ha
            · cases ha
            · rename_i ne; have := hl.f_arm j' ho hf' hn ha; injection this with e; exact absurd e.symm ne }
        fun x hx => { h.th x with
          f_own := fun j' hs => by
            have := (h.th x).f_own j' hs
            have ne : j' ≠ j := fun e => hx (by rw [← this.2.1, e, hown])
            exact ⟨this.1, this.2.1, by dsimp only; rw [upd_other _ _ _ _ ne]; exact this.2.2⟩
          f_arm := fun j' ho hf' hn ha => by
            dsimp only at ha; rw [upd_apply] at ha; split at ha
            · cases ha
            · exact (h.th x).f_arm j' ho hf' hn ha }
      jb := forall_at j (by simp only [upd_same]; have := h.jb j; rw [harm] at this; exact this.arm hf hjn)
        fun j' e => by simp only [upd_other _ _ _ _ e]; exact h.jb j' }
  · rename_i hf
    exact h.move { hl with
      f_own := nofun
      f_arm := fun j' ho hf' hn ha => by
        have := hl.f_arm j' ho hf' hn ha; injection this with e; subst e; exact absurd hf' hf }

/-- once the submitter has destroyed the closure, a refused submission goes the way of an accepted one -/
theorem afterEnq_refused (c : Cfg) (s : State) (t j : Nat) :
    (stepAfterEnq c s t j false).1 = (stepAfterEnq c (setPc (dropJob c s t j).1 t (Pc.afterEnq j true)) t j true).1 := by
  have hp : ∀ (s : State) (p : Pc), (dropJob c (setPc s t p) t j).1 = setPc (dropJob c s t j).1 t p := by
    intro s p; unfold dropJob setPc inCoro; dsimp only; split <;> (try split) <;> rfl
  have hk : (dropJob c s t j).1.kind = s.kind := by
    unfold dropJob; split <;> (try split) <;> rfl
  simp only [stepAfterEnq, Bool.false_eq_true, if_false, if_true, hp]
  simp only [setPc, upd_upd, hk]
  split <;> rfl

theorem inv_afterEnq {t j : Nat} {acc : Bool} (h : Inv c s) (hpc : s.pc t = Pc.afterEnq j acc) :
    Inv c (stepAfterEnq c s t j acc).1 := by
  cases acc
  · rw [afterEnq_refused]; exact inv_accepted (inv_refused h hpc) (upd_same _ _ _)
  · exact inv_accepted h hpc

end Cocls.Pool
