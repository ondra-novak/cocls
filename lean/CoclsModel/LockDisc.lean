import CoclsModel.Clock

/-
Happens-before machine for C03: lock discipline ⇒ race freedom.

What is modelled
* ONE mutex, seen as an atomic word in the machine of `Clock.lean`: `lock` is an acquire RMW that is enabled only when the
  mutex is free (a scheduled thread whose next act is `lock` while the mutex is held stutters — this includes a thread that
  re-locks a mutex it holds); `unlock` by the holder is a release store.  Only the newest message of the mutex word matters
  (RMWs read the latest; a locking RMW continues the release sequence of the unlock it read), so the word is represented
  by `holder : Option Nat` and `mvc`, the clock released by the last unlock.  `unlock` by a thread that is not the holder is
  undefined behaviour for `std::mutex`; the machine skips the act (`stepSkip`), and `Disciplined` programs never do it.
* Any number of threads (`progs : Nat → List Act`), each running an arbitrary finite program over
  `lock | unlock | access field write`; any schedule (`List Nat` of thread ids).
* Any number of guarded non-atomic fields (indexed by `Nat`), each with FastTrack metadata exactly as `data` in `Clock.lean`
  (last-write epoch, read epochs since that write); `raced` is set by the first access that is not ordered after the
  previous conflicting access to the same field.
* `Disciplined prog`: lock/unlock are well bracketed starting unlocked (no re-lock, no unlock without lock) and every
  `access` occurs while the thread holds the mutex.  A program may end while holding the mutex (that blocks the others; it is
  not a race).  `Balanced prog` additionally ends unlocked; `disciplined_flatten` / `api_safe`: threads that call balanced
  member functions in any order and number are disciplined, hence race free.

Results: `lock_discipline_safe`, `api_safe`, and the `decide` witness `undisciplined_races` (one unguarded read against a
guarded write races).  `runTr` is `discFrom` and `balFrom` as one function that returns the lock state after a trace
(`discFrom_eq`, `balFrom_eq`); the checker of `LockProg.lean` is proved sound against it.

NOT modelled: more than one mutex, `try_lock`/timed locks, condition variables (a wait is unlock; lock), accesses from
constructors/destructors (ordered by object lifetime, i.e. by synchronisation outside this machine — the C03 table filters them),
consume, release fences, out-of-thin-air, mixed-size accesses.
-/

namespace Cocls.LockDisc

open Cocls.Clock

inductive Act where
  | lock | unlock | access (field : Nat) (write : Bool)
  deriving DecidableEq, Repr, Inhabited

/-- `discFrom held prog`: `prog`, started with the mutex held iff `held`, keeps the discipline -/
def discFrom : Bool → List Act → Bool
  | _, [] => true
  | false, Act.lock :: r => discFrom true r
  | true, Act.lock :: _ => false
  | true, Act.unlock :: r => discFrom false r
  | false, Act.unlock :: _ => false
  | h, Act.access _ _ :: r => h && discFrom h r

def Disciplined (prog : List Act) : Bool := discFrom false prog

/-- `discFrom` that additionally requires the program to end with the mutex released -/
def balFrom : Bool → List Act → Bool
  | h, [] => !h
  | false, Act.lock :: r => balFrom true r
  | true, Act.lock :: _ => false
  | true, Act.unlock :: r => balFrom false r
  | false, Act.unlock :: _ => false
  | h, Act.access _ _ :: r => h && balFrom h r

/-- disciplined and lock-balanced: the shape of a member function that takes a `lock_guard` -/
def Balanced (prog : List Act) : Bool := balFrom false prog

/-- `clk` and `rem` (the rest of each thread's program) are indexed by thread id, `wr`/`rd` by field -/
structure St where
  clk : Nat → VC
  rem : Nat → List Act
  holder : Option Nat
  mvc : VC
  wr : Nat → Nat × Nat
  rd : Nat → List (Nat × Nat)
  raced : Bool

def St.init (progs : Nat → List Act) : St :=
  { clk := VC.init, rem := progs, holder := none, mvc := VC.bot, wr := fun _ => (0, 0), rd := fun _ => [], raced := false }

def ordW (s : St) (t f : Nat) : Bool := decide ((s.wr f).2 ≤ s.clk t (s.wr f).1)
def ordR (s : St) (t f : Nat) : Bool := (s.rd f).all (fun e => decide (e.2 ≤ s.clk t e.1))

def stepLock (s : St) (t : Nat) (r : List Act) : St :=
  { s with clk := upd s.clk t (VC.join (s.clk t) s.mvc), holder := some t, rem := upd s.rem t r }
def stepUnlock (s : St) (t : Nat) (r : List Act) : St :=
  { s with mvc := s.clk t, clk := upd s.clk t (VC.tick (s.clk t) t), holder := none, rem := upd s.rem t r }
def stepSkip (s : St) (t : Nat) (r : List Act) : St := { s with rem := upd s.rem t r }
def stepRead (s : St) (t f : Nat) (r : List Act) : St :=
  { s with rd := upd s.rd f ((t, s.clk t t) :: s.rd f), raced := s.raced || !ordW s t f, rem := upd s.rem t r }
def stepWrite (s : St) (t f : Nat) (r : List Act) : St :=
  { s with wr := upd s.wr f (t, s.clk t t), rd := upd s.rd f [], raced := s.raced || !(ordW s t f && ordR s t f),
           rem := upd s.rem t r }

def step (s : St) (t : Nat) : St :=
  match s.rem t with
  | [] => s
  | Act.lock :: r => if s.holder = none then stepLock s t r else s
  | Act.unlock :: r => if s.holder = some t then stepUnlock s t r else stepSkip s t r
  | Act.access f true :: r => stepWrite s t f r
  | Act.access f false :: r => stepRead s t f r

def run (progs : Nat → List Act) (sched : List Nat) : St := sched.foldl step (St.init progs)

/-- the "token" clock: the holder's clock, or what the last unlock released.  Every access so far is below it. -/
def tok (s : St) : VC := match s.holder with | some h => s.clk h | none => s.mvc

structure Inv (s : St) : Prop where
  nr : s.raced = false
  disc : ∀ t, discFrom (decide (s.holder = some t)) (s.rem t) = true
  wok : ∀ f, (s.wr f).2 ≤ tok s (s.wr f).1
  rok : ∀ f, ∀ e ∈ s.rd f, e.2 ≤ tok s e.1

/-- the step lemmas give all clauses of the post-state to ONE `grind` call, over the pre-state clauses as hypotheses -/
theorem Inv.of_and {s : St}
    (h : s.raced = false ∧ (∀ t, discFrom (decide (s.holder = some t)) (s.rem t) = true) ∧
      (∀ f, (s.wr f).2 ≤ tok s (s.wr f).1) ∧ (∀ f, ∀ e ∈ s.rd f, e.2 ≤ tok s e.1)) : Inv s :=
  ⟨h.1, h.2.1, h.2.2.1, h.2.2.2⟩

theorem inv_init (progs : Nat → List Act) (h : ∀ t, Disciplined (progs t) = true) : Inv (St.init progs) := by
  constructor <;> simp [St.init, tok] <;> exact h

theorem inv_lock {s : St} {t : Nat} {r : List Act} (h : Inv s) (hr : s.rem t = Act.lock :: r) (hh : s.holder = none) :
    Inv (stepLock s t r) := by
  have ht := h.disc t
  cases h
  refine .of_and ?_
  simp only [stepLock, tok, hh, hr, Option.some.injEq, reduceCtorEq] at *
  grind [upd_apply, upd_apply2, discFrom, le_join_left, le_join_right]

theorem inv_unlock {s : St} {t : Nat} {r : List Act} (h : Inv s) (hr : s.rem t = Act.unlock :: r)
    (hh : s.holder = some t) : Inv (stepUnlock s t r) := by
  have ht := h.disc t
  cases h
  refine .of_and ?_
  simp only [stepUnlock, tok, hh, hr, Option.some.injEq, reduceCtorEq] at *
  grind [upd_apply, discFrom]

theorem inv_skip {s : St} {t : Nat} {r : List Act} (h : Inv s) (hr : s.rem t = Act.unlock :: r)
    (hh : s.holder ≠ some t) : Inv (stepSkip s t r) := by
  have ht := h.disc t
  rw [hr] at ht
  simp [hh, discFrom] at ht

theorem holds_of_access {s : St} {t f : Nat} {w : Bool} {r : List Act} (h : Inv s)
    (hr : s.rem t = Act.access f w :: r) : s.holder = some t := by
  have ht := h.disc t
  rw [hr] at ht
  simp [discFrom] at ht
  exact ht.1

theorem inv_read {s : St} {t f : Nat} {r : List Act} (h : Inv s) (hr : s.rem t = Act.access f false :: r) :
    Inv (stepRead s t f r) := by
  have hh := holds_of_access h hr
  have ht := h.disc t
  cases h
  refine .of_and ?_
  simp only [stepRead, ordW, tok, hh, hr, Option.some.injEq] at *
  grind [upd_apply, discFrom]

theorem inv_write {s : St} {t f : Nat} {r : List Act} (h : Inv s) (hr : s.rem t = Act.access f true :: r) :
    Inv (stepWrite s t f r) := by
  have hh := holds_of_access h hr
  have ht := h.disc t
  cases h
  refine .of_and ?_
  simp only [stepWrite, ordW, ordR, tok, hh, hr, Option.some.injEq] at *
  grind [upd_apply, discFrom]

theorem inv_step {s : St} (h : Inv s) (t : Nat) : Inv (step s t) := by
  unfold step
  split
  · exact h
  · next r hr => split
                 · next hh => exact inv_lock h hr hh
                 · exact h
  · next r hr => split
                 · next hh => exact inv_unlock h hr hh
                 · next hh => exact inv_skip h hr hh
  · next f r hr => exact inv_write h hr
  · next f r hr => exact inv_read h hr

theorem inv_run (progs : Nat → List Act) (h : ∀ t, Disciplined (progs t) = true) (sched : List Nat) :
    Inv (run progs sched) :=
  List.foldlRecOn sched step (inv_init progs h) fun _ hs t _ => inv_step hs t

/-- Lock discipline implies race freedom: any number of threads, any programs, any schedule. -/
theorem lock_discipline_safe (progs : Nat → List Act) (h : ∀ t, Disciplined (progs t) = true) :
    ∀ sched : List Nat, (run progs sched).raced = false :=
  fun sched => (inv_run progs h sched).nr

/-- the lock state after one act, `none` when the act breaks the discipline; `runTr` folds it over a trace -/
def stepTr : Bool → Act → Option Bool
  | false, Act.lock => some true
  | true, Act.lock => none
  | true, Act.unlock => some false
  | false, Act.unlock => none
  | h, Act.access _ _ => if h then some h else none

def runTr : Bool → List Act → Option Bool
  | h, [] => some h
  | h, a :: r => (stepTr h a).bind (fun h' => runTr h' r)

theorem runTr_append (h : Bool) (t1 t2 : List Act) :
    runTr h (t1 ++ t2) = (runTr h t1).bind (fun h1 => runTr h1 t2) := by
  induction t1 generalizing h with
  | nil => rfl
  | cons a r ih =>
    simp only [List.cons_append, runTr]
    cases stepTr h a with
    | none => rfl
    | some h' => simp [ih]

theorem discFrom_eq (h : Bool) (tr : List Act) : discFrom h tr = (runTr h tr).isSome := by
  induction tr generalizing h with
  | nil => simp [discFrom, runTr]
  | cons a r ih => cases a <;> cases h <;> simp [runTr, stepTr, discFrom, ih]

theorem balFrom_eq (h : Bool) (tr : List Act) : balFrom h tr = (runTr h tr == some false) := by
  induction tr generalizing h with
  | nil => cases h <;> rfl
  | cons a r ih => cases a <;> cases h <;> simp [runTr, stepTr, balFrom, ih]

theorem discFrom_append (h : Bool) (p q : List Act) (hp : balFrom h p = true) (hq : discFrom false q = true) :
    discFrom h (p ++ q) = true := by
  rw [balFrom_eq, beq_iff_eq] at hp
  rwa [discFrom_eq, runTr_append, hp, Option.bind_some, ← discFrom_eq]

theorem disciplined_flatten (calls : List (List Act)) (h : ∀ c ∈ calls, Balanced c = true) :
    Disciplined calls.flatten = true := by
  induction calls with
  | nil => rfl
  | cons c cs ih =>
    rw [List.flatten_cons]
    exact discFrom_append false c _ (h c (by simp)) (ih (fun c' hc' => h c' (by simp [hc'])))

/-- Threads that only call member functions from a set `fns` of balanced, disciplined functions — any number of threads,
any number of calls, any order, any interleaving — never race on a guarded field. -/
theorem api_safe (fns : List (List Act)) (hf : ∀ f ∈ fns, Balanced f = true)
    (calls : Nat → List (List Act)) (hc : ∀ t, ∀ c ∈ calls t, c ∈ fns) :
    ∀ sched : List Nat, (run (fun t => (calls t).flatten) sched).raced = false :=
  lock_discipline_safe _ (fun t => disciplined_flatten _ (fun c hcm => hf c (hc t c hcm)))

def racyProgs : Nat → List Act := fun t =>
  if t = 0 then [Act.lock, Act.access 0 true, Act.unlock] else if t = 1 then [Act.access 0 false] else []

/-- guarded write then unguarded read (`[0, 0, 1]`), and unguarded read then guarded write (`[1, 0, 0]`) -/
theorem undisciplined_races :
    Disciplined (racyProgs 1) = false ∧ (run racyProgs [0, 0, 1]).raced = true ∧ (run racyProgs [1, 0, 0]).raced = true := by
  decide

/-- sanity: with the read guarded the same schedules do perform both accesses (the theorem is not vacuous), the reader that
locks second has the writer's epoch in its clock, and a thread scheduled on a held mutex stutters -/
def goodProgs : Nat → List Act := fun t =>
  if t = 0 then [Act.lock, Act.access 0 true, Act.unlock]
  else if t = 1 then [Act.lock, Act.access 0 false, Act.unlock] else []

example : Disciplined (goodProgs 0) = true ∧ Balanced (goodProgs 1) = true
    ∧ (run goodProgs [0, 1, 0, 1, 0, 1, 1, 1]).wr 0 = (0, 1)
    ∧ (run goodProgs [0, 1, 0, 1, 0, 1, 1, 1]).rd 0 = [(1, 1)]
    ∧ (run goodProgs [0, 1, 0, 1, 0, 1, 1, 1]).clk 1 0 = 1
    ∧ (run goodProgs [0, 1, 1, 1]).rem 1 = goodProgs 1 := by decide

end Cocls.LockDisc
