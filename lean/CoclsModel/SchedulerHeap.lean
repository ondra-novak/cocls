import CoclsModel.SchedulerProofs
/-!
The transcription of libstdc++'s `__push_heap` / `__adjust_heap` in `Scheduler.lean` (`stdHeap`, what the driver runs)
meets the contract the scheduler theorems assume of the std heap algorithms: `stdHeap_spec : HeapSpec stdHeap`.
-/
namespace Cocls.Sched

theorem getE_set (l : List Entry) (i j : Nat) (v : Entry) :
    getE (l.set i v) j = if i = j ∧ i < l.length then v else getE l j := by
  unfold getE
  simp only [List.getD_eq_getElem?_getD, List.getElem?_set]
  by_cases h : i = j
  · subst h
    by_cases h2 : i < l.length <;> simp [h2]
  · simp [h]

theorem getE_set_eq {l : List Entry} {i : Nat} (v : Entry) (h : i < l.length) : getE (l.set i v) i = v := by
  rw [getE_set]; simp [h]

theorem getE_set_ne {l : List Entry} {i j : Nat} (v : Entry) (h : i ≠ j) : getE (l.set i v) j = getE l j := by
  rw [getE_set]; simp [h]

theorem getE_lt {l : List Entry} {i : Nat} (h : i < l.length) : getE l i = l[i] := by
  unfold getE; simp [List.getD_eq_getElem?_getD, h]

/-- the parent of position `j` of the vector (the root is its own) -/
def parent (j : Nat) : Nat := (j - 1) / 2

theorem parent_lt {j : Nat} (h : 0 < j) : parent j < j := by unfold parent; omega

theorem parent_eq_iff {j h : Nat} (hj : 0 < j) : parent j = h ↔ j = 2 * h + 1 ∨ j = 2 * h + 2 := by unfold parent; omega

/-- the heap property stated on the entries -/
def IsHeapE (l : List Entry) : Prop := ∀ j, 0 < j → j < l.length → (getE l (parent j)).tp ≤ (getE l j).tp

theorem map_tp_getD {l : List Entry} {j : Nat} (h : j < l.length) : (l.map (·.tp)).getD j 0 = (getE l j).tp := by
  unfold getE; simp [List.getD_eq_getElem?_getD, h]

theorem isHeap_iff (l : List Entry) : IsHeap l ↔ IsHeapE l := by
  unfold IsHeap HeapT IsHeapE parent
  refine forall_congr' fun j => forall_congr' fun h0 => ?_
  rw [List.length_map]
  refine forall_congr' fun hj => ?_
  rw [map_tp_getD hj, map_tp_getD (by omega)]

theorem ite_getElem_le_count (l : List Entry) {k : Nat} (hk : k < l.length) (b : Entry) :
    (if l[k] == b then 1 else 0) ≤ l.count b := by
  split
  next hb => exact List.count_pos_iff.mpr (eq_of_beq hb ▸ List.getElem_mem hk)
  next => exact Nat.zero_le _

theorem hole_move_perm (l : List Entry) (i j : Nat) (hi : i < l.length) (hj : j < l.length) (v : Entry) :
    ((l.set i (getE l j)).set j v).Perm (l.set i v) := by
  by_cases hij : i = j
  · subst hij; simp
  · rw [List.perm_iff_count]
    intro b
    have hj' : j < (l.set i (getE l j)).length := by simpa using hj
    rw [List.count_set hj', List.count_set hi, List.count_set hi, List.getElem_set_ne hij]
    simp only [getE_lt hj]
    have := ite_getElem_le_count l hi b
    have := ite_getElem_le_count l hj b
    omega

theorem siftUp_succ (v : Entry) (f : Nat) (l : List Entry) (h : Nat) : siftUp v (f + 1) l h =
    if h = 0 then l.set h v
    else if (getE l (parent h)).tp > v.tp then siftUp v f (l.set h (getE l (parent h))) (parent h) else l.set h v := rfl

theorem siftUp_length (v : Entry) : ∀ f l h, (siftUp v f l h).length = l.length := by
  intro f
  induction f with
  | zero => intro l h; simp [siftUp]
  | succ f ih =>
    intro l h
    rw [siftUp_succ]
    split
    · simp
    · split
      · rw [ih]; simp
      · simp

theorem siftUp_perm (v : Entry) : ∀ f l h, h < l.length → (siftUp v f l h).Perm (l.set h v) := by
  intro f
  induction f with
  | zero => intro l h _; simp [siftUp]
  | succ f ih =>
    intro l h hl
    rw [siftUp_succ]
    split
    · exact List.Perm.refl _
    next h0 =>
      split
      · have hp : parent h < l.length := Nat.lt_trans (parent_lt (Nat.pos_of_ne_zero h0)) hl
        exact (ih _ _ (by simpa using hp)).trans (hole_move_perm l h (parent h) hl hp v)
      · exact List.Perm.refl _

theorem isHeapE_set {l : List Entry} {h : Nat} {x : Entry} (hp : IsHeapE l) (hh : h < l.length)
    (up : 0 < h → (getE l (parent h)).tp ≤ x.tp)
    (down : ∀ j, 0 < j → j < l.length → parent j = h → x.tp ≤ (getE l j).tp) : IsHeapE (l.set h x) := by
  intro j hj0 hjl
  rw [List.length_set] at hjl
  by_cases hjh : j = h
  · subst hjh
    rw [getE_set_eq x hh, getE_set_ne x (Nat.ne_of_gt (parent_lt hj0))]
    exact up hj0
  · rw [getE_set_ne x (Ne.symm hjh)]
    by_cases hpj : parent j = h
    · rw [hpj, getE_set_eq x hh]
      exact down j hj0 hjl hpj
    · rw [getE_set_ne x (Ne.symm hpj)]
      exact hp j hj0 hjl

theorem parent_le {l : List Entry} (hp : IsHeapE l) {h : Nat} (hh : h < l.length) :
    (getE l (parent h)).tp ≤ (getE l h).tp := by
  cases h with
  | zero => exact Nat.le_refl _
  | succ h => exact hp _ (Nat.succ_pos h) hh

theorem isHeapE_set_parent {l : List Entry} {h : Nat} (hp : IsHeapE l) (hh : h < l.length) :
    IsHeapE (l.set h (getE l (parent h))) :=
  isHeapE_set hp hh (fun _ => Nat.le_refl _) fun j hj0 hjl hj => Nat.le_trans (parent_le hp hh) (hj ▸ hp j hj0 hjl)

theorem isHeapE_fill {l : List Entry} {h c : Nat} (hp : IsHeapE l) (hc0 : 0 < c) (hc : c < l.length) (hch : parent c = h)
    (hmin : ∀ j, 0 < j → j < l.length → parent j = h → (getE l c).tp ≤ (getE l j).tp) :
    IsHeapE (l.set h (getE l c)) :=
  have hh : h < l.length := hch ▸ Nat.lt_trans (parent_lt hc0) hc
  isHeapE_set hp hh (fun h0 => Nat.le_trans (hp h h0 hh) (hch ▸ hp c hc0 hc)) hmin

/-! The invariant of `__push_heap`: with the hole `h` filled by its parent's value the vector is a heap, and `v`, which
is about to be placed, is not above the children of the hole. -/

theorem siftUp_stop {l : List Entry} {h : Nat} {v : Entry} (hh : h < l.length)
    (hm : IsHeapE (l.set h (getE l (parent h))))
    (down : ∀ j, 0 < j → j < l.length → parent j = h → v.tp ≤ (getE l j).tp)
    (hs : 0 < h → (getE l (parent h)).tp ≤ v.tp) : IsHeapE (l.set h v) := by
  have := isHeapE_set (x := v) hm (by simpa using hh)
    (fun h0 => by rw [getE_set_ne _ (Nat.ne_of_gt (parent_lt h0))]; exact hs h0)
    (fun j hj0 hjl hj => by
      rw [getE_set_ne _ (hj ▸ Nat.ne_of_lt (parent_lt hj0))]; exact down j hj0 (by simpa using hjl) hj)
  rwa [List.set_set] at this

theorem siftUp_heap (v : Entry) : ∀ f l h, h ≤ f → h < l.length → IsHeapE (l.set h (getE l (parent h))) →
    (∀ j, 0 < j → j < l.length → parent j = h → v.tp ≤ (getE l j).tp) → IsHeapE (siftUp v f l h) := by
  intro f
  induction f with
  | zero =>
    intro l h hf hh hm down
    obtain rfl : h = 0 := Nat.le_zero.mp hf
    exact siftUp_stop hh hm down fun h0 => absurd h0 (Nat.lt_irrefl 0)
  | succ f ih =>
    intro l h hf hh hm down
    rw [siftUp_succ]
    split
    next h0 => exact siftUp_stop hh hm down fun hpos => absurd h0 (Nat.ne_of_gt hpos)
    next h0 =>
      have hp := parent_lt (Nat.pos_of_ne_zero h0)
      split
      next hgt =>
        -- the parent moves down into the hole; the children of the new hole are not below the old parent
        refine ih _ _ (by omega) (by simp; omega) (isHeapE_set_parent hm (by simp; omega)) fun j hj0 hjl hj => ?_
        have := hm j hj0 (by simpa using hjl)
        rw [hj, getE_set_ne _ (Nat.ne_of_gt hp)] at this
        omega
      next hgt => exact siftUp_stop hh hm down fun _ => Nat.le_of_not_gt hgt

theorem getE_append_left {l : List Entry} {j : Nat} (e : Entry) (h : j < l.length) : getE (l ++ [e]) j = getE l j := by
  unfold getE
  simp [List.getD_eq_getElem?_getD, List.getElem?_append_left h]

theorem getE_append_length (l : List Entry) (e : Entry) : getE (l ++ [e]) l.length = e := by
  simp [getE]

theorem isHeapE_of_append {l : List Entry} {x : Entry} (h : IsHeapE (l ++ [x])) : IsHeapE l := by
  intro j hj0 hjl
  have := h j hj0 (by simp; omega)
  rwa [getE_append_left x hjl, getE_append_left x (Nat.lt_trans (parent_lt hj0) hjl)] at this

theorem isHeapE_append {l : List Entry} {x : Entry} (h : IsHeapE l)
    (hx : 0 < l.length → (getE l (parent l.length)).tp ≤ x.tp) : IsHeapE (l ++ [x]) := by
  intro j hj0 hjl
  have hpj := parent_lt hj0
  rcases Nat.lt_or_ge j l.length with hj | hj
  · rw [getE_append_left x hj, getE_append_left x (Nat.lt_trans hpj hj)]
    exact h j hj0 hj
  · obtain rfl : j = l.length := by simp at hjl; omega
    rw [getE_append_length, getE_append_left x hpj]
    exact hx hj0

theorem stdPush_eq (l : List Entry) (e : Entry) :
    stdPush (l ++ [e]) = siftUp e (l.length + 1) (l ++ [e]) l.length := by
  simp [stdPush]

theorem stdPush_perm (l : List Entry) (e : Entry) : (stdPush (l ++ [e])).Perm (l ++ [e]) := by
  rw [stdPush_eq]
  simpa using siftUp_perm e (l.length + 1) (l ++ [e]) l.length (by simp)

theorem stdPush_heap (l : List Entry) (e : Entry) (hh : IsHeapE l) : IsHeapE (stdPush (l ++ [e])) := by
  rw [stdPush_eq]
  refine siftUp_heap e _ _ _ (Nat.le_succ _) (by simp) ?_ fun j hj0 hjl hj => ?_
  · rw [List.set_append_right _ _ (Nat.le_refl _), Nat.sub_self, List.set_cons_zero]
    exact isHeapE_append hh fun h0 => by rw [getE_append_left e (parent_lt h0)]; exact Nat.le_refl _
  · -- the hole is the new last position: it has no children
    have := parent_lt hj0
    simp at hjl; omega

theorem siftDown_spec (len : Nat) : ∀ f l h, l.length = len → h < len → len - h ≤ f → IsHeapE l →
    (siftDown len f l h).1.length = len ∧ IsHeapE (siftDown len f l h).1 ∧
    (siftDown len f l h).2 < len ∧ (len - 1) / 2 ≤ (siftDown len f l h).2 ∧
    ∀ v, ((siftDown len f l h).1.set (siftDown len f l h).2 v).Perm (l.set h v) := by
  intro f
  induction f with
  | zero => intro l h _ hh hf; omega
  | succ f ih =>
    intro l h hl hh hf hp
    unfold siftDown
    by_cases hc : h < (len - 1) / 2
    · simp only [hc, if_true]
      have hr : 2 * (h + 1) < len := by omega
      clear hc
      generalize hcdef : (if (getE l (2 * (h + 1))).tp > (getE l (2 * (h + 1) - 1)).tp then 2 * (h + 1) - 1
        else 2 * (h + 1)) = c
      have hc1 : c = 2 * h + 1 ∨ c = 2 * h + 2 := by
        rw [← hcdef]; split <;> omega
      have hmin : ∀ j, 0 < j → j < l.length → parent j = h → (getE l c).tp ≤ (getE l j).tp := by
        intro j hj0 _ hjp
        have hj := (parent_eq_iff hj0).mp hjp
        rw [← hcdef, show 2 * (h + 1) - 1 = 2 * h + 1 by omega, show 2 * (h + 1) = 2 * h + 2 by omega]
        split <;> rcases hj with hj | hj <;> subst hj <;> omega
      have hheap : IsHeapE (l.set h (getE l c)) :=
        isHeapE_fill hp (by omega) (by omega) ((parent_eq_iff (by omega)).mpr hc1) hmin
      obtain ⟨r1, r2, r3, r4, r5⟩ := ih (l.set h (getE l c)) c (by simpa using hl) (by omega) (by omega) hheap
      exact ⟨r1, r2, r3, r4, fun v => (r5 v).trans (hole_move_perm l h c (by omega) (by omega) v)⟩
    · simp only [hc, if_false]
      exact ⟨hl, hp, hh, by omega, fun v => List.Perm.refl _⟩

theorem adjustHeap_spec (l : List Entry) (v : Entry) (hl : 0 < l.length) (hh : IsHeapE l) :
    IsHeapE (adjustHeap l v) ∧ (adjustHeap l v).Perm (l.set 0 v) := by
  obtain ⟨r1, r2, r3, r4, r5⟩ := siftDown_spec l.length l.length l 0 rfl hl (by omega) hh
  unfold adjustHeap
  cases hsd : siftDown l.length l.length l 0 with
  | mk l1 hole =>
    simp only [hsd] at r1 r2 r3 r4 r5 ⊢
    by_cases hc : l.length % 2 = 0 ∧ hole = (l.length - 2) / 2 ∧ 2 ≤ l.length
    · rw [if_pos hc]
      -- the hole has one child only, the last element: it moves up and the hole is a leaf
      have hk : l.length = 2 * hole + 2 := by omega
      clear hc r4
      rw [show 2 * (hole + 1) - 1 = l.length - 1 by omega]
      have hlast : parent (l.length - 1) = hole := (parent_eq_iff (by omega)).mpr (by omega)
      have hheap : IsHeapE (l1.set hole (getE l1 (l.length - 1))) :=
        isHeapE_fill r2 (by omega) (by omega) hlast fun j hj0 hjl hjp => by
          rw [show j = l.length - 1 from by have := (parent_eq_iff hj0).mp hjp; omega]; exact Nat.le_refl _
      constructor
      · refine siftUp_heap v _ _ _ (by omega) (by simp; omega) (isHeapE_set_parent hheap (by simp; omega))
          fun j hj0 hjl hjp => ?_
        have := parent_lt hj0
        simp only [List.length_set, r1] at hjl; omega
      · refine (siftUp_perm v _ _ _ (by simp; omega)).trans ?_
        exact (hole_move_perm l1 hole (l.length - 1) (by omega) (by omega) v).trans (r5 v)
    · rw [if_neg hc]
      constructor
      · refine siftUp_heap v _ _ _ (by omega) (by omega) (isHeapE_set_parent r2 (by omega)) fun j hj0 hjl hjp => ?_
        have := (parent_eq_iff hj0).mp hjp
        rw [r1] at hjl; omega
      · exact (siftUp_perm v _ _ _ (by omega)).trans (r5 v)

theorem stdPopItem_spec (x : Entry) (xs : List Entry) (hh : IsHeapE (x :: xs)) :
    IsHeapE (stdPopItem (x :: xs)) ∧ (stdPopItem (x :: xs)).Perm xs := by
  rcases List.eq_nil_or_concat xs with rfl | ⟨ys, v, rfl⟩
  · exact ⟨fun j _ hj => by simp [stdPopItem] at hj, by simp [stdPopItem]⟩
  · rw [List.concat_eq_append, ← List.cons_append] at hh ⊢
    obtain ⟨a1, a2⟩ := adjustHeap_spec (x :: ys) v (by simp) (isHeapE_of_append hh)
    have e : stdPopItem (x :: ys ++ [v]) = adjustHeap (x :: ys) v := by
      simp only [stdPopItem, List.getLast?_concat, List.dropLast_concat]; simp
    rw [e]
    exact ⟨a1, a2.trans (by simpa using List.perm_append_comm (l₁ := [v]) (l₂ := ys))⟩

theorem stdHeap_spec : HeapSpec stdHeap where
  push_perm := fun l e _ => stdPush_perm l e
  push_heap := fun l e h => (isHeap_iff _).mpr (stdPush_heap l e ((isHeap_iff _).mp h))
  pop_perm := fun x l h => (stdPopItem_spec x l ((isHeap_iff _).mp h)).2
  pop_heap := fun x l h => (isHeap_iff _).mpr (stdPopItem_spec x l ((isHeap_iff _).mp h)).1

end Cocls.Sched
