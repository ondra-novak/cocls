import CoclsModel.ThreadPoolFrames
/-! Preservation of the thread-pool invariant: `stop()`, of the pool and of the other pool instance B. -/
namespace Cocls.Pool
variable {c : Cfg} {s : State}

theorem inv_stopCS {t : Nat} {isD : Bool}
    (h : Inv c s) (hpc : s.pc t = Pc.stopCS isD) (hmx : s.mx = none) : Inv c (stepStopCS s t isD).1 := by
  have hl := h.thAt hpc
  have hdq : s.dq t = [] := Classical.byContradiction fun e => by cases hl.l_dqpc e
  have htm : s.tmp t = [] := Classical.byContradiction fun e => by cases hl.s_tmp_pc e
  have hqc : ∀ j, s.q.contains j = true ↔ s.loc j = Loc.queued := fun j => List.contains_iff_mem.trans (h.l_q j)
  -- the queued closures, and only they, change their location
  have hloc : ∀ {j : Nat} {l : Loc} {P : Prop}, (P ↔ s.loc j = l) → l ≠ Loc.queued → l ≠ Loc.swapped t →
      (P ↔ (if s.q.contains j = true then Loc.swapped t else s.loc j) = l) := by
    intro j l P hP h1 h2
    split
    · rename_i e; rw [(hqc j).1 e] at hP; exact ⟨fun p => absurd (hP.1 p).symm h1, fun e => absurd e.symm h2⟩
    · exact hP
  have hwk : ∀ {x}, (s.woken x || s.waitq.contains x) = true → (s.pc x).inCv = true := fun {x} e => by
    rcases Bool.or_eq_true_iff.1 e with e | e
    · exact (h.th x).s_woken e
    · exact ((h.th x).s_wq_pc (List.contains_iff_mem.1 e)).1
  have htmo : ∀ {u}, s.tmp u ≠ [] → u ≠ t := fun e e' => by subst e'; exact e htm
  -- clauses that have the same proof for `t` and for the other threads
  have hall : ∀ x q p, Local c s x q → (p = q ∨ (q = Pc.stopCS isD ∧ p = Pc.stopJoin)) →
      ((s.pc x).isDone = true → p.isDone = true) → (upd s.dq t s.q x).Nodup →
      (upd s.dq t s.q x ≠ [] → p.inStop = true) → (p.inCv = true → (s.pc x).inCv = true) →
      ((s.pc x).inCv = true → p.inCv = true) →
      (upd s.tmp t s.threads x ≠ [] → p.joining = true) → Here (stepStopCS s t isD).1 x p →
      Local c (stepStopCS s t isD).1 x p := by
    intro x q p hp hpq hd h1 h2 h3 h3' h4 h5
    rcases hpq with rfl | ⟨rfl, rfl⟩ <;> exact { hp with
      here := h5
      l_held := fun j => hloc (hp.l_held j) nofun nofun
      l_rej := fun j => hloc (hp.l_rej j) nofun nofun
      l_dqnd := h1
      l_dqpc := h2
      s_wq_pc := nofun
      s_woken := fun e => h3' (hwk e)
      s_cv := fun e => Or.inl (by
        rcases (h.th x).s_cv (h3 e) with e | e
        · exact Bool.or_eq_true_iff.2 (Or.inl e)
        · exact Bool.or_eq_true_iff.2 (Or.inr (List.contains_iff_mem.2 e)))
      a_mem := nofun
      n_noexit := nofun
      s_tmp_pc := h4
      s_tmp_w := fun u m => by
        dsimp only [stepStopCS] at m; rw [upd_apply] at m; split at m
        · exact h.j_thrw u m
        · exact hp.s_tmp_w u m
      j_all := fun _ w => by
        cases hx : s.exit
        · exact Or.inr (Or.inr ⟨t, by dsimp only [stepStopCS]; rw [upd_same]; exact h.j_thr hx x w⟩)
        · rcases (h.th x).j_all hx w with e | e | ⟨u, e⟩
          · exact Or.inl (hd e)
          · exact Or.inr (Or.inl e)
          · exact Or.inr (Or.inr ⟨u, by
              dsimp only [stepStopCS]; rwa [upd_other _ _ _ _ (htmo (List.ne_nil_of_mem e))]⟩) }
  exact { h with
    th := th_upd
      (hall t _ _ hl (Or.inr ⟨rfl, rfl⟩) (fun e => by rw [hpc] at e; cases e) (by rw [upd_same]; exact h.l_qnd) (fun _ => rfl) nofun
        (fun e => by rw [hpc] at e; cases e) (fun _ => rfl) rfl)
      fun x hx => hall x _ _ (h.th x) (Or.inl rfl) id (by rw [upd_other _ _ _ _ hx]; exact (h.th x).l_dqnd)
        (by rw [upd_other _ _ _ _ hx]; exact (h.th x).l_dqpc) id id
        (by rw [upd_other _ _ _ _ hx]; exact (h.th x).s_tmp_pc)
        ((h.th x).here.frame (fun _ => rfl) id
          (fun e => by have := (h.th x).m_own.2 e; rw [hmx] at this; cases this) (upd_other _ _ _ _ hx) rfl)
    jb := fun j => by
      dsimp only [stepStopCS]
      split
      · rename_i e
        exact { (h.jb j).move (v := Loc.swapped t) ((hqc j).1 e) nofun nofun nofun nofun with x_drop_exit := fun _ => rfl }
      · exact { h.jb j with x_drop_exit := fun _ => rfl }
    l_q := fun j => ⟨nofun, fun e => by
      dsimp only [stepStopCS] at e; split at e
      · cases e
      · rename_i ne; exact absurd ((hqc j).2 e) ne⟩
    l_qnd := List.nodup_nil
    l_swap := fun u j => by
      have h1 := hqc j
      have h2 := h.l_swap u j
      have h3 := h.l_swap t j
      have h4 := h.l_q j
      simp only [stepStopCS, upd_apply]
      grind
    x_exit_q := fun _ => rfl
    s_exit_wq := fun _ => rfl
    s_wqnd := List.nodup_nil
    a_nd := nofun
    a_len := nofun
    s_tmp_uniq := fun a b ha hb => by
      dsimp only [stepStopCS] at ha hb
      by_cases hthr : s.threads = []
      · rw [hthr] at ha hb
        have ea : a ≠ t := fun e => by subst e; rw [upd_same] at ha; exact ha rfl
        have eb : b ≠ t := fun e => by subst e; rw [upd_same] at hb; exact hb rfl
        rw [upd_other _ _ _ _ ea] at ha; rw [upd_other _ _ _ _ eb] at hb
        exact h.s_tmp_uniq a b ha hb
      · have := h.s_thr_tmp hthr
        have ea : a = t := Classical.byContradiction fun e => by rw [upd_other _ _ _ _ e] at ha; exact ha (this a)
        have eb : b = t := Classical.byContradiction fun e => by rw [upd_other _ _ _ _ e] at hb; exact hb (this b)
        rw [ea, eb]
    s_thr_tmp := fun e => absurd rfl e
    j_thr := nofun
    j_thr0 := fun _ => rfl
    j_thrw := nofun
    d_exit := fun _ => rfl }

/-- `stop()` takes the first entry `u` off its thread list: a thread it has joined, or itself (then it detaches:
`cur'`, `det'`) -/
theorem inv_joinPop {t u : Nat} {rest : List Nat} {cur' det' : Nat → Bool} (h : Inv c s)
    (hpc : s.pc t = Pc.stopJoin) (htm : s.tmp t = u :: rest) (hj : (s.pc u).isDone = true ∨ det' u = true)
    (hdet : ∀ x, s.detached x = true → det' x = true)
    (hz : ∀ x, det' x = true → cur' x = false ∧ (s.pc x).isLoop = false)
    (hc : ∀ x, x < c.nw → cur' x = false → det' x = true) :
    Inv c { s with tmp := upd s.tmp t rest, cur := cur', detached := det' } := by
  have hl := h.thAt hpc
  have hex : s.exit = true := hl.here
  have hne : ∀ a, upd s.tmp t rest a ≠ [] → s.tmp a ≠ [] := fun a e => by
    rw [upd_apply] at e; split at e
    · rename_i e'; rw [e', htm]; nofun
    · exact e
  have hja : ∀ x, s.exit = true → x < c.nw →
      (s.pc x).isDone = true ∨ det' x = true ∨ ∃ u', x ∈ upd s.tmp t rest u' := fun x e w => by
    rcases (h.th x).j_all e w with e | e | ⟨u', e⟩
    · exact Or.inl e
    · exact Or.inr (Or.inl (hdet x e))
    · by_cases hu : u' = t
      · subst hu; rw [htm] at e
        rcases List.mem_cons.1 e with e | e
        · subst e; exact hj.imp_right Or.inl
        · exact Or.inr (Or.inr ⟨u', by rwa [upd_same]⟩)
      · exact Or.inr (Or.inr ⟨u', by rwa [upd_other _ _ _ _ hu]⟩)
  exact { h with
    th := th_at hpc
      { hl with
        n_noexit := fun e => by rw [hex] at e; cases e
        s_tmp_pc := fun _ => rfl
        s_tmp_w := fun u' m => hl.s_tmp_w u' (by
          dsimp only at m; rw [upd_same] at m; rw [htm]; exact List.mem_cons_of_mem _ m)
        j_all := hpc ▸ hja t
        z_det := hpc ▸ hz t
        z_cur := hc t }
      fun x hx => { h.th x with
        here := (h.th x).here.frame id id (fun _ => ⟨rfl, rfl⟩) (upd_other _ _ _ _ hx) rfl
        n_noexit := fun e => by rw [hex] at e; cases e
        s_tmp_pc := fun e => (h.th x).s_tmp_pc (hne x e)
        s_tmp_w := fun u' m => (h.th x).s_tmp_w u' (by dsimp only at m; rwa [upd_other _ _ _ _ hx] at m)
        j_all := hja x
        z_det := hz x
        z_cur := hc x }
    s_tmp_uniq := fun a b ha hb => h.s_tmp_uniq a b (hne a ha) (hne b hb)
    s_thr_tmp := fun e => absurd (h.j_thr0 hex) e }

theorem inv_stopJoin {t : Nat} (h : Inv c s) (hpc : s.pc t = Pc.stopJoin) :
    Inv c (stepStopJoin s t).1 := by
  have hl := h.thAt hpc
  unfold stepStopJoin
  split
  · rename_i htm
    exact h.move { hl with s_tmp_pc := fun e => absurd htm e }
  · rename_i u rest htm
    split
    · rename_i hut
      subst hut
      exact inv_joinPop h hpc htm (Or.inr (upd_same _ _ _))
        (fun x e => by rw [upd_apply]; split <;> first | rfl | exact e)
        (fun x e => by
          rw [upd_apply] at e; split at e
          · rename_i e'; subst e'; exact ⟨upd_same _ _ _, by rw [hpc]; rfl⟩
          · rename_i ne; rw [upd_other _ _ _ _ ne]; exact (h.th x).z_det e)
        (fun x w e => by
          rw [upd_apply] at e ⊢; split
          · rfl
          · rename_i ne; rw [if_neg ne] at e; exact (h.th x).z_cur w e)
    · split
      · rename_i hdone
        exact inv_joinPop h hpc htm (Or.inl (by rw [hdone]; rfl)) (fun _ => id) (fun x => (h.th x).z_det)
          fun x => (h.th x).z_cur
      · rename_i hut _
        exact h.move { hl with here := ⟨hl.here, by rw [htm]; exact fun e => hut (Option.some.inj e)⟩ }

theorem inv_joinBlocked {t : Nat} (h : Inv c s) (hpc : s.pc t = Pc.joinBlocked)
    (hen : enabledPc s t = true) : Inv c (stepJoinBlocked s t).1 := by
  have hl := h.thAt hpc
  have hm : Inv c (setPc s t Pc.stopJoin) := h.move { hl with here := hl.here.1 }
  unfold stepJoinBlocked
  split
  · exact hm
  · rename_i u rest htm
    have hut : u ≠ t := fun e => hl.here.2 (by rw [htm, e]; rfl)
    have hdone : s.pc u = Pc.done := by
      simp only [enabledPc, hpc, htm, beq_iff_eq] at hen
      exact hen
    have hdone' : (setPc s t Pc.stopJoin).pc u = Pc.done := (upd_other _ _ _ _ hut).trans hdone
    exact inv_joinPop hm (upd_same _ _ _) htm (Or.inl (by rw [hdone']; rfl)) (fun _ => id) (fun x => (hm.th x).z_det)
      fun x => (hm.th x).z_cur

theorem inv_destroyed (h : Inv c s) (hex : s.exit = true) (d : Nat → Bool) :
    Inv c { s with destroyed := true, dtor := d } :=
  { h with th := fun x => { h.th x with }, d_exit := fun _ => hex }

theorem inv_stopDrop {t k : Nat} (h : Inv c s) (hpc : s.pc t = Pc.stopDrop) :
    Inv c (stepStopDrop c s t k).1 := by
  have hl := h.thAt hpc
  have hex : s.exit = true := hl.here
  unfold stepStopDrop
  rcases pick_cases (s.dq t) k with ⟨hdq, hp⟩ | ⟨j, hj, hp⟩ <;> rw [hp] <;> dsimp only
  · have hi : Local c s t Pc.idle := { hl with here := trivial, l_dqpc := fun e => absurd hdq e }
    split
    · exact (inv_destroyed h hex _).move { hi with }
    · exact h.move hi
  · generalize hrest : (s.dq t).erase j = rest
    have hloc : s.loc j = Loc.swapped t := (h.l_swap t j).1 hj
    obtain ⟨dr, ca, lo, fu, D, DO, he, hDn, hDr, hDm, hjb, hpf⟩ :=
      h.dropJob t hex hloc nofun nofun (upd s.dq t rest)
    rw [he]
    exact { h with
      th := th_at hpc
        { hl with
          l_held := fun j' => iff_loc_upd (hl.l_held j') hloc nofun nofun
          l_rej := fun j' => iff_loc_upd (hl.l_rej j') hloc nofun nofun
          l_dqnd := by dsimp only; rw [upd_same, ← hrest]; exact hl.l_dqnd.erase j
          l_dqpc := fun _ => rfl
          r_body := fun j' e k d => hl.r_body j' e k (hpf j' d (hl.r_job j' e))
          b_defnd := by dsimp only; rw [upd_same]; exact hDn
          b_defpc := by dsimp only; rw [upd_same]; exact fun e => ⟨hDr e, rfl⟩ }
        fun x hx => (h.th x).dropOther hloc nofun nofun (upd_other _ _ _ _ hx) (upd_other _ _ _ _ hx) hpf
      jb := hjb
      l_q := fun j' => iff_loc_upd (h.l_q j') hloc nofun nofun
      l_swap := fun u j' => by
        have := h.l_swap u j'
        have : j' ∈ rest ↔ j' ≠ j ∧ j' ∈ s.dq t := hrest ▸ hl.l_dqnd.mem_erase_iff
        simp only [upd_apply]
        grind
      b_defer := hDm
      f_pending := fun j' a r d => h.f_pending j' a r (hpf j' d r) }

theorem inv_bStopCS {t : Nat} {isD : Bool} (h : Inv c s) (hpc : s.pc t = Pc.bStopCS isD) :
    Inv c (stepBStopCS s t isD).1 := by
  have hl := h.thAt hpc
  exact { h with
    th := th_upd
      { hl with
        here := rfl
        bb_tmp := fun e => h.bb_ht (by dsimp only [stepBStopCS] at e; rwa [upd_same] at e) }
      fun x hx => { h.th x with
        here := (h.th x).here.frame id (fun _ => rfl) (fun _ => ⟨rfl, rfl⟩) rfl (upd_other _ _ _ _ hx)
        bb_tmp := fun e => (h.th x).bb_tmp (by dsimp only [stepBStopCS] at e; rwa [upd_other _ _ _ _ hx] at e) }
    bb_exit := fun _ => rfl
    bb_ht := nofun }

theorem inv_bJoined {t : Nat} (h : Inv c s) (hpc : s.pc t = Pc.bStopJoin) :
    Inv c { s with btmp := upd s.btmp t false } :=
  { h with
    th := th_at hpc
      { h.thAt hpc with
        bb_tmp := fun e => by dsimp only at e; rw [upd_same] at e; cases e }
      fun x hx => { h.th x with
        here := (h.th x).here.frame id id (fun _ => ⟨rfl, rfl⟩) rfl (upd_other _ _ _ _ hx)
        bb_tmp := fun e => (h.th x).bb_tmp (by dsimp only at e; rwa [upd_other _ _ _ _ hx] at e) } }

theorem inv_bStopJoin {t : Nat} (h : Inv c s) (hpc : s.pc t = Pc.bStopJoin) :
    Inv c (stepBStopJoin s t).1 := by
  have hl := h.thAt hpc
  have hi : Local c s t Pc.idle := { hl with here := trivial }
  unfold stepBStopJoin
  split
  · rename_i hbt
    split
    · exact inv_bJoined h hpc
    · exact h.move { hl with here := ⟨hl.here, hbt⟩ }
  · split
    · exact (h.unread : Inv c { s with bdtor := upd s.bdtor t false, bDestroyed := true }).move { hi with }
    · exact h.move hi

theorem inv_bJoinBlocked {t : Nat} (h : Inv c s) (hpc : s.pc t = Pc.bJoinBlocked) :
    Inv c (stepBJoinBlocked s t).1 := by
  have hl := h.thAt hpc
  exact inv_bJoined (h.move (p := Pc.bStopJoin) { hl with here := hl.here.1 }) (upd_same _ _ _)

end Cocls.Pool
