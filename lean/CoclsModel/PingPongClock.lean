import CoclsModel.Clock

/-
Happens-before machine for C03: the generator's synchronous step on an asynchronous body (generator.h,
`promise_type::next_sync` / `unblock_sync`), REPEATED any number of times on the same `_block` flag and the same promise fields.

One round, as the code is (generator.h:215-232, 119-122):

  caller thread C (`next_sync`):   plain writes to the promise (`_caller = &_internal`, `set_resume_fn`, the argument, clearing /
                                   destroying the previous value …)                                         \
                                   `_block.store(false, relaxed)`                           (line 223)       } `stepReset`
                                   `resume_in_queue(h)`: the body runs ON C's THREAD                         /  → `CPc.body`
  the body                         plain reads / writes of the promise (`_ret`, `_exp`, `_done`, `*_arg` …)   `doRead`, `doWrite`
                                   either reaches `co_yield` / the end on the thread it is on:
                                     writes the yielded value / done state (plain), then `unblock_sync`:
                                     `_block.store(true, oS)`; `notify_all`                 (line 120)        `stepYieldC/B`
                                   or suspends at an inner `co_await` and is later resumed on ANOTHER thread  `stepHopC/B`
                                     MODELLED ASSUMPTION: that hand-over synchronises (whatever resumes the body — a future's
                                     resolver, a thread pool, the scheduler — publishes the suspended coroutine by one of C03's
                                     other protocols): the receiving thread's clock becomes the join of its own and the
                                     suspending thread's, which then starts a new epoch.  `Cfg.hop` says which hops exist.
  caller C:                        `_block.wait(false, oW)`: a load; returns when it reads `true`            `stepWait` → `CPc.read`
                                   reads the value (plain)                                                    `stepRead` → `CPc.start`

`stepReset` performs its one plain write before the store; in `next_sync` itself `_caller = &_internal` and `set_resume_fn` (lines
225-227) come after it.  Nothing is published through the reset store (see below), so where in the step the writes stand is immaterial.

`notify_all` carries no ordering (blocking is scheduling: a blocked caller is a caller that is not scheduled, or whose load read
`false`).  The body is ONE coroutine, so its control is one token: `bodyAt = some u` (running on thread `u ≠ C`), or it runs on C's
own thread (`cpc = body`), or it is suspended at a `co_yield` (`bodyAt = none`, `cpc ≠ body`).  C cannot run the body while it is
blocked in `wait`, hence hops never target C.

STALE READS — decided from the C++ semantics, not assumed away.  `_block`'s modification order over the rounds is
`init(false), false₁, true₁, false₂, true₂, …`.  Could round k's `wait` return on `true_{k-1}` because the relaxed reset store
`false_k` "is not yet visible"?  No: `false_k` is a side effect of C itself, sequenced before the `wait` in the same thread, so by
write-read coherence ([intro.races]/18: a value computation that happens after a side effect X on the same atomic object takes its
value from X or from a side effect later than X in the modification order) the load reads `false_k` or something newer — whatever the
order of the store is; no other thread needs to have seen `false_k` for that.  The machine has exactly this rule: `doStore` raises
the storing thread's `seen` to its own message and `doLoad` reads any message at index `≥ seen` (`readIdx`, the schedule chooses):
`reset_hides_older`.  What the load MAY do is read `false_k` although `true_k` is already there (the caller then blocks / polls
again); and `true_k` is never older than `false_k` in the modification order because the body's store happens after the reset
(sequenced-before on C's thread, then the hop chain) — write-write coherence; in the machine the history is in execution order.
Why the RELAXED reset suffices: nothing is published through `false_k`.  The body sees the caller's preparations because it is
resumed by the caller on the caller's own thread or reaches another thread through the synchronising hop chain; a reader of
`false_k` acquires nothing and needs nothing (it does not proceed).  As a plain store `false_k` also CUTS the release sequences of
the earlier rounds — harmless for the same reason.

Ghost: `log` = epochs of all plain accesses ever made to the promise's fields (modelled as one location); never consulted by `step`.

Results: `pingpong_race_free` (all round counts, hop chains, schedules, stale-read choices, ANY reset order),
`pingpong_race_free_iff` (⇔ `oS ⊇ release ∧ oW ⊇ acquire`), `pingpong_caller_sees_round`.

NOT modelled: the asynchronous access path (`next_future`, `unblock_future`: promise/future protocol, C01/C02/C03's chain), two
callers using one generator at once (excluded by the library: "Generator is busy" assert), the caller role moving to another thread
between two rounds (one more synchronising hand-over, of the generator object itself), destruction of the generator while the body
runs, and everything `Clock.lean` does not model.
-/

namespace Cocls.PingPong
open Cocls.Clock

/-- the orders written in the source at the three sites of the protocol -/
structure PingPongOrders where
  reset : Order   -- `_block.store(false, ·)` in `next_sync` (relaxed in the source)
  set : Order     -- `oS`: `_block.store(true, ·)` in `unblock_sync`
  wait : Order    -- `oW`: `_block.wait(false, ·)` in `next_sync`
  deriving DecidableEq, Repr, Inhabited

/-- `unblock_sync`'s store ⊇ release ∧ `next_sync`'s wait ⊇ acquire; nothing about the reset store -/
def PingPongOrders.sufficient (o : PingPongOrders) : Bool := o.set.isRel && o.wait.isAcq

/-- where the caller thread is in `next_sync`: before the reset store / running the body itself / in `_block.wait` / about to read
the value -/
inductive CPc where
  | start | body | wait | read
  deriving DecidableEq, Repr, Inhabited

/-- `hist` is `_block`'s modification order (value 0 = false, 1 = true); `wr rd` the FastTrack record of the promise's fields;
`bodyAt` the thread (≠ caller) the body currently runs on -/
structure St where
  clk : Nat → VC
  seen : Nat → Nat
  hist : List Msg
  cpc : CPc
  bodyAt : Option Nat
  wr : Nat × Nat
  rd : List (Nat × Nat)
  log : List (Nat × Nat)
  raced : Bool

def St.init : St :=
  { clk := VC.init, seen := fun _ => 0, hist := [Msg.init], cpc := CPc.start, bodyAt := none, wr := (0, 0), rd := [], log := [],
    raced := false }

def setCpc (s : St) (p : CPc) : St := { s with cpc := p }
def setBody (s : St) (b : Option Nat) : St := { s with bodyAt := b }

def readIdx (s : St) (t c : Nat) : Nat := min (s.seen t + c) (s.hist.length - 1)
def readMsg (s : St) (t c : Nat) : Msg := s.hist.getD (readIdx s t c) Msg.init

def doLoad (ord : Order) (s : St) (t c : Nat) : St :=
  { s with
    seen := upd s.seen t (readIdx s t c)
    clk := upd s.clk t (acqVc ord (s.clk t) (readMsg s t c).relSeqVc) }

def doStore (ord : Order) (v : Nat) (s : St) (t : Nat) : St :=
  { s with
    hist := s.hist ++ [⟨v, relVc ord (s.clk t), relVc ord (s.clk t)⟩]
    seen := upd s.seen t s.hist.length
    clk := upd s.clk t (tickIf ord (s.clk t) t) }

def ordW (s : St) (t : Nat) : Bool := decide (s.wr.2 ≤ s.clk t s.wr.1)
def ordR (s : St) (t : Nat) : Bool := s.rd.all (fun e => decide (e.2 ≤ s.clk t e.1))

def doRead (s : St) (t : Nat) : St :=
  { s with
    rd := (t, s.clk t t) :: s.rd
    log := (t, s.clk t t) :: s.log
    raced := s.raced || !ordW s t }

def doWrite (s : St) (t : Nat) : St :=
  { s with
    wr := (t, s.clk t t)
    rd := []
    log := (t, s.clk t t) :: s.log
    raced := s.raced || !(ordW s t && ordR s t) }

/-- the assumed synchronising hand-over of the suspended body from thread `t` to thread `u` -/
def doHop (s : St) (t u : Nat) : St :=
  { s with clk := upd (upd s.clk u (VC.join (s.clk u) (s.clk t))) t (VC.tick (s.clk t) t) }

/-- `hop t u`: the body may move from thread `t` to thread `u` -/
structure Cfg where
  caller : Nat
  hop : Nat → Nat → Bool

def stepReset (o : PingPongOrders) (s : St) (t : Nat) : St := setCpc (doStore o.reset 0 (doWrite s t) t) CPc.body
def stepYieldC (o : PingPongOrders) (s : St) (t : Nat) : St := setCpc (doStore o.set 1 (doWrite s t) t) CPc.wait
def stepYieldB (o : PingPongOrders) (s : St) (t : Nat) : St := setBody (doStore o.set 1 (doWrite s t) t) none
def stepHopC (s : St) (t u : Nat) : St := setBody (setCpc (doHop s t u) CPc.wait) (some u)
def stepHopB (s : St) (t u : Nat) : St := setBody (doHop s t u) (some u)
def stepWait (o : PingPongOrders) (s : St) (t c : Nat) : St :=
  setCpc (doLoad o.wait s t c) (if (readMsg s t c).val = 0 then CPc.wait else CPc.read)
def stepRead (s : St) (t : Nat) : St := setCpc (doRead s t) CPc.start

/-- the body on the caller's thread: choice 0/1 = plain read / write, 2 = yield, `u + 3` = suspend and continue on thread `u` -/
def stepBodyC (o : PingPongOrders) (cfg : Cfg) (s : St) (c : Nat) : St :=
  match c with
  | 0 => doRead s cfg.caller
  | 1 => doWrite s cfg.caller
  | 2 => stepYieldC o s cfg.caller
  | u + 3 => if cfg.hop cfg.caller u = true ∧ u ≠ cfg.caller then stepHopC s cfg.caller u else s

/-- the body on thread `t ≠ caller`: same choices; a hop never targets the (blocked) caller -/
def stepBodyB (o : PingPongOrders) (cfg : Cfg) (s : St) (t c : Nat) : St :=
  match c with
  | 0 => doRead s t
  | 1 => doWrite s t
  | 2 => stepYieldB o s t
  | u + 3 => if cfg.hop t u = true ∧ u ≠ cfg.caller ∧ u ≠ t then stepHopB s t u else s

def stepCaller (o : PingPongOrders) (cfg : Cfg) (s : St) (c : Nat) : St :=
  match s.cpc with
  | CPc.start => stepReset o s cfg.caller
  | CPc.body => stepBodyC o cfg s c
  | CPc.wait => stepWait o s cfg.caller c
  | CPc.read => stepRead s cfg.caller

/-- one schedule entry `(tid, choice)`; a thread with nothing to do stutters -/
def step (o : PingPongOrders) (cfg : Cfg) (s : St) (e : Nat × Nat) : St :=
  if e.1 = cfg.caller then stepCaller o cfg s e.2
  else if s.bodyAt = some e.1 then stepBodyB o cfg s e.1 e.2
  else s

def run (o : PingPongOrders) (cfg : Cfg) (sched : List (Nat × Nat)) : St := sched.foldl (step o cfg) St.init

theorem getD_mem_drop {α : Type} {l : List α} {i j : Nat} (hij : i ≤ j) (hj : j < l.length) (d : α) :
    l.getD j d ∈ l.drop i := by
  rw [List.getD_eq_getElem?_getD, List.getElem?_eq_getElem hj, Option.getD_some]
  rw [List.mem_drop_iff_getElem]
  exact ⟨j - i, by omega, by congr 1; omega⟩

/-- The token argument.  The right to touch the promise's fields is with the caller whenever it is not in `wait` (`tokC`), with the
thread the body runs on (`tokB`, never the caller: `notC`), or — body suspended at its `co_yield`, caller still in `wait` — in the
`true` message the caller can still read (`msg`).  Of the messages the caller can still read (`hist.drop (seen caller)`: coherence)
none is `true` while the body is still running (`zero`), so `wait` cannot return early; all FastTrack records are in the ghost log. -/
structure Inv (cfg : Cfg) (s : St) : Prop where
  nr : s.raced = false
  seenlt : s.seen cfg.caller < s.hist.length
  wrlog : s.wr.2 = 0 ∨ s.wr ∈ s.log
  rdlog : ∀ e ∈ s.rd, e ∈ s.log
  tokC : s.cpc ≠ CPc.wait → s.bodyAt = none ∧ ∀ e ∈ s.log, e.2 ≤ s.clk cfg.caller e.1
  notC : ∀ u, s.bodyAt = some u → u ≠ cfg.caller
  tokB : ∀ u, s.bodyAt = some u → ∀ e ∈ s.log, e.2 ≤ s.clk u e.1
  zero : (s.cpc = CPc.body ∨ s.bodyAt ≠ none) → ∀ m ∈ s.hist.drop (s.seen cfg.caller), m.val = 0
  msg : s.cpc = CPc.wait → s.bodyAt = none →
    ∀ m ∈ s.hist.drop (s.seen cfg.caller), m.val ≠ 0 → ∀ e ∈ s.log, e.2 ≤ m.relSeqVc e.1

/-- the goal on which the lemmas below prove all clauses by one `grind` call -/
theorem Inv.of_and {cfg : Cfg} {s : St}
    (h : s.raced = false ∧
      s.seen cfg.caller < s.hist.length ∧
      (s.wr.2 = 0 ∨ s.wr ∈ s.log) ∧
      (∀ e ∈ s.rd, e ∈ s.log) ∧
      (s.cpc ≠ CPc.wait → s.bodyAt = none ∧ ∀ e ∈ s.log, e.2 ≤ s.clk cfg.caller e.1) ∧
      (∀ u, s.bodyAt = some u → u ≠ cfg.caller) ∧
      (∀ u, s.bodyAt = some u → ∀ e ∈ s.log, e.2 ≤ s.clk u e.1) ∧
      ((s.cpc = CPc.body ∨ s.bodyAt ≠ none) → ∀ m ∈ s.hist.drop (s.seen cfg.caller), m.val = 0) ∧
      (s.cpc = CPc.wait → s.bodyAt = none →
        ∀ m ∈ s.hist.drop (s.seen cfg.caller), m.val ≠ 0 → ∀ e ∈ s.log, e.2 ≤ m.relSeqVc e.1)) : Inv cfg s :=
  let ⟨a, b, c, d, e, f, g, h, i⟩ := h
  ⟨a, b, c, d, e, f, g, h, i⟩

theorem inv_init (cfg : Cfg) : Inv cfg St.init := by
  constructor <;> simp [St.init, Msg.init]

/-! One lemma per primitive.  Each unfolds it to a record update; what remains of every clause is a case analysis on the `upd`ated
thread and on the orders. -/

theorem inv_doRead {cfg : Cfg} {s : St} (h : Inv cfg s) {t : Nat}
    (ht : (t = cfg.caller ∧ s.cpc ≠ CPc.wait) ∨ s.bodyAt = some t) : Inv cfg (doRead s t) := by
  cases h
  refine .of_and ?_
  simp only [doRead, ordW]
  grind

theorem inv_doWrite {cfg : Cfg} {s : St} (h : Inv cfg s) {t : Nat}
    (ht : (t = cfg.caller ∧ s.cpc ≠ CPc.wait) ∨ s.bodyAt = some t) : Inv cfg (doWrite s t) := by
  cases h
  refine .of_and ?_
  simp only [doWrite, ordW, ordR]
  grind

theorem inv_resetStore {cfg : Cfg} {s : St} (h : Inv cfg s) (ord : Order) (hp : s.cpc ≠ CPc.wait) :
    Inv cfg (setCpc (doStore ord 0 s cfg.caller) CPc.body) := by
  cases h
  refine .of_and ?_
  simp only [setCpc, doStore, upd_same, List.drop_left, List.mem_singleton, forall_eq]
  grind [upd_apply2, le_tickIf]

theorem inv_yieldStoreC {cfg : Cfg} {s : St} (h : Inv cfg s) {ord : Order} (ho : ord.isRel = true) (hp : s.cpc ≠ CPc.wait) :
    Inv cfg (setCpc (doStore ord 1 s cfg.caller) CPc.wait) := by
  cases h
  refine .of_and ?_
  simp only [setCpc, doStore, upd_same, List.drop_left, List.mem_singleton, forall_eq]
  grind [upd_apply2, le_relVc, le_tickIf]

theorem inv_yieldStoreB {cfg : Cfg} {s : St} (h : Inv cfg s) {ord : Order} (ho : ord.isRel = true) {u : Nat}
    (hp : s.bodyAt = some u) : Inv cfg (setBody (doStore ord 1 s u) none) := by
  have hne : cfg.caller ≠ u := fun hc => h.notC u hp hc.symm
  have hz := h.zero (Or.inr (by rw [hp]; simp))
  have seenlt := h.seenlt
  cases h
  refine .of_and ?_
  simp only [setBody, doStore, upd_other _ _ hne, List.drop_append_of_le_length (Nat.le_of_lt seenlt), List.mem_append,
      List.mem_singleton, List.length_append, List.length_singleton, or_imp, forall_and, forall_eq]
  grind [upd_apply, upd_apply2, le_relVc, le_tickIf]

theorem inv_hopC {cfg : Cfg} {s : St} (h : Inv cfg s) {u : Nat} (hp : s.cpc = CPc.body) (hne : u ≠ cfg.caller) :
    Inv cfg (stepHopC s cfg.caller u) := by
  cases h
  refine .of_and ?_
  simp only [stepHopC, setBody, setCpc, doHop]
  grind [le_hop, le_hop_recv]

theorem inv_hopB {cfg : Cfg} {s : St} (h : Inv cfg s) {t u : Nat} (hp : s.bodyAt = some t) (hne : u ≠ cfg.caller) :
    Inv cfg (stepHopB s t u) := by
  have hne : cfg.caller ≠ t := fun hc => h.notC t hp hc.symm
  cases h
  refine .of_and ?_
  simp only [stepHopB, setBody, doHop]
  grind [le_hop, le_hop_recv]

theorem inv_read {cfg : Cfg} {s : St} (h : Inv cfg s) (hp : s.cpc = CPc.read) : Inv cfg (stepRead s cfg.caller) := by
  cases h
  refine .of_and ?_
  simp only [stepRead, setCpc, doRead, ordW]
  grind

theorem readIdx_facts {cfg : Cfg} {s : St} (h : Inv cfg s) (c : Nat) :
    readIdx s cfg.caller c < s.hist.length ∧ readMsg s cfg.caller c ∈ s.hist.drop (s.seen cfg.caller) ∧
      ∀ m ∈ s.hist.drop (readIdx s cfg.caller c), m ∈ s.hist.drop (s.seen cfg.caller) := by
  have hl := h.seenlt
  have h1 : readIdx s cfg.caller c < s.hist.length := by unfold readIdx; omega
  have h2 : s.seen cfg.caller ≤ readIdx s cfg.caller c := by unfold readIdx; omega
  exact ⟨h1, getD_mem_drop h2 h1 _, fun _ hm => List.drop_subset_drop_left _ h2 hm⟩

theorem inv_wait {o : PingPongOrders} {cfg : Cfg} {s : St} (h : Inv cfg s) (ho : o.wait.isAcq = true) (c : Nat)
    (hp : s.cpc = CPc.wait) : Inv cfg (stepWait o s cfg.caller c) := by
  obtain ⟨hi, hm, hsub⟩ := readIdx_facts h c
  have hrm0 : s.bodyAt ≠ none → (readMsg s cfg.caller c).val = 0 := fun hb => h.zero (Or.inr hb) _ hm
  have hrm1 : s.bodyAt = none → (readMsg s cfg.caller c).val ≠ 0 →
      ∀ e ∈ s.log, e.2 ≤ (readMsg s cfg.caller c).relSeqVc e.1 := fun hb hv => h.msg hp hb _ hm hv
  cases h
  refine .of_and ?_
  simp only [stepWait, setCpc, doLoad, upd_same]
  generalize readMsg s cfg.caller c = rm at *
  generalize readIdx s cfg.caller c = ri at *
  grind [upd_apply, upd_apply2, le_acqVc, le_acqVc_msg]

theorem inv_step {o : PingPongOrders} (cfg : Cfg) (hS : o.set.isRel = true) (hW : o.wait.isAcq = true) {s : St}
    (h : Inv cfg s) (e : Nat × Nat) : Inv cfg (step o cfg s e) := by
  unfold step
  split
  · unfold stepCaller
    split
    · next hpc =>
      have hw : s.cpc ≠ CPc.wait := by rw [hpc]; decide
      exact inv_resetStore (inv_doWrite h (.inl ⟨rfl, hw⟩)) _ hw
    · next hpc =>
      have hw : s.cpc ≠ CPc.wait := by rw [hpc]; decide
      unfold stepBodyC
      split
      · exact inv_doRead h (.inl ⟨rfl, hw⟩)
      · exact inv_doWrite h (.inl ⟨rfl, hw⟩)
      · exact inv_yieldStoreC (inv_doWrite h (.inl ⟨rfl, hw⟩)) hS hw
      · split
        · next hc => exact inv_hopC h hpc hc.2
        · exact h
    · next hpc => exact inv_wait h hW _ hpc
    · next hpc => exact inv_read h hpc
  · split
    · next hb =>
      unfold stepBodyB
      split
      · exact inv_doRead h (.inr hb)
      · exact inv_doWrite h (.inr hb)
      · exact inv_yieldStoreB (inv_doWrite h (.inr hb)) hS hb
      · split
        · next hc => exact inv_hopB h hb hc.2.1
        · exact h
    · exact h

theorem sufficient_iff (o : PingPongOrders) : o.sufficient = true ↔ (o.set.isRel = true ∧ o.wait.isAcq = true) := by
  simp only [PingPongOrders.sufficient, Bool.and_eq_true]

theorem inv_run {o : PingPongOrders} (cfg : Cfg) (h : o.sufficient = true) (sched : List (Nat × Nat)) :
    Inv cfg (run o cfg sched) :=
  have ⟨hS, hW⟩ := (sufficient_iff o).mp h
  List.foldlRecOn sched (step o cfg) (inv_init cfg) fun _ h e _ => inv_step cfg hS hW h e

theorem pingpong_race_free (o : PingPongOrders) (h : o.sufficient = true) :
    ∀ (cfg : Cfg) (sched : List (Nat × Nat)), (run o cfg sched).raced = false :=
  fun cfg sched => (inv_run cfg h sched).nr

/-- in particular with the orders of the source: relaxed reset, release set, acquire wait -/
theorem pingpong_relaxed_reset_suffices :
    ∀ (cfg : Cfg) (sched : List (Nat × Nat)), (run ⟨Order.relaxed, Order.release, Order.acquire⟩ cfg sched).raced = false :=
  pingpong_race_free _ rfl

/-- Whenever the caller is not blocked in `wait`, the body is not running anywhere else and the caller has EVERY plain access of all
earlier rounds — its own and the body's, on whatever threads — in its clock. -/
theorem pingpong_caller_sees_round (o : PingPongOrders) (h : o.sufficient = true) (cfg : Cfg) (sched : List (Nat × Nat))
    (hc : (run o cfg sched).cpc ≠ CPc.wait) :
    (run o cfg sched).bodyAt = none ∧ ∀ e ∈ (run o cfg sched).log, e.2 ≤ (run o cfg sched).clk cfg.caller e.1 :=
  (inv_run cfg h sched).tokC hc

theorem pingpong_body_sees_round (o : PingPongOrders) (h : o.sufficient = true) (cfg : Cfg) (sched : List (Nat × Nat)) (u : Nat)
    (hb : (run o cfg sched).bodyAt = some u) :
    u ≠ cfg.caller ∧ ∀ e ∈ (run o cfg sched).log, e.2 ≤ (run o cfg sched).clk u e.1 :=
  ⟨(inv_run cfg h sched).notC u hb, (inv_run cfg h sched).tokB u hb⟩

/-- write-read coherence in the machine: right after the reset store the only message the caller can still read is that store -/
theorem reset_hides_older (o : PingPongOrders) (s : St) (t : Nat) :
    (stepReset o s t).hist.drop ((stepReset o s t).seen t) = [⟨0, relVc o.reset ((doWrite s t).clk t), relVc o.reset ((doWrite s t).clk t)⟩] := by
  simp [stepReset, setCpc, doStore, doWrite]

def cfg0 : Cfg := { caller := 0, hop := fun _ _ => true }

/-- one round whose body finishes on thread 1: reset, hop 0→1, yield on 1, `wait` reads the newest message, read the value -/
def schedRound : List (Nat × Nat) := [(0, 0), (0, 4), (1, 2), (0, 1), (0, 0)]

theorem run_ofBits (o : PingPongOrders) (cfg : Cfg) (sched : List (Nat × Nat)) :
    run ⟨ofBits false o.reset.isRel, ofBits false o.set.isRel, ofBits o.wait.isAcq false⟩ cfg sched = run o cfg sched := by
  have : step ⟨ofBits false o.reset.isRel, ofBits false o.set.isRel, ofBits o.wait.isAcq false⟩ cfg = step o cfg := by
    funext s e
    simp only [step, stepCaller, stepBodyC, stepBodyB, stepReset, stepYieldC, stepYieldB, stepWait, doLoad, doStore,
      relVc_ofBits, acqVc_ofBits, tickIf_ofBits]
  rw [run, this, run]

theorem racy_of_insufficient (o : PingPongOrders) (h : o.sufficient = false) : (run o cfg0 schedRound).raced = true := by
  obtain ⟨r, s, w⟩ := o
  rw [← run_ofBits]
  simp only [PingPongOrders.sufficient] at h ⊢
  generalize r.isRel = rr, s.isRel = sr, w.isAcq = wa at h ⊢
  cases rr <;> cases sr <;> cases wa <;> first | (simp at h; done) | rfl

theorem pingpong_needs_release :
    (run ⟨Order.relaxed, Order.relaxed, Order.acquire⟩ cfg0 schedRound).raced = true := racy_of_insufficient _ rfl

theorem pingpong_needs_acquire :
    (run ⟨Order.relaxed, Order.release, Order.relaxed⟩ cfg0 schedRound).raced = true := racy_of_insufficient _ rfl

/-- the orders of the source on the same schedule; and a `wait` that reads its own reset store (choice 0) does not proceed -/
example : (run ⟨Order.relaxed, Order.release, Order.acquire⟩ cfg0 schedRound).raced = false
    ∧ (run ⟨Order.relaxed, Order.release, Order.acquire⟩ cfg0 schedRound).cpc = CPc.start
    ∧ (run ⟨Order.relaxed, Order.release, Order.acquire⟩ cfg0 [(0, 0), (0, 4), (1, 2), (0, 0)]).cpc = CPc.wait := by decide

theorem pingpong_race_free_iff (o : PingPongOrders) :
    (∀ (cfg : Cfg) (sched : List (Nat × Nat)), (run o cfg sched).raced = false) ↔ (o.set.isRel = true ∧ o.wait.isAcq = true) := by
  rw [← sufficient_iff]
  refine ⟨fun h => ?_, pingpong_race_free o⟩
  cases hs : o.sufficient
  · have hr := racy_of_insufficient o hs
    rw [h] at hr
    cases hr
  · rfl

end Cocls.PingPong
