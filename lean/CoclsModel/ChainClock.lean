import CoclsModel.Clock
import CoclsModel.Chain

/-!
Happens-before machine UNDER the micro-step model of the promise / future / awaiter chain (C03).

`Chain.lean` says which atomic operation every agent (resolver call, destructor, `~promise_with_default`, coroutine / blocking /
callback / `has_value` waiter) performs next and what it observes.  This file runs the very same agents, pcs and steps
(`St.base` IS a `Chain.State`, advanced by `Chain.astep` except at the two stale-read steps described below) and instruments
every step with the happens-before state of `Clock.lean` — for ALL locations of the protocol at once:

* per agent (= thread; every agent on a thread of its own is the worst case, putting two agents on one thread only adds
  happens-before edges) a vector clock `clk t` and a pending-acquire clock `pend t` (`Clock.VC`, `relVc`, `acqVc`, `tickIf`);
* per ATOMIC location what an acquiring reader of the message it reads obtains (release-sequence clock; an RMW of any thread
  continues the sequence, a store heads a new one):
  `_awaiter` (the slot): `slotRs` for the modification-order-latest message, `slotOld` the older messages
  (`(is the ready marker, release-sequence clock)`, oldest first) for stale loads; `_owner`: `ownerRs`; the `flag` of every blocking
  waiter `x`: `flagRs x` (clock of the `true` message; the initial `false` message carries nothing);
* per NON-ATOMIC location FastTrack metadata `FT` (last-write epoch, read epochs since): `pay` (the payload
  `_state/_value/_exception` of the future), and for every waiter node `x`: `nxt x` (`awaiter::_next`) and `hnd x`
  (`_handle_addr/_resume_fn`); the first unordered access sets the sticky `raced`.

Plain accesses, per step (same granularity as `Chain.lean`: plain code up to and including the next synchronising operation):
* `rResolve`: the winner writes the payload (`future::set`; not for `drop` / `~promise`), then the resolving exchange
  (`resume_chain_set_ready`), then `resume_chain_lk`: for every node `y` of the detached chain read `y->_next`, write
  `y->_next = nullptr`, read handle / resume fn (`y->resume()`).  The node accesses are performed with the clock the walker has
  right after the exchange: the real walk is spread over the following `rRun` steps, but the walker's clock only grows, so the
  clock used here is the smallest one any of these accesses is really performed with — every race of the real placement is a race
  here.  (Nobody else touches a published node any more, so later conflicting accesses do not exist.)
* `rRun`: `flag.store(true)` of a blocking waiter; a resumed coroutine / invoked callback reads the payload ON THE WALKER'S THREAD
  (`Act.wake`), and `value()` with no value performs the relaxed `pending()` load.
* `wLoad`: the `ready()` load; not ready: the waiter initialises its node (writes `_next`, handle / resume fn: awaiter
  constructor, `set_handle` / `set_resume_fn`) — the sync-free segment between the `ready()` load and the first CAS.
* `wCas`: reads its own `_next` (the expected value), CAS; failure: the CAS writes the observed value into `_next`; refused
  (observed the ready marker): additionally `_next = nullptr` and the acquire fence (if `o.fence`).
* `wWait` / `wBlocked`: `flag.wait(false)`.   `wRead`: reads the payload, `value()` with no value: `pending()` load.

Memory orders are the parameter `o : ChainOrders` (one field per atomic site).

STALE READS — what is modelled.  RMWs (exchange, successful CAS, `claim`) read the modification-order-latest message.  The schedule
entry `(t, ch)` supplies the stale-read choice for the two loads whose value decides whether the payload is read:
* the `ready()` load (`wLoad`, the waiter's first operation, so every message is admissible): `ch = 0` reads the latest message,
  `ch ≥ 1` the `ch`-th newest OLDER message (clamped to the oldest); the value of an older message is the bit recorded with it
  (`Inv.oldNR` proves it is never the ready marker: the marker is written once, last), the waiter obtains that message's clock and
  goes on to the CAS — a base-state transition of `Chain.lean` too (the same load scheduled before the messages it missed);
* `flag.wait` (`wWait`): `ch ≥ 1` reads the initial `false` message (no clock) and blocks; `wBlocked` is enabled once the flag is set.
Read as latest, with the reason:
* the relaxed `pending()` load of `value()`: its value chooses between two exceptions, no access depends on it, and under
  sufficient orders the reader has the exchange in its happens-before past, so write-read coherence leaves only the marker;
* the `~promise` load of `_owner`: every writer of `_owner` is a member call on the same promise object, which the destructor is
  ordered after by the lifetime rule of `Chain.lean` (`resolversDone`); nothing depends on its clock either (`ownerRs` occurs in no
  invariant clause — that is the proof that `claim` / `~promise` may be relaxed);
* a FAILING `compare_exchange_weak` is treated as reading the latest message (as `Clock.lean` does for observer RMWs): a stale or
  spurious failure only makes the waiter retry with another expected value.
`base_latest` (ChainClockProofs): with all choices 0 the base component of a run IS `Chain.run` on the same schedule.

NOT modelled: the end of life of the awaiter objects (position obligations of `Props/C03.lean`), external synchronisation between
agents (thread start/join), `consume`, release fences, the seq_cst total order (seq_cst = acq_rel, weaker, sound).
-/

namespace Cocls.ChainClock
open Cocls
open Cocls.Clock (VC relVc acqVc tickIf)
open Cocls.Chain (Cfg Pc Act WK Kind RK Slot Seen Outcome)

/-- the memory orders written at the atomic sites of the protocol -/
structure ChainOrders where
  /-- `resume_chain_set_ready`: exchange on `_awaiter` -/
  resolve : Order
  /-- `subscribe_check_ready`: CAS on `_awaiter`, success order -/
  casSucc : Order
  /-- … failure order -/
  casFail : Order
  /-- `future_common::ready`: load of `_awaiter` -/
  ready : Order
  /-- an acquire fence follows the refused subscribe -/
  fence : Bool
  /-- `sync_awaiter::wakeup`: store of `flag` -/
  flagStore : Order
  /-- `co_awaiter::sync`: `flag.wait` -/
  flagWait : Order
  /-- `promise::claim`: exchange on `_owner` -/
  claim : Order
  /-- `~promise`: load of `_owner` -/
  dtorLoad : Order
  /-- `future_common::pending`: load of `_awaiter` -/
  pending : Order
  deriving DecidableEq, Repr, Inhabited

/-! ### FastTrack metadata of one non-atomic location -/

structure FT where
  wr : Nat × Nat
  rd : List (Nat × Nat)

def FT.init : FT := ⟨(0, 0), []⟩

def ordW (f : FT) (c : VC) : Bool := decide (f.wr.2 ≤ c f.wr.1)
def ordR (f : FT) (c : VC) : Bool := f.rd.all (fun e => decide (e.2 ≤ c e.1))
/-- a read by a thread with clock `c` races -/
def rdRace (f : FT) (c : VC) : Bool := !ordW f c
/-- a write by a thread with clock `c` races -/
def wrRace (f : FT) (c : VC) : Bool := !(ordW f c && ordR f c)
def FT.read (f : FT) (t : Nat) (c : VC) : FT := ⟨f.wr, (t, c t) :: f.rd⟩
def FT.write (_f : FT) (t : Nat) (c : VC) : FT := ⟨(t, c t), []⟩

/-! ### state -/

structure St where
  base : Chain.State
  clk : Nat → VC
  pend : Nat → VC
  slotRs : VC
  slotOld : List (Bool × VC)
  ownerRs : VC
  flagRs : Nat → VC
  pay : FT
  nxt : Nat → FT
  hnd : Nat → FT
  raced : Bool

def init (c : Cfg) : St :=
  { base := Chain.init c, clk := VC.init, pend := fun _ => VC.bot, slotRs := VC.bot, slotOld := [], ownerRs := VC.bot,
    flagRs := fun _ => VC.bot, pay := FT.init, nxt := fun _ => FT.init, hnd := fun _ => FT.init, raced := false }

def setBase (s : St) (b : Chain.State) : St := { s with base := b }

/-! ### atomic operations (happens-before effect only; what they observe is `Chain.astep`'s business) -/

/-- `claim()`: exchange on `_owner` -/
def hbClaim (o : ChainOrders) (s : St) (t : Nat) : St :=
  { s with
    clk := Clock.upd s.clk t (tickIf o.claim (acqVc o.claim (s.clk t) s.ownerRs) t)
    pend := Clock.upd s.pend t (VC.join (s.pend t) s.ownerRs)
    ownerRs := VC.join (relVc o.claim (acqVc o.claim (s.clk t) s.ownerRs)) s.ownerRs }

/-- `~promise`: load of `_owner` -/
def hbOwnerLoad (o : ChainOrders) (s : St) (t : Nat) : St :=
  { s with
    clk := Clock.upd s.clk t (acqVc o.dtorLoad (s.clk t) s.ownerRs)
    pend := Clock.upd s.pend t (VC.join (s.pend t) s.ownerRs) }

/-- `resume_chain_set_ready`: exchange on the slot -/
def hbXchg (o : ChainOrders) (s : St) (t : Nat) : St :=
  { s with
    clk := Clock.upd s.clk t (tickIf o.resolve (acqVc o.resolve (s.clk t) s.slotRs) t)
    pend := Clock.upd s.pend t (VC.join (s.pend t) s.slotRs)
    slotRs := VC.join (relVc o.resolve (acqVc o.resolve (s.clk t) s.slotRs)) s.slotRs
    slotOld := s.slotOld ++ [(decide (s.base.slot = Slot.ready), s.slotRs)] }

/-- successful subscribe CAS -/
def hbCasOk (o : ChainOrders) (s : St) (t : Nat) : St :=
  { s with
    clk := Clock.upd s.clk t (tickIf o.casSucc (acqVc o.casSucc (s.clk t) s.slotRs) t)
    pend := Clock.upd s.pend t (VC.join (s.pend t) s.slotRs)
    slotRs := VC.join (relVc o.casSucc (acqVc o.casSucc (s.clk t) s.slotRs)) s.slotRs
    slotOld := s.slotOld ++ [(decide (s.base.slot = Slot.ready), s.slotRs)] }

/-- failing subscribe CAS: a load with the failure order -/
def hbCasFail (o : ChainOrders) (s : St) (t : Nat) : St :=
  { s with
    clk := Clock.upd s.clk t (acqVc o.casFail (s.clk t) s.slotRs)
    pend := Clock.upd s.pend t (VC.join (s.pend t) s.slotRs) }

/-- `atomic_thread_fence(acquire)` after the refused subscribe, if the source has one -/
def hbFence (o : ChainOrders) (s : St) (t : Nat) : St :=
  if o.fence then { s with clk := Clock.upd s.clk t (VC.join (s.clk t) (s.pend t)) } else s

/-- the message a `ready()` load reads under stale-read choice `ch`: (is the ready marker, release-sequence clock) -/
def rdSlot (s : St) (ch : Nat) : Bool × VC :=
  if ch = 0 then (decide (s.base.slot = Slot.ready), s.slotRs)
  else s.slotOld.getD (s.slotOld.length - ch) (decide (s.base.slot = Slot.ready), s.slotRs)

/-- `ready()`: load of the slot -/
def hbLoadReady (o : ChainOrders) (s : St) (t ch : Nat) : St :=
  { s with
    clk := Clock.upd s.clk t (acqVc o.ready (s.clk t) (rdSlot s ch).2)
    pend := Clock.upd s.pend t (VC.join (s.pend t) (rdSlot s ch).2) }

/-- `pending()`: load of the slot -/
def hbPending (o : ChainOrders) (s : St) (t : Nat) : St :=
  { s with
    clk := Clock.upd s.clk t (acqVc o.pending (s.clk t) s.slotRs)
    pend := Clock.upd s.pend t (VC.join (s.pend t) s.slotRs) }

/-- `flag.store(true)` of waiter `x` by the walker `t` -/
def hbFlagStore (o : ChainOrders) (s : St) (t x : Nat) : St :=
  { s with
    flagRs := Clock.upd s.flagRs x (relVc o.flagStore (s.clk t))
    clk := Clock.upd s.clk t (tickIf o.flagStore (s.clk t) t) }

/-- `flag.wait(false)` returning: the waiter read the `true` message -/
def hbFlagAcq (o : ChainOrders) (s : St) (t : Nat) : St :=
  { s with
    clk := Clock.upd s.clk t (acqVc o.flagWait (s.clk t) (s.flagRs t))
    pend := Clock.upd s.pend t (VC.join (s.pend t) (s.flagRs t)) }

/-! ### plain accesses -/

def hbPayWrite (s : St) (t : Nat) : St :=
  { s with pay := s.pay.write t (s.clk t), raced := s.raced || wrRace s.pay (s.clk t) }

def hbPayRead (s : St) (t : Nat) : St :=
  { s with pay := s.pay.read t (s.clk t), raced := s.raced || rdRace s.pay (s.clk t) }

/-- the waiter sets its node up: `_next` (constructor) and handle / resume function (`set_handle`, `set_resume_fn`) -/
def hbNodeInit (s : St) (t : Nat) : St :=
  { s with
    nxt := Clock.upd s.nxt t ((s.nxt t).write t (s.clk t))
    hnd := Clock.upd s.hnd t ((s.hnd t).write t (s.clk t))
    raced := s.raced || (wrRace (s.nxt t) (s.clk t) || wrRace (s.hnd t) (s.clk t)) }

/-- the CAS reads its expected value from `_next` -/
def hbNxtRead (s : St) (t : Nat) : St :=
  { s with nxt := Clock.upd s.nxt t ((s.nxt t).read t (s.clk t)), raced := s.raced || rdRace (s.nxt t) (s.clk t) }

/-- a failed CAS stores the observed value into `_next`; the refused path then clears it -/
def hbNxtWrite (s : St) (t : Nat) : St :=
  { s with nxt := Clock.upd s.nxt t ((s.nxt t).write t (s.clk t)), raced := s.raced || wrRace (s.nxt t) (s.clk t) }

/-- `resume_chain_lk` over the detached chain `l`: per node read + write of `_next` (together: the write rule), read of the handle -/
def hbWalk (s : St) (t : Nat) (l : List Nat) : St :=
  { s with
    nxt := fun y => if y ∈ l then (s.nxt y).write t (s.clk t) else s.nxt y
    hnd := fun y => if y ∈ l then (s.hnd y).read t (s.clk t) else s.hnd y
    raced := s.raced || l.any (fun y => wrRace (s.nxt y) (s.clk t) || rdRace (s.hnd y) (s.clk t)) }

/-! ### steps -/

/-- the winner stores a payload (`future::set`): every resolving call but `drop` and `~promise` -/
def writesPayload (c : Cfg) (t : Nat) (dt : Bool) : Bool :=
  !dt && (match c.kind t with
    | Kind.res RK.drop => false
    | Kind.res _ => true
    | Kind.ddef _ => true
    | _ => false)

def hbResolve (o : ChainOrders) (c : Cfg) (s : St) (t : Nat) (dt : Bool) : St :=
  hbWalk (hbXchg o (if writesPayload c t dt then hbPayWrite s t else s) t) t (Chain.chainOf s.base.slot)

/-- the walker's actions up to and including its next synchronising operation (mirrors `Chain.runActs`) -/
def hbActs (o : ChainOrders) (c : Cfg) (t : Nat) : St → List Act → St
  | s, [] => s
  | s, Act.store x :: _ => hbFlagStore o s t x
  | s, Act.wake x :: rest =>
      if Chain.needsLoad s.base (Chain.wkOf c x) then hbPending o (hbPayRead s t) t
      else hbActs o c t (hbPayRead s t) rest
  | s, Act.obsAfter _ _ :: rest => hbActs o c t s rest

/-- `Chain.finishRun`: `~promise_with_default` goes on with the base `~promise` (load of `_owner`) -/
def hbFinish (o : ChainOrders) (c : Cfg) (s : St) (t : Nat) (dt : Bool) : St :=
  if dt then s
  else match c.kind t with
    | Kind.ddef _ => hbOwnerLoad o s t
    | _ => s

def hbRun (o : ChainOrders) (c : Cfg) (s : St) (t : Nat) (dt : Bool) (acts : List Act) : St :=
  if (Chain.runActs c t s.base acts).2.2.2 then hbActs o c t s acts
  else hbFinish o c (hbActs o c t s acts) t dt

def hbDtorEnter (o : ChainOrders) (c : Cfg) (s : St) (t : Nat) : St :=
  match c.kind t with
  | Kind.ddef _ => hbClaim o s t
  | _ => hbOwnerLoad o s t

def hbArrive (o : ChainOrders) (c : Cfg) (s : St) (t : Nat) : St :=
  if Chain.resolversDone c s.base then hbDtorEnter o c s t else s

/-- `ready()` load, message chosen by `ch` -/
def stepWLoad (o : ChainOrders) (s : St) (t ch : Nat) : St :=
  if (rdSlot s ch).1 then setBase (hbLoadReady o s t ch) (Chain.setPc s.base t Pc.wRead)
  else setBase (hbNodeInit (hbLoadReady o s t ch) t) (Chain.setPc s.base t (Pc.wCas Seen.null))

def hbCasRefused (o : ChainOrders) (s : St) (t : Nat) : St :=
  hbFence o (hbNxtWrite (hbNxtWrite (hbCasFail o (hbNxtRead s t) t) t) t) t

def hbCasRetry (o : ChainOrders) (s : St) (t : Nat) : St :=
  hbNxtWrite (hbCasFail o (hbNxtRead s t) t) t

def hbWCas (o : ChainOrders) (s : St) (t : Nat) (exp : Seen) : St :=
  match s.base.slot with
  | Slot.ready => hbCasRefused o s t
  | Slot.chain l => if (Slot.chain l).seen = exp then hbCasOk o (hbNxtRead s t) t else hbCasRetry o s t

/-- `flag.wait(false)`: `ch = 0` reads the latest message, otherwise the initial `false` -/
def stepWWait (o : ChainOrders) (c : Cfg) (s : St) (t ch : Nat) : St :=
  if ch = 0 then setBase (if s.base.flag t then hbFlagAcq o s t else s) (Chain.astep c s.base t).1
  else setBase s (Chain.setPc s.base t Pc.wBlocked)

def hbWRead (o : ChainOrders) (c : Cfg) (s : St) (t : Nat) : St :=
  if Chain.needsLoad s.base (Chain.wkOf c t) then hbPending o (hbPayRead s t) t else hbPayRead s t

/-- one micro-step of agent `t` with stale-read choice `ch` -/
def astepC (o : ChainOrders) (c : Cfg) (s : St) (t ch : Nat) : St :=
  match s.base.pc t with
  | Pc.done => s
  | Pc.rClaim => setBase (hbClaim o s t) (Chain.astep c s.base t).1
  | Pc.rFinLost => setBase s (Chain.astep c s.base t).1
  | Pc.rResolve dt => setBase (hbResolve o c s t dt) (Chain.astep c s.base t).1
  | Pc.rRun dt acts => setBase (hbRun o c s t dt acts) (Chain.astep c s.base t).1
  | Pc.dArrive => setBase (hbArrive o c s t) (Chain.astep c s.base t).1
  | Pc.dBlocked => setBase (hbDtorEnter o c s t) (Chain.astep c s.base t).1
  | Pc.dLoad => setBase (hbOwnerLoad o s t) (Chain.astep c s.base t).1
  | Pc.dFin => setBase s (Chain.astep c s.base t).1
  | Pc.wLoad => stepWLoad o s t ch
  | Pc.wCas exp => setBase (hbWCas o s t exp) (Chain.astep c s.base t).1
  | Pc.wFinParked => setBase s (Chain.astep c s.base t).1
  | Pc.wWait => stepWWait o c s t ch
  | Pc.wBlocked => setBase (hbFlagAcq o s t) (Chain.astep c s.base t).1
  | Pc.wRead => setBase (hbWRead o c s t) (Chain.astep c s.base t).1
  | Pc.wRead2 _ => setBase s (Chain.astep c s.base t).1

/-- one schedule entry `(agent, stale-read choice)`; an entry naming a disabled agent is a stutter (as in `Chain.run`) -/
def step (o : ChainOrders) (c : Cfg) (s : St) (e : Nat × Nat) : St :=
  if Chain.enabled c s.base e.1 then astepC o c s e.1 e.2 else s

def run (o : ChainOrders) (c : Cfg) (sched : List (Nat × Nat)) : St := sched.foldl (step o c) (init c)

/-- the decidable sufficient condition on the orders (for `by decide` on the extracted table): resolve exchange ⊇ release ∧ acquire;
subscribe CAS success ⊇ release; `ready()` ⊇ acquire; refused subscribe: acquire failure order OR an acquire fence; flag store ⊇
release; flag wait ⊇ acquire.  Nothing is asked of `claim`, the `~promise` load and `pending()`. -/
def ChainOrders.sufficient (o : ChainOrders) : Bool :=
  o.resolve.isRel && o.resolve.isAcq && o.casSucc.isRel && o.ready.isAcq && (o.casFail.isAcq || o.fence)
    && o.flagStore.isRel && o.flagWait.isAcq

end Cocls.ChainClock
