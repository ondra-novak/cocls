import CoclsModel.ThreadPool
/-!
Invariant of the thread-pool micro-step model.  It has three layers: what is known of one thread given its program
counter (`Local`), what is known of one entry of the job table (`JobInv`), and the facts about the pool's shared members
(`Inv`).  Apart from `Here`, which matches on the constructors of `Pc`, the invariant reads a program counter only through
the classifiers below, so a step of a thread between two concrete program counters of the same class carries the other
clauses of `Local` over unchanged (`{ h with }`), and a step names exactly the clauses it has to re-establish.  The proofs
use the invariant through the lemmas of `ThreadPoolFrames`.
-/
namespace Cocls.Pool

def Pc.isWorker : Pc → Bool
  | Pc.wRelock | Pc.wLoop | Pc.wCvEnter | Pc.wCvCheck | Pc.wCvBlocked | Pc.wRun _ | Pc.wFlush | Pc.wAfterJob | Pc.wExit | Pc.stuck => true
  | _ => false

/-- code of `worker()` itself that touches the pool object -/
def Pc.isLoop : Pc → Bool
  | Pc.wRelock | Pc.wLoop | Pc.wCvEnter | Pc.wCvCheck | Pc.wCvBlocked | Pc.wRun _ | Pc.wExit => true
  | _ => false

def Pc.isB : Pc → Bool
  | Pc.bLoop | Pc.bCvCheck | Pc.bCvBlocked | Pc.bExitPc => true
  | _ => false

def Pc.inStop : Pc → Bool
  | Pc.stopJoin | Pc.joinBlocked | Pc.stopDrop => true
  | _ => false

/-- while the thread executes an activity (script, job body, closure destructor) -/
def Pc.inBody : Pc → Bool
  | Pc.idle | Pc.enqCS _ | Pc.afterEnq _ _ | Pc.stopCS _ | Pc.peekCS _ | Pc.peekDone _ _ | Pc.waitFlag _ | Pc.bStopCS _ | Pc.bStopJoin | Pc.bJoinBlocked | Pc.stopJoin | Pc.joinBlocked | Pc.stopDrop => true
  | _ => false

def Pc.bodyPhase : Pc → Bool
  | Pc.idle | Pc.enqCS _ | Pc.afterEnq _ _ | Pc.stopCS _ | Pc.peekCS _ | Pc.peekDone _ _ | Pc.waitFlag _ | Pc.bStopCS _ | Pc.bStopJoin | Pc.bJoinBlocked | Pc.stopJoin | Pc.joinBlocked | Pc.stopDrop | Pc.wFlush => true
  | _ => false

def Pc.isDone : Pc → Bool
  | Pc.done => true
  | _ => false

/-- the job the thread is submitting, until `enqueue` has returned and the future is being watched -/
def Pc.sub : Pc → Option Nat
  | Pc.enqCS j | Pc.afterEnq j _ => some j
  | _ => none

/-- the job whose closure the submitting thread still owns (not enqueued, or refused) -/
def Pc.holds : Pc → Option Nat
  | Pc.enqCS j | Pc.afterEnq j false => some j
  | _ => none

/-- the job a worker has dequeued and not yet invoked -/
def Pc.runs : Pc → Option Nat
  | Pc.wRun j => some j
  | _ => none

def Pc.inCv : Pc → Bool
  | Pc.wCvCheck | Pc.wCvBlocked => true
  | _ => false

/-- the worker will look at the queue before it sleeps -/
def Pc.atHead : Pc → Bool
  | Pc.wLoop | Pc.wRelock => true
  | _ => false

def Pc.hasMx : Pc → Bool
  | Pc.wLoop | Pc.wCvEnter => true
  | _ => false

def Pc.joining : Pc → Bool
  | Pc.stopJoin | Pc.joinBlocked => true
  | _ => false

/-- pcs between which a thread moves without anything of the invariant depending on which one it is at -/
def Pc.plain : Pc → Bool
  | Pc.idle | Pc.stopCS _ | Pc.peekCS _ | Pc.peekDone _ _ | Pc.waitFlag _ | Pc.bStopCS _ => true
  | _ => false

theorem Pc.isDone_iff {p : Pc} : p.isDone = true ↔ p = Pc.done := by cases p <;> simp [Pc.isDone]

theorem Pc.inCv_iff {p : Pc} : p.inCv = true ↔ p = Pc.wCvCheck ∨ p = Pc.wCvBlocked := by cases p <;> simp [Pc.inCv]

theorem Pc.isWorker_of_inCv {p : Pc} (h : p.inCv = true) : p.isWorker = true := by cases p <;> first | rfl | cases h

theorem Pc.atHead_iff {p : Pc} : p.atHead = true ↔ p = Pc.wLoop ∨ p = Pc.wRelock := by cases p <;> simp [Pc.atHead]

theorem Pc.hasMx_iff {p : Pc} : p.hasMx = true ↔ p = Pc.wLoop ∨ p = Pc.wCvEnter := by cases p <;> simp [Pc.hasMx]

def Here (s : State) (t : Nat) : Pc → Prop
  | Pc.afterEnq _ false => s.exit = true
  | Pc.wCvEnter => s.q = [] ∧ s.exit = false
  | Pc.stopJoin | Pc.stopDrop | Pc.wExit => s.exit = true
  | Pc.joinBlocked => s.exit = true ∧ (s.tmp t).head? ≠ some t
  | Pc.bStopJoin => s.bExit = true
  | Pc.bJoinBlocked => s.bExit = true ∧ s.btmp t = true
  | Pc.stuck => False
  | _ => True

/-- `Here` reads `exit` and `bExit`, which never go back to `false`, the thread's own `tmp` / `btmp`, and the queue only
when the thread holds the mutex -/
theorem Here.frame {s s' : State} {t : Nat} {p : Pc} (h : Here s t p) (hx : s.exit = true → s'.exit = true)
    (hb : s.bExit = true → s'.bExit = true) (hq : p.hasMx = true → s'.q = s.q ∧ s'.exit = s.exit)
    (ht : s'.tmp t = s.tmp t) (hbt : s'.btmp t = s.btmp t) : Here s' t p := by
  cases p with
  | afterEnq j a => cases a <;> first | exact trivial | exact hx h
  | wCvEnter => obtain ⟨e1, e2⟩ := hq rfl; exact ⟨e1 ▸ h.1, e2 ▸ h.2⟩
  | stopJoin | stopDrop | wExit => exact hx h
  | joinBlocked => exact ⟨hx h.1, ht ▸ h.2⟩
  | bStopJoin => exact hb h
  | bJoinBlocked => exact ⟨hb h.1, hbt ▸ h.2⟩
  | stuck => exact h
  | _ => exact trivial

structure Local (c : Cfg) (s : State) (t : Nat) (p : Pc) : Prop where
  here : Here s t p
  t_out : c.nt ≤ t → p.isDone = true
  t_worker : p.isWorker = true → t < c.nw
  t_ret : s.ret t ≠ Ret.script → t < c.nw
  t_script : s.ret t = Ret.script → c.nw ≤ t
  t_noB : s.ret t ≠ Ret.dtorB
  l_held : ∀ j, p.runs = some j ↔ s.loc j = Loc.held t
  l_rej : ∀ j, p.holds = some j ↔ s.loc j = Loc.rejected t
  l_dqnd : (s.dq t).Nodup
  l_dqpc : s.dq t ≠ [] → p.inStop = true
  r_job : ∀ j, s.job t = some j → 0 < s.ran j
  -- a future is left pending only by a thread inside the body of its job
  r_body : ∀ j, s.job t = some j → hasFut (s.kind j) = true → s.fut j = Fut.pending → s.ret t = Ret.body ∧ p.inBody = true
  b_defnd : (s.defer t).Nodup
  b_defpc : s.defer t ≠ [] → s.ret t = Ret.body ∧ p.bodyPhase = true
  -- the future of a submission is watched by the submitter as soon as `enqueue` has returned
  f_own : ∀ j, p.sub = some j → j < s.nextJob ∧ s.owner j = t ∧ s.armed j = false
  f_arm : ∀ j, s.owner j = t → hasFut (s.kind j) = true → j < s.nextJob → s.armed j = false → p.sub = some j
  s_wq_pc : t ∈ s.waitq → p.inCv = true ∧ s.woken t = false
  s_woken : s.woken t = true → p.inCv = true
  s_cv : p.inCv = true → s.woken t = true ∨ t ∈ s.waitq
  a_mem : s.exit = false → (t ∈ s.awake ↔ (s.woken t = true ∨ p.atHead = true))
  -- only a worker at its loop head keeps the mutex across a step
  m_own : s.mx = some t ↔ p.hasMx = true
  n_noexit : s.exit = false → (t < c.nw → p.isDone = false) ∧ s.detached t = false
  s_tmp_pc : s.tmp t ≠ [] → p.joining = true
  s_tmp_w : ∀ u, u ∈ s.tmp t → u < c.nw
  j_all : s.exit = true → t < c.nw → p.isDone = true ∨ s.detached t = true ∨ ∃ u, t ∈ s.tmp u
  -- pool B: its worker is thread `nw`
  bb_pc : p.isB = true → c.hasB = true ∧ t = c.nw
  bb_w : c.hasB = true → t = c.nw → p.isB = true ∨ p.isDone = true
  bb_tmp : s.btmp t = true → c.hasB = true
  z_det : s.detached t = true → s.cur t = false ∧ p.isLoop = false
  z_cur : t < c.nw → s.cur t = false → s.detached t = true

structure JobInv (c : Cfg) (exit : Bool) (next j : Nat) (kd : Kind) (loc : Loc) (ran dropped cancelled lost valued : Nat)
    (armed : Bool) (deferOn ranOn : Option Nat) (fut : Fut) : Prop where
  l_fresh : loc = Loc.fresh ↔ next ≤ j
  c_once : ran + dropped = if loc = Loc.done then 1 else 0
  z_fresh : next ≤ j → cancelled = 0 ∧ lost = 0 ∧ valued = 0 ∧ armed = false ∧ deferOn = none ∧ fut = Fut.none
  r_on : 0 < ran → ∃ w, w < c.nw ∧ ranOn = some w
  x_drop_exit : 0 < dropped → exit = true
  -- what the destructions of the closure have shown, by its kind
  b_kind : match dropKind c kd with
    | DropAct.resume => cancelled + (if deferOn = none then 0 else 1) = dropped ∧ lost = 0
    | DropAct.guard => cancelled = dropped ∧ lost = 0 ∧ deferOn = none
    | DropAct.breakPromise => cancelled = (if armed = true then dropped else 0) ∧ lost = 0 ∧ deferOn = none
    | DropAct.nothing => cancelled = 0 ∧ lost = dropped ∧ deferOn = none
  f_broken : dropKind c kd = DropAct.breakPromise → dropped = if fut = Fut.broken then 1 else 0
  f_brk : fut = Fut.broken → dropKind c kd = DropAct.breakPromise
  f_some : hasFut kd = true → j < next → fut ≠ Fut.none
  f_valued : hasFut kd = true → valued = if armed = true ∧ fut = Fut.value then 1 else 0
  f_value : hasFut kd = true → fut = Fut.value → 0 < ran

/-- configurations the theorems are about: the repaired worker loop, at least one worker, workers are threads -/
structure WF (c : Cfg) : Prop where
  out : c.dtorOutside = true
  nw : 0 < c.nw
  nt : c.nw ≤ c.nt
  b : c.hasB = true → c.nw < c.nt
  cur : c.curNullOk = true
  aw : c.awHandleFirst = true

structure Inv (c : Cfg) (s : State) : Prop where
  wf : WF c
  th : ∀ t, Local c s t (s.pc t)
  jb : ∀ j, JobInv c s.exit s.nextJob j (s.kind j) (s.loc j) (s.ran j) (s.dropped j) (s.cancelled j) (s.lost j)
         (s.valued j) (s.armed j) (s.deferOn j) (s.ranOn j) (s.fut j)
  l_q : ∀ j, j ∈ s.q ↔ s.loc j = Loc.queued
  l_qnd : s.q.Nodup
  l_swap : ∀ t j, j ∈ s.dq t ↔ s.loc j = Loc.swapped t
  x_exit_q : s.exit = true → s.q = []
  b_defer : ∀ t j, j ∈ s.defer t ↔ s.deferOn j = some t
  f_pending : ∀ j, hasFut (s.kind j) = true → 0 < s.ran j → s.fut j = Fut.pending → ∃ t, s.job t = some j
  s_exit_wq : s.exit = true → s.waitq = []
  s_wqnd : s.waitq.Nodup
  -- no stranded job: while somebody sleeps un-notified, every queued job is matched by a worker that will look at the queue
  a_nd : s.exit = false → s.awake.Nodup
  a_len : s.exit = false → s.waitq ≠ [] → s.q.length ≤ s.awake.length
  -- stop(): one walker of the swapped-out thread list
  s_tmp_uniq : ∀ t u, s.tmp t ≠ [] → s.tmp u ≠ [] → t = u
  s_thr_tmp : s.threads ≠ [] → ∀ u, s.tmp u = []
  j_thr : s.exit = false → ∀ w, w < c.nw → w ∈ s.threads
  j_thr0 : s.exit = true → s.threads = []
  j_thrw : ∀ u, u ∈ s.threads → u < c.nw
  -- pool B: once it is stopped its worker is (being) woken
  bb_bw : s.bw = c.nw
  bb_exit : s.bExit = true → s.bWoken = true
  bb_ht : s.bHasThread = true → c.hasB = true
  -- `co_await pool(awaitable)`: once a resolution can wake the awaiter, it finds the coroutine handle
  a_handle : ∀ n, s.slotReg n = true → s.slotHandle n = true
  z_touch : s.touchedAfterDetach = false
  d_exit : s.destroyed = true → s.exit = true

end Cocls.Pool
